import ZenonVerif.Model.Num
import ZenonVerif.Model.Pow
import ZenonVerif.Model.Rpc
import ZenonVerif.Model.Consensus
import ZenonVerif.Props.C12
import ZenonVerif.Props.C12Reorg
import ZenonVerif.Props.C18
import ZenonVerif.Gen.RpcServer
import ZenonVerif.Model.JsonRpc
import ZenonVerif.Props.C18Rpc
import ZenonVerif.Model.Kv
import ZenonVerif.Model.Versioned
import ZenonVerif.Lemmas.Ascii
import ZenonVerif.Lemmas.Bytes
import ZenonVerif.Lemmas.Common
import ZenonVerif.Lemmas.KvLogic
import ZenonVerif.Lemmas.KvOrder
import ZenonVerif.Lemmas.LdbInv
import ZenonVerif.Lemmas.KvChanges
import ZenonVerif.Lemmas.ViewScan
import ZenonVerif.Props.C06
import ZenonVerif.Model.NodeCache
import ZenonVerif.Lemmas.NodeCache
import ZenonVerif.Props.C06Node
import ZenonVerif.Props.C07
import ZenonVerif.Model.Ledger
import ZenonVerif.Lemmas.LedgerBasic
import ZenonVerif.Lemmas.LedgerStep
import ZenonVerif.Lemmas.LedgerInv
import ZenonVerif.Lemmas.LedgerCons
import ZenonVerif.Lemmas.LedgerReach
import ZenonVerif.Lemmas.LedgerDemo
import ZenonVerif.Lemmas.LedgerFifo
import ZenonVerif.Lemmas.LedgerInbox
import ZenonVerif.Lemmas.LedgerTokenInbox
import ZenonVerif.Props.C01
import ZenonVerif.Props.C01Peer
import ZenonVerif.Props.C04
import ZenonVerif.Props.C09
import ZenonVerif.Model.Crash
import ZenonVerif.Props.C08
import ZenonVerif.Model.Journal
import ZenonVerif.Lemmas.Journal
import ZenonVerif.Props.C08Journal
import ZenonVerif.Gen.LdbWrites
import ZenonVerif.Props.C08Gen
import ZenonVerif.Lemmas.CrashRedeliver
import ZenonVerif.Props.C08Redeliver
import ZenonVerif.Model.Pool
import ZenonVerif.Lemmas.Pool
import ZenonVerif.Lemmas.PoolFilter
import ZenonVerif.Lemmas.PoolChain
import ZenonVerif.Model.PoolMulti
import ZenonVerif.Lemmas.PoolMulti
import ZenonVerif.Props.C14
import ZenonVerif.Props.C14Multi
import ZenonVerif.Model.Rewards
import ZenonVerif.Lemmas.Rewards
import ZenonVerif.Props.C11
import ZenonVerif.Model.EpochCursor
import ZenonVerif.Lemmas.EpochCursor
import ZenonVerif.Props.C11Node
import ZenonVerif.Props.C11NodeGen
import ZenonVerif.Model.Points
import ZenonVerif.Props.C11Points
import ZenonVerif.Lemmas.Consensus
import ZenonVerif.Props.C05
import ZenonVerif.Gen.ConsStore
import ZenonVerif.Model.ConsensusStore
import ZenonVerif.Lemmas.ConsensusStore
import ZenonVerif.Props.C05Store
import ZenonVerif.Props.C02
import ZenonVerif.Model.NodeSync
import ZenonVerif.Lemmas.NodeSync
import ZenonVerif.Props.C02Node
import ZenonVerif.Model.NodeReorg
import ZenonVerif.Lemmas.NodeReorg
import ZenonVerif.Props.C06Reorg
import ZenonVerif.Model.Spork
import ZenonVerif.Lemmas.Spork
import ZenonVerif.Props.C17
import ZenonVerif.Props.C17Table
import ZenonVerif.Model.Codec
import ZenonVerif.Model.CodecPB
import ZenonVerif.Model.CodecText
import ZenonVerif.Model.CodecRLP
import ZenonVerif.Props.C13
import ZenonVerif.Model.CodecJson
import ZenonVerif.Gen.JsonFields
import ZenonVerif.Lemmas.CodecJson
import ZenonVerif.Props.C13Json
import ZenonVerif.Model.Wallet
import ZenonVerif.Model.Genesis
import ZenonVerif.Props.C19
import ZenonVerif.Props.C20
import ZenonVerif.Gen.GenesisAmbient
import ZenonVerif.Props.C20Pure
import ZenonVerif.Gen.Verifier
import ZenonVerif.Gen.Translated
import ZenonVerif.Model.Verify
import ZenonVerif.Lemmas.Verify
import ZenonVerif.Props.C03
import ZenonVerif.Model.Proto
import ZenonVerif.Model.Sync
import ZenonVerif.Lemmas.Proto
import ZenonVerif.Lemmas.Sync
import ZenonVerif.Props.C15
import ZenonVerif.Model.Downloader
import ZenonVerif.Lemmas.Downloader
import ZenonVerif.Props.C15Sync
import ZenonVerif.Model.Fetcher
import ZenonVerif.Lemmas.Fetcher
import ZenonVerif.Props.C15Fetcher
import ZenonVerif.Model.Frame
import ZenonVerif.Lemmas.Frame
import ZenonVerif.Props.C15Frame
import ZenonVerif.Props.C16
import ZenonVerif.Props.C16Redelivery
import ZenonVerif.Model.Contracts
import ZenonVerif.Lemmas.ContractsSimp
import ZenonVerif.Lemmas.Contracts
import ZenonVerif.Props.C10
import ZenonVerif.Model.ContractsJoint
import ZenonVerif.Lemmas.ContractsJoint
import ZenonVerif.Props.C10Joint
import ZenonVerif.Props.C10LockConfig
import ZenonVerif.Props.C09Effect
import ZenonVerif.Model.AbiTy
import ZenonVerif.Model.Abi
import ZenonVerif.Lemmas.Abi
import ZenonVerif.Lemmas.AbiPack
import ZenonVerif.Props.C09Abi
import ZenonVerif.Model.LedgerNode
import ZenonVerif.Model.PeerDesc
import ZenonVerif.Lemmas.LedgerNode
import ZenonVerif.Props.C04Node
import ZenonVerif.Props.C01Node
import ZenonVerif.Gen.VdbCache
import ZenonVerif.Model.VersionedCache
import ZenonVerif.Lemmas.LdbCache
import ZenonVerif.Props.C07Cache
import ZenonVerif.Model.RewardEpoch
import ZenonVerif.Lemmas.RewardEpoch
import ZenonVerif.Gen.RewardsEpoch
import ZenonVerif.Props.C11Epoch
import ZenonVerif.Props.C11EpochGen
import ZenonVerif.Model.GoSem
import ZenonVerif.Lemmas.GoSem
import ZenonVerif.Props.Translated
import ZenonVerif.Gen.Accept
import ZenonVerif.Model.Accept
import ZenonVerif.Lemmas.Accept
import ZenonVerif.Props.C13Accept
import ZenonVerif.Model.CodecRLPTyped
import ZenonVerif.Props.C13Rlp
