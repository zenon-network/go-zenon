/-
L5b — consensus points: the statistics of an election period (`consensus/storage.Point`: per pillar the expected and
the produced momentums and the delegated weight) and their aggregation into the statistics of an epoch
(`Point.LeftAppend`, `compoundPoints.generatePointFromLower` in consensus/points.go). The epoch point is what
`PillarReader.EpochStats` reports and what the pillar contract splits the epoch's emission with (C11).

In the code the points are objects kept in an LRU cache (`storage.DB.pointCache`); the aggregation must treat the lower
points as VALUES — `LeftAppend` copies a `ProducerDetail` it takes over (`v.Copy()`) and only ever mutates details it
created itself. The model is that value semantics: `compound` is a function of the list of lower points, so the same
question has the same answer however often and in whatever order it is asked. The driver recomputes every fold the
harness performs on the real `Point` objects (twice on the same cached objects, and again after the cache is dropped).

Counters are `uint32` in the code; the model uses unbounded naturals (an epoch has 8640 momentums in production, the
stream stays far below 2^32).
-/
namespace ZV.Points

/-- `storage.ProducerDetail` -/
structure Detail where
  expected : Nat
  factual : Nat
  weight : Nat
  deriving DecidableEq, Repr

/-- `ProducerDetail.Merge` -/
def Detail.merge (d c : Detail) : Detail := ⟨d.expected + c.expected, d.factual + c.factual, d.weight + c.weight⟩

/-- `Point.Pillars` as an association list with unique keys (pillar names are numbered by the harness) -/
abbrev PMap := List (Nat × Detail)

/-- `storage.Point` without the two hashes (they only guard the adjacency of the points) -/
structure Point where
  pillars : PMap
  total : Nat
  deriving DecidableEq, Repr

def empty : Point := ⟨[], 0⟩

/-- one iteration of the loop of `LeftAppend`: merge into the entry of `k`, or take over a copy of `v` -/
def upsert : PMap → Nat → Detail → PMap
  | [], k, v => [(k, v)]
  | (k', d) :: rest, k, v => if k' = k then (k', d.merge v) :: rest else (k', d) :: upsert rest k v

/-- `p.LeftAppend(left)` -/
def leftAppend (p left : Point) : Point :=
  ⟨left.pillars.foldl (fun m e => upsert m e.1 e.2) p.pillars, p.total + left.total⟩

/-- `generatePointFromLower`: `lowers` are the lower points that have started, newest first; the weights are averaged
    over their number and the total weight is the sum of the averaged weights -/
def compound (lowers : List Point) : Point :=
  let r := lowers.foldl leftAppend empty
  let n := lowers.length
  let ps := r.pillars.map (fun e => (e.1, ({ e.2 with weight := e.2.weight / n } : Detail)))
  ⟨ps, (ps.map (fun e => e.2.weight)).sum⟩

/-! ### what an epoch point counts -/

def sumFactual (m : PMap) : Nat := (m.map (fun e => e.2.factual)).sum
def sumExpected (m : PMap) : Nat := (m.map (fun e => e.2.expected)).sum

/-! Both counters are projections `π` of a detail that `Merge` adds up and the weight averaging leaves alone. -/

theorem sum_upsert (π : Detail → Nat) (hπ : ∀ d c, π (d.merge c) = π d + π c) (m : PMap) (k : Nat) (v : Detail) :
    ((upsert m k v).map (fun e => π e.2)).sum = (m.map (fun e => π e.2)).sum + π v := by
  induction m with
  | nil => simp [upsert]
  | cons e rest ih =>
    unfold upsert
    split
    · simp only [List.map_cons, List.sum_cons, hπ]; omega
    · simp only [List.map_cons, List.sum_cons, ih]; omega

theorem sum_leftAppend (π : Detail → Nat) (hπ : ∀ d c, π (d.merge c) = π d + π c) (p l : Point) :
    ((leftAppend p l).pillars.map (fun e => π e.2)).sum =
      (p.pillars.map (fun e => π e.2)).sum + (l.pillars.map (fun e => π e.2)).sum := by
  unfold leftAppend
  generalize p.pillars = m
  induction l.pillars generalizing m with
  | nil => simp
  | cons e rest ih => simp only [List.foldl_cons, ih, sum_upsert π hπ, List.map_cons, List.sum_cons]; omega

theorem sum_fold (π : Detail → Nat) (hπ : ∀ d c, π (d.merge c) = π d + π c) (ls : List Point) (p : Point) :
    ((ls.foldl leftAppend p).pillars.map (fun e => π e.2)).sum =
      (p.pillars.map (fun e => π e.2)).sum + (ls.map (fun l => (l.pillars.map (fun e => π e.2)).sum)).sum := by
  induction ls generalizing p with
  | nil => simp
  | cons l rest ih => simp only [List.foldl_cons, ih, sum_leftAppend π hπ, List.map_cons, List.sum_cons]; omega

theorem compound_sum (π : Detail → Nat) (hπ : ∀ d c, π (d.merge c) = π d + π c)
    (hw : ∀ (d : Detail) w, π { d with weight := w } = π d) (ls : List Point) :
    ((compound ls).pillars.map (fun e => π e.2)).sum = (ls.map (fun l => (l.pillars.map (fun e => π e.2)).sum)).sum := by
  have h := sum_fold π hπ ls empty
  simp only [compound, List.map_map, Function.comp_def, hw]
  rw [h]
  simp [empty]

end ZV.Points
