import ZenonVerif.Lemmas.LedgerReach
/-
Node-level ledger with history: the list of confirmed momentums (each with the account-block events it confirmed and
the store it left behind), the unconfirmed pool (per account a stack of applied-but-unconfirmed events on top of the
confirmed chain) and the STORED contract inboxes (front / back counters + entries), as far as C01 / C04 need them.

Stands for
  chain/momentum_pool.go   AddMomentumTransaction (push one version), RollbackTo (pop versions one by one, each pop
                           broadcasts DeleteMomentum)
  chain/account_pool.go    addAccountBlockTransaction (fast-forward insert / roll back to `previous` and insert),
                           InsertMomentum -> rebuild, DeleteMomentum (managers := empty map), restart (the pool lives in
                           memory only: `managers` is rebuilt empty by newAccountPool; the confirmed state is the ledger DB)
  chain/momentum/ledger_store.go AddAccountBlockTransaction (apply the account patch; per send: MarkAsUnreceived +
                           SequencerPushBack for an embedded addressee; per receive: marker bookkeeping)
  chain/account/sequencer.go + chain/account/mailbox/mailbox.go  sequencerFrontIndex (account key 7), SequencerPopFront,
                           SequencerFront, SequencerSize (mailbox key 7), SequencerPushBack, SequencerByHeight (prefix 8)
  verifier/account_block.go fromHash (the send must be a CONFIRMED block of the momentum store), sequencer
                           (block.FromBlockHash = SequencerFront)

The ledger seen at a point is a fold of the `Ledger` step functions (`Ledger.step`, module Lemmas/LedgerStep, core only)
over events. Where the Go code re-applies stored patches (momentum insertion merges the patches of pooled blocks, pool
rebuild re-applies the patches of the blocks that still link) the model RE-VERIFIES the events on the new state and drops /
refuses what does not verify; that both give the same pool and the same stores is what the `ledger-node` stream compares
after every operation (pool contents per account, balances, markers, counters).
A pooled block is verified against the FRONTIER confirmed state: the Go verifier reads the confirmed state as of the block's
`MomentumAcknowledged`; the blocks of the stream acknowledge the frontier momentum (what a node's own blocks do).
A store version is kept per momentum, as the versioned ledger DB does (C06 / C07 are about that DB): rollback pops versions.
-/
namespace ZV.LedgerNode
open ZV.Ledger

/-- stored inbox of one embedded contract -/
structure SeqC where
  back : Nat            -- mailbox key 7 (`SequencerSize`): number of entries ever pushed
  entries : List Hash   -- mailbox prefix 8: entry at height i (1-based) = entries[i-1]
  front : Nat           -- account-store key 7 (`sequencerFrontIndex`): number of entries received so far
  deriving DecidableEq, Repr

def SeqC.empty : SeqC := ⟨0, [], 0⟩

/-- `SequencerPushBack`: total := size + 1; put size key; put header under height `total` -/
def SeqC.pushBack (q : SeqC) (h : Hash) : SeqC := { q with back := q.back + 1, entries := q.entries ++ [h] }

/-- `SequencerPopFront`: last := front index; put last + 1 -/
def SeqC.popFront (q : SeqC) : SeqC := { q with front := q.front + 1 }

/-- `SequencerFront`: nil when last = total, else the entry at height last + 1 -/
def SeqC.frontEntry (q : SeqC) : Option Hash := if q.front = q.back then none else q.entries[q.front]?

/-- one version of the ledger database: the abstract ledger + the stored inbox counters -/
structure Store where
  led : State
  seq : Addr → SeqC

def upd (q : Addr → SeqC) (c : Addr) (v : SeqC) : Addr → SeqC := fun a => if a = c then v else q a

/-- confirmation of sends: `SequencerPushBack` for every send addressed to an embedded contract, in content order -/
def seqPush (q : Addr → SeqC) : List Send → Addr → SeqC
  | [] => q
  | x :: r => seqPush (if isEmbedded x.dst then upd q x.dst ((q x.dst).pushBack x.hash) else q) r

/-- a contract receive pops the front (part of the account patch the VM produces: pool and confirmed state alike) -/
def seqPop (q : Addr → SeqC) : Ev → Addr → SeqC
  | .crecv c _ _ _ => upd q c (q c).popFront
  | _ => q

/-- the account whose chain the block extends -/
def acct : Ev → Addr
  | .usend src _ _ _ _ _ => src
  | .urecv a _ => a
  | .crecv c _ _ _ => c

inductive NErr where
  | notFresh                 -- a hash of the block is already the hash of a known send (never on a real chain)
  | ledger (e : Err)         -- refused by the ledger step function (verifier + VM)
  | fromUnconfirmed          -- the send named by a receive is not a confirmed block
  | seqFront                 -- a contract receive does not answer the stored front entry of the inbox
  | badHeight
  | badContent
  deriving DecidableEq, Repr

/-- confirmation of one account block by a momentum: the account patch + the bookkeeping of `AddAccountBlockTransaction` -/
def confirmEv (st : Store) (e : Ev) : Except NErr Store :=
  if Admissible st.led e then
    match step st.led e with
    | .error err => .error (.ledger err)
    | .ok led' => .ok ⟨led', seqPush (seqPop st.seq e) e.newSends⟩
  else .error .notFresh

def confirmAll (st : Store) : List Ev → Except NErr Store
  | [] => .ok st
  | e :: es =>
    match confirmEv st e with
    | .error err => .error err
    | .ok st' => confirmAll st' es

/-- what the verifier reads from the MOMENTUM store (confirmed state `b`) and from the stored inbox when it checks a pooled
    receive: `fromHash` looks the send up among confirmed blocks, `sequencer` compares with `SequencerFront`
    (front index of the pool view `v`, entries of the confirmed mailbox — the pool never pushes, so `v.seq` has them) -/
def poolCheck (b v : Store) : Ev → Except NErr Unit
  | .usend .. => .ok ()
  | .urecv _ h => if (findSend b.led.sends h).isSome then .ok () else .error .fromUnconfirmed
  | .crecv c h _ _ =>
    if (findSend b.led.sends h).isSome then
      if (v.seq c).frontEntry = some h then .ok () else .error .seqFront
    else .error .fromUnconfirmed

/-- application of one block on the pool view: verification + VM; sends do NOT enter an inbox before confirmation -/
def poolEv (b v : Store) (e : Ev) : Except NErr Store :=
  match poolCheck b v e with
  | .error err => .error err
  | .ok () =>
    if Admissible v.led e then
      match step v.led e with
      | .error err => .error (.ledger err)
      | .ok led' => .ok ⟨led', seqPop v.seq e⟩
    else .error .notFresh

def poolAll (b v : Store) : List Ev → Except NErr Store
  | [] => .ok v
  | e :: es =>
    match poolEv b v e with
    | .error err => .error err
    | .ok v' => poolAll b v' es

/-- the unconfirmed pool: per account (`accountPool.managers`) the blocks above the confirmed frontier, oldest first -/
abbrev Pool := List (Addr × List Ev)

/-- all pooled blocks applied on the confirmed state, account after account -/
def poolRun (b : Store) : Store → Pool → Except NErr Store
  | v, [] => .ok v
  | v, (_, evs) :: rest =>
    match poolAll b v evs with
    | .error err => .error err
    | .ok v' => poolRun b v' rest

/-- `accountPool.rebuild`: re-apply every account's pooled blocks on the (new) confirmed state; an account whose blocks
    do not apply any more is dropped as a whole (`continue addresses`), the others are kept -/
def rebuild (b : Store) : Store → Pool → Pool × Store
  | v, [] => ([], v)
  | v, (a, evs) :: rest =>
    match poolAll b v evs with
    | .ok v' => let r := rebuild b v' rest; ((a, evs) :: r.1, r.2)
    | .error _ => rebuild b v rest

def getPool (p : Pool) (a : Addr) : List Ev :=
  match p.find? (fun x => x.1 == a) with
  | some x => x.2
  | none => []

structure Node where
  gen : Store                          -- the genesis version of the ledger DB
  chain : List (List Ev × Store)       -- confirmed momentums above genesis, NEWEST first: content + the version it left
  pool : Pool

def Node.genesis (g : Store) : Node := ⟨g, [], []⟩

def topStore (g : Store) : List (List Ev × Store) → Store
  | [] => g
  | (_, st) :: _ => st

/-- `GetFrontierMomentumStore` -/
def Node.frontier (n : Node) : Store := topStore n.gen n.chain

/-- contents of the confirmed momentums, oldest first -/
def Node.moms (n : Node) : List (List Ev) := (n.chain.map (·.1)).reverse

/-- the ledger seen through the pool (frontier account stores of all accounts over the confirmed state) -/
def Node.poolView (n : Node) : Store := (rebuild n.frontier n.frontier n.pool).2

/-- `addAccountBlockTransaction`: the block is put at pool height `k` of its account — `k` = number of pooled blocks of
    the account is the fast-forward insert, a smaller `k` is the replacement path (`manager.Pop` down to `previous`, then
    `Add`): the pooled block at that height and everything built on it in that account are displaced. Pooled receives of
    OTHER accounts never depend on a displaced block: a receive is accepted only for a CONFIRMED send (`poolCheck`). -/
def Node.putBlock (n : Node) (k : Nat) (e : Ev) : Except NErr Node :=
  let a := acct e
  let old := getPool n.pool a
  if old.length < k then .error .badHeight
  else
    let r := rebuild n.frontier n.frontier (n.pool.filter (fun x => x.1 != a))
    match poolAll n.frontier r.2 (old.take k ++ [e]) with
    | .error err => .error err
    | .ok _ => .ok { n with pool := r.1 ++ [(a, old.take k ++ [e])] }

def contentCount (content : List (Addr × Nat)) (a : Addr) : Nat :=
  match content.find? (fun x => x.1 == a) with
  | some x => x.2
  | none => 0

/-- the account blocks a momentum with this content confirms: per listed account the first `k` pooled blocks
    (`rawMomentumVerifier.content`: a gap-free chain from the confirmed frontier; `applyMomentum` takes the patches from
    the pool), in content order -/
def contentEvents (p : Pool) (content : List (Addr × Nat)) : List Ev :=
  (content.map (fun x => (getPool p x.1).take x.2)).flatten

/-- `AddMomentumTransaction` + the pool's `InsertMomentum` listener -/
def Node.insertMomentum (n : Node) (content : List (Addr × Nat)) : Except NErr Node :=
  if content.any (fun x => (getPool n.pool x.1).length < x.2) then .error .badContent
  else
    let evs := contentEvents n.pool content
    match confirmAll n.frontier evs with
    | .error err => .error err
    | .ok st =>
      let rest := (n.pool.map (fun x => (x.1, x.2.drop (contentCount content x.1)))).filter (fun x => !x.2.isEmpty)
      .ok { n with chain := (evs, st) :: n.chain, pool := (rebuild st st rest).1 }

/-- `RollbackTo` the momentum `h` levels above genesis: pops versions; every popped momentum broadcasts `DeleteMomentum`,
    which empties the pool (nothing is popped, and the pool kept, when `h` is the frontier) -/
def Node.rollbackTo (n : Node) (h : Nat) : Node :=
  if h < n.chain.length then { n with chain := n.chain.drop (n.chain.length - h), pool := [] } else n

/-- close + reopen: the confirmed state is the database, the pool is memory -/
def Node.restart (n : Node) : Node := { n with pool := [] }

inductive Op where
  | put (k : Nat) (e : Ev)
  | insertMomentum (content : List (Addr × Nat))
  | rollbackTo (h : Nat)
  | restart

/-- a refused operation leaves the node as it is -/
def Node.apply (n : Node) : Op → Node
  | .put k e => match n.putBlock k e with | .ok n' => n' | .error _ => n
  | .insertMomentum c => match n.insertMomentum c with | .ok n' => n' | .error _ => n
  | .rollbackTo h => n.rollbackTo h
  | .restart => n.restart

def Node.run (n : Node) : List Op → Node
  | [] => n
  | o :: os => (n.apply o).run os

/-- replay of momentum contents from a store -/
def replay (st : Store) : List (List Ev) → Except NErr Store
  | [] => .ok st
  | m :: ms =>
    match confirmAll st m with
    | .error err => .error err
    | .ok st' => replay st' ms

end ZV.LedgerNode
