import ZenonVerif.Gen.Rewards
import ZenonVerif.Gen.RewardsNode
/-
L5 (part) — the epoch cursor shared by the reward contracts, and the reward deposits. Core Lean only.

Stands for vm/embedded/implementation:
  common.go    CanPerformUpdate / checkAndPerformUpdate (at most one Update every UpdateMinNumMomentums momentums),
               CanPerformEpochUpdate / checkAndPerformUpdateEpoch (the cursor `LastEpochUpdate.LastEpoch`, −1 initially,
               advanced by exactly one when the next epoch has ended `RewardTimeLimit` seconds before the frontier momentum),
               addReward (RewardDeposit), CollectRewardMethod.ReceiveBlock
  pillars.go   updatePillarRewards      ┐
  stake.go     updateStakeRewards       ├ `for { advance-or-return; reward the epoch the cursor now names }`
  sentinel.go  updateSentinelRewards    ┘
  liquidity.go updateLiquidityRewards (origin and accelerator tables): the same loop, with the `len(result) >=
               MaxEpochsPerUpdate` test evaluated AFTER `checkAndPerformUpdateEpoch` has already advanced and saved the cursor
               updateLiquidityStakeRewards (bridge&liquidity spork onwards): one step, no loop

The amounts credited per epoch are not computed here (Model/Rewards.lean does the arithmetic); this module is about
which epochs are rewarded, when, how often, and what a deposit can be turned into.

Time is unix seconds as `Int` (Go: `time.Time.Unix()`, int64; the ticker multiplies a `time.Duration` by the epoch number,
which stays in range for 292 years of epochs — not modelled). `uint64(LastEpoch + 1)` is the identity because the cursor
never drops below −1 (theorem `cursor_ge_neg_one`).
-/
namespace ZV.EpochCursor

/-- the chain/configuration parameters the cursor depends on -/
structure Cfg where
  /-- timestamp of the genesis momentum = start of epoch 0 (`consensus.NewConsensus`: `common.NewTicker(genesis, EpochDuration)`) -/
  genesis   : Int
  /-- `consensus.EpochDuration` in seconds -/
  epochSec  : Int
  /-- `constants.RewardTimeLimit` -/
  rtl       : Int
  /-- `constants.UpdateMinNumMomentums` -/
  updMin    : Nat
  /-- `constants.MaxEpochsPerUpdate` — compared with a number of *blocks* (two per epoch) in `updateLiquidityRewards` -/
  maxBlocks : Nat
  /-- a ticker with a non-positive interval does not exist in a running node (`ToTick` divides by it) -/
  epochSec_pos : 0 < epochSec

/-- the live configuration: every parameter is a generated constant of the tree -/
def Cfg.live (genesis : Int) : Cfg :=
  ⟨genesis, Gen.EpochDurationSec, Gen.RewardTimeLimit, Gen.UpdateMinNumMomentums, Gen.MaxEpochsPerUpdate, by decide⟩

/-- second component of `EpochTicker().ToTime(e)`: the (exclusive) end of epoch `e` -/
def epochEnd (c : Cfg) (e : Int) : Int := c.genesis + c.epochSec * (e + 1)

/-- `CanPerformEpochUpdate` for the epoch after `cursor` at a frontier momentum with timestamp `ts`:
    `frontier.Unix() < end(cursor+1) + RewardTimeLimit → ErrEpochUpdateTooRecent` -/
def tooRecent (c : Cfg) (cursor ts : Int) : Bool := decide (ts < epochEnd c (cursor + 1) + c.rtl)

/-- `checkAndPerformUpdateEpoch`: `none` = ErrEpochUpdateTooRecent, `some cursor'` = the cursor was advanced (and saved) -/
def checkAndPerformUpdateEpoch (c : Cfg) (cursor ts : Int) : Option Int :=
  if tooRecent c cursor ts then none else some (cursor + 1)

/-- well-founded measure of the catch-up loops: seconds by which the next epoch is overdue, plus one epoch -/
def overdue (c : Cfg) (cursor ts : Int) : Nat := (ts - c.rtl - epochEnd c (cursor + 1) + c.epochSec).toNat

theorem overdue_decreases (c : Cfg) (cursor ts : Int) (h : tooRecent c cursor ts = false) :
    overdue c (cursor + 1) ts < overdue c cursor ts := by
  have hp := c.epochSec_pos
  simp only [tooRecent, decide_eq_false_iff_not, Int.not_lt, epochEnd, Int.mul_add] at h
  simp only [overdue, epochEnd, Int.mul_add]
  omega

/-- `updatePillarRewards` / `updateStakeRewards` / `updateSentinelRewards`:
    `for { if checkAndPerformUpdateEpoch = TooRecent { return }; compute…RewardsForEpoch(LastEpoch) }`.
    Result: (final cursor, epochs rewarded in order). -/
def catchUp (c : Cfg) (ts : Int) (cursor : Int) : Int × List Int :=
  if h : tooRecent c cursor ts then (cursor, [])
  else
    let r := catchUp c ts (cursor + 1)
    (r.1, (cursor + 1) :: r.2)
termination_by overdue c cursor ts
decreasing_by exact overdue_decreases c cursor ts (by simpa using h)

/-- `updateLiquidityRewards` (origin table): `blocks` = `len(result)` so far; every rewarded epoch appends two mint blocks.
    The condition `err == ErrEpochUpdateTooRecent || len(result) >= MaxEpochsPerUpdate` is tested after
    `checkAndPerformUpdateEpoch` ran: when the cap stops the loop the cursor has already moved to an epoch that gets nothing. -/
def liqOrigin (c : Cfg) (ts : Int) (cursor : Int) (blocks : Nat) : Int × List Int :=
  if h : tooRecent c cursor ts then (cursor, [])
  else if c.maxBlocks ≤ blocks then (cursor + 1, [])
  else
    let r := liqOrigin c ts (cursor + 1) (blocks + 2)
    (r.1, (cursor + 1) :: r.2)
termination_by overdue c cursor ts
decreasing_by exact overdue_decreases c cursor ts (by simpa using h)

/-- `updateLiquidityStakeRewards` (bridge&liquidity spork onwards): at most one epoch per call -/
def liqOne (c : Cfg) (ts : Int) (cursor : Int) : Int × List Int :=
  match checkAndPerformUpdateEpoch c cursor ts with
  | none => (cursor, [])
  | some cur => (cur, [cur])

/-- which `update*Rewards` a contract runs -/
inductive Variant where
  | loop        -- pillar, stake, sentinel
  | liqOrigin   -- liquidity before the bridge&liquidity spork
  | liqOne      -- liquidity from the bridge&liquidity spork
  deriving DecidableEq, Repr

def advance (c : Cfg) (v : Variant) (ts cursor : Int) : Int × List Int :=
  match v with
  | .loop => catchUp c ts cursor
  | .liqOrigin => liqOrigin c ts cursor 0
  | .liqOne => liqOne c ts cursor

abbrev Addr := String

/-- (znn, qsr) of a `RewardDeposit`; ABI type uint256, never negative -/
structure Coins where
  znn : Nat
  qsr : Nat
  deriving DecidableEq, Repr

instance : Add Coins := ⟨fun a b => ⟨a.znn + b.znn, a.qsr + b.qsr⟩⟩
def Coins.zero : Coins := ⟨0, 0⟩

/-- the reward-related storage of one contract -/
structure CState where
  /-- `LastEpochUpdate.LastEpoch` (−1 when the key is absent) -/
  cursor     : Int
  /-- `LastUpdateVariable.Height` (0 when absent) -/
  lastUpdate : Nat
  /-- `RewardDeposit` per address (zero when absent) -/
  dep        : Addr → Coins

def CState.init : CState := ⟨-1, 0, fun _ => Coins.zero⟩

/-- `Update` of a reward contract received with frontier momentum (height, ts):
    `checkAndPerformUpdate` (`lastUpdate + UpdateMinNumMomentums <= height`, else ErrUpdateTooRecent = `none`: the VM
    resets every change), then the contract's `update*Rewards`. Result: new state and the epochs rewarded, in order. -/
def update (c : Cfg) (v : Variant) (s : CState) (height : Nat) (ts : Int) : Option (CState × List Int) :=
  if s.lastUpdate + c.updMin ≤ height then
    let r := advance c v ts s.cursor
    some ({ s with cursor := r.1, lastUpdate := height }, r.2)
  else none

/-- `addReward`: the deposit of `a` grows by `x` -/
def credit (s : CState) (a : Addr) (x : Coins) : CState :=
  { s with dep := fun b => if b = a then s.dep a + x else s.dep b }

/-- a mint request to the token contract: (is QSR, amount, beneficiary) -/
structure Mint where
  qsr    : Bool
  amount : Nat
  to     : Addr
  deriving DecidableEq, Repr

/-- `CollectRewardMethod.ReceiveBlock` for caller `a`: `none` = ErrNothingToWithdraw; otherwise one mint request per
    coin with a positive deposit, for exactly the deposit, and the deposit entry is deleted. -/
def collect (s : CState) (a : Addr) : Option (List Mint × CState) :=
  let d := s.dep a
  if d.znn = 0 ∧ d.qsr = 0 then none
  else
    let mz := if 0 < d.znn then [Mint.mk false d.znn a] else []
    let mq := if 0 < d.qsr then [Mint.mk true d.qsr a] else []
    some (mz ++ mq, { s with dep := fun b => if b = a then Coins.zero else s.dep b })

/-- what a list of mint requests pays to `a` -/
def paid (ms : List Mint) (a : Addr) : Coins :=
  ms.foldl (fun acc m => if m.to = a then (if m.qsr then ⟨acc.znn, acc.qsr + m.amount⟩ else ⟨acc.znn + m.amount, acc.qsr⟩) else acc) Coins.zero

/-! ### traces: what can happen to one contract -/

/-- one received call -/
inductive Op where
  | update (height : Nat) (ts : Int)
  | credit (a : Addr) (x : Coins)     -- issued by the reward computation of an epoch
  | collect (a : Addr)

/-- observable outcome of a call -/
inductive Out where
  | rewarded (epochs : List Int)
  | refused
  | credited
  | minted (ms : List Mint)

def step (c : Cfg) (v : Variant) (s : CState) : Op → CState × Out
  | .update h ts =>
    match update c v s h ts with
    | some (s', es) => (s', .rewarded es)
    | none => (s, .refused)
  | .credit a x => (credit s a x, .credited)
  | .collect a =>
    match collect s a with
    | some (ms, s') => (s', .minted ms)
    | none => (s, .refused)

def run (c : Cfg) (v : Variant) (s : CState) : List Op → CState × List Out
  | [] => (s, [])
  | o :: os =>
    let r := step c v s o
    let rest := run c v r.1 os
    (rest.1, r.2 :: rest.2)

/-- all epochs rewarded along a trace, in order -/
def rewardedOf : List Out → List Int
  | [] => []
  | .rewarded es :: os => es ++ rewardedOf os
  | _ :: os => rewardedOf os

/-- everything minted to `a` along a trace -/
def mintedOf (a : Addr) : List Out → Coins
  | [] => Coins.zero
  | .minted ms :: os => paid ms a + mintedOf a os
  | _ :: os => mintedOf a os

/-- everything credited to `a` along a list of calls -/
def creditedOf (a : Addr) : List Op → Coins
  | [] => Coins.zero
  | .credit b x :: os => (if b = a then x else Coins.zero) + creditedOf a os
  | _ :: os => creditedOf a os

end ZV.EpochCursor
