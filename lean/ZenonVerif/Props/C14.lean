import ZenonVerif.Lemmas.Pool
import ZenonVerif.Lemmas.PoolFilter
import ZenonVerif.Lemmas.PoolChain
import ZenonVerif.Gen.Subscribe
/-
C14 — the unconfirmed pool of one address: the competition rule (T3), `filterBlocksToCommit` (T5), the pool as a state
machine over `Reachable` (T1, T2, T4), the lock discipline of `accountPool` (P). Section S is about another package,
rpc/api/subscribe: the confinement of its subscription table to one goroutine is the same kind of fact as P, read off
regenerated tables, and was filed under this property.
-/
namespace ZV.C14
open ZV ZV.Pool

/-! ### T3 — the competition rule `higherPriority` -/

/-- with the regenerated constants every accepted block's plasma fields are below 2^32, so the uint64 products of
    `higherPriority` never wrap -/
theorem bounded_small (a : Blk) (h : Bounded a) : Small a := by
  unfold Bounded at h
  unfold Small
  simp only [Gen.MaxPlasmaForAccountBlock, Gen.AccountBlockBasePlasma, Gen.ABByteDataPlasma, Gen.MaxDataLength,
    Gen.PT_EmbeddedSimple, Gen.PT_EmbeddedWWithdraw, Gen.PT_EmbeddedWDoubleWithdraw, two32] at *
  omega

/-- T3 `priority_total_antisymmetric`: for ALL uint64 plasma values (even when the products wrap), two blocks
    with distinct hashes are strictly ordered: exactly one of `higherPriority a b`, `higherPriority b a` succeeds. -/
theorem priority_total_antisymmetric (a b : Blk) (h : a.hash ≠ b.hash) :
    (higherPriority a b = .ok ∧ higherPriority b a ≠ .ok) ∨
    (higherPriority a b ≠ .ok ∧ higherPriority b a = .ok) := by
  -- the two products compare one way or are equal; when equal, the hashes (distinct, so ordered one way) decide
  simp only [ne_eq, hp_ok_iff]
  generalize prodL a b = x
  generalize prodL b a = y
  rcases (bytesLt_total a.hash b.hash).imp_right (·.resolve_left h) with hl | hl <;> have hn := bytesLt_asymm hl <;>
    simp only [hl, hn, Bool.false_eq_true, and_false, and_true, or_false] <;> omega

/-- antisymmetry needs no hypothesis at all -/
theorem priority_antisymm (a b : Blk) (h : higherPriority a b = .ok) : higherPriority b a ≠ .ok := by
  simp only [ne_eq, hp_ok_iff] at h ⊢
  rintro (h2 | ⟨h2, h3⟩)
  · omega
  · rcases h with h | ⟨_, h⟩
    · omega
    · rw [bytesLt_asymm h] at h3; cases h3

/-- irreflexive; more generally a block never displaces a block with the same hash and the same plasma fields
    (the plasma fields are not covered by the hash; for user blocks they are recomputed from hashed fields, so an
    equal hash means equal plasma) -/
theorem priority_irrefl (a b : Blk) (h : a.hash = b.hash) (ht : a.total = b.total) (hb : a.base = b.base) :
    higherPriority a b = .hashTieBreak := by
  unfold higherPriority
  simp [h, ht, hb, bytesLt_irrefl]

/-- the rule as the statement words it — "higher plasma ratio, then smaller hash" — for the plasma values accepted
    blocks carry; ratios are compared by cross-multiplication over unbounded naturals -/
theorem priority_spec (a b : Blk) (ha : Bounded a) (hb : Bounded b) :
    higherPriority a b = .ok ↔
      b.total * a.base < a.total * b.base ∨
      (b.total * a.base = a.total * b.base ∧ bytesLt a.hash b.hash = true) := by
  rw [hp_ok_small a b (bounded_small a ha) (bounded_small b hb)]
  unfold geR
  constructor
  · rintro (h | ⟨h1, h2, h3⟩)
    · left; omega
    · right; exact ⟨by omega, h3⟩
  · rintro (h | ⟨h1, h3⟩)
    · left; omega
    · right; exact ⟨by omega, by omega, h3⟩

/-- transitivity, when no product wraps and none of the three blocks has TotalPlasma = BasePlasma = 0
    (user blocks: BasePlasma ≥ 21000) -/
theorem priority_trans (a b c : Blk) (ha : Small a) (hb : Small b) (hc : Small c)
    (za : NZ a) (zb : NZ b) (zc : NZ c)
    (h1 : higherPriority a b = .ok) (h2 : higherPriority b c = .ok) : higherPriority a c = .ok := by
  rw [hp_ok_small _ _ ha hb] at h1
  rw [hp_ok_small _ _ hb hc] at h2
  rw [hp_ok_small _ _ ha hc]
  rcases h1 with h1 | ⟨h1a, h1b, h1c⟩
  · -- a strictly above b
    have hbc : geR b c := by
      rcases h2 with h2 | ⟨h2, _, _⟩
      · exact (geR_total b c).resolve_right h2
      · exact h2
    left; intro hca
    exact h1 (geR_trans b c a zc hbc hca)
  · rcases h2 with h2 | ⟨h2a, h2b, h2c⟩
    · left; intro hca
      exact h2 (geR_trans c a b za hca h1a)
    · right
      exact ⟨geR_trans a b c zb h1a h2a, geR_trans c b a zb h2b h1b, bytesLt_trans h1c h2c⟩

/-- blocks of embedded addresses carry no plasma (enoughPlasma returns before setting the fields,
    GetBasePlasmaForAccountBlock = 0): among them the rule is the hash order -/
theorem priority_zero_plasma (a b : Blk) (ha : ¬ NZ a) (hb : ¬ NZ b) :
    higherPriority a b = .ok ↔ bytesLt a.hash b.hash = true := by
  have ha1 : a.total = 0 := by unfold NZ at ha; omega
  have ha2 : a.base = 0 := by unfold NZ at ha; omega
  have hb1 : b.total = 0 := by unfold NZ at hb; omega
  have hb2 : b.base = 0 := by unfold NZ at hb; omega
  rw [hp_ok_iff]; unfold prodL
  simp [ha1, ha2, hb1, hb2]

theorem priority_trans_uniform (l : List Blk) (hs : ∀ x ∈ l, Small x) (hu : Uniform l) (a b c : Blk)
    (ha : a ∈ l) (hb : b ∈ l) (hc : c ∈ l)
    (h1 : higherPriority a b = .ok) (h2 : higherPriority b c = .ok) : higherPriority a c = .ok := by
  rcases hu with hu | hu
  · exact priority_trans a b c (hs a ha) (hs b hb) (hs c hc) (hu a ha) (hu b hb) (hu c hc) h1 h2
  · rw [priority_zero_plasma _ _ (hu _ ‹_›) (hu _ ‹_›)] at h1 h2 ⊢
    exact bytesLt_trans h1 h2

/-- negative witness (zero BasePlasma): a block with TotalPlasma = BasePlasma = 0 ties with every ratio, so among
    mixed competitors the rule is cyclic: a beats z by hash, z beats c by hash, c beats a by ratio. All values are in
    the accepted range; transitivity and with it order-independence fail. -/
theorem priority_trans_fails_with_zero_plasma :
    ∃ a z c : Blk, Small a ∧ Small z ∧ Small c ∧ a.hash ≠ z.hash ∧ z.hash ≠ c.hash ∧ a.hash ≠ c.hash ∧
      higherPriority a z = .ok ∧ higherPriority z c = .ok ∧ higherPriority c a = .ok ∧
      winner [a, z, c] ≠ winner [z, c, a] :=
  ⟨{ height := 1, hash := [1], prevHash := [], total := 21000, base := 21000 },
   { height := 1, hash := [2], prevHash := [], total := 0, base := 0 },
   { height := 1, hash := [3], prevHash := [], total := 42000, base := 21000 }, by decide⟩

/-- negative witness (wrap-around): with positive BasePlasma but TotalPlasma = 2^63 the uint64 product wraps to 0 and
    the rule is cyclic (a > b > c > a) — the bound hypotheses of `priority_trans` are necessary. -/
theorem priority_trans_fails_on_wrap :
    ∃ a b c : Blk, a.total < two64 ∧ a.base < two64 ∧ 0 < a.base ∧ 0 < b.base ∧ 0 < c.base ∧
      higherPriority a b = .ok ∧ higherPriority b c = .ok ∧ higherPriority c a = .ok ∧
      c.total * a.base < a.total * c.base :=
  ⟨{ height := 1, hash := [1], prevHash := [], total := two63, base := 1 },
   { height := 1, hash := [2], prevHash := [], total := 1, base := 1 },
   { height := 1, hash := [3], prevHash := [], total := 1, base := 2 }, by decide⟩

/-- the fold keeps the best of what it has seen: if the held block `cur` beats every other block of `seen`, the block held
    after the arrivals `xs` beats every other block of `seen ++ xs` -/
private theorem fold_max (l : List Blk)
    (htr : ∀ a b c, a ∈ l → b ∈ l → c ∈ l → higherPriority a b = .ok → higherPriority b c = .ok →
      higherPriority a c = .ok) :
    ∀ (xs seen : List Blk) (cur : Blk), cur ∈ seen → (∀ y ∈ seen ++ xs, y ∈ l) →
      (seen ++ xs).Pairwise (fun x y => x.hash ≠ y.hash) →
      (∀ y ∈ seen, y = cur ∨ higherPriority cur y = .ok) →
      xs.foldl pick cur ∈ seen ++ xs ∧
      ∀ y ∈ seen ++ xs, y = xs.foldl pick cur ∨ higherPriority (xs.foldl pick cur) y = .ok
  | [], seen, cur, hc, _, _, hmax => by simpa using ⟨hc, hmax⟩
  | z :: zs, seen, cur, hc, hl, hpw, hmax => by
    have hcl := hl cur (by simp [hc])
    have hzl := hl z (by simp)
    have e : seen ++ z :: zs = (seen ++ [z]) ++ zs := by simp
    rw [e] at hl hpw ⊢
    rw [List.foldl_cons]
    refine fold_max l htr zs (seen ++ [z]) (pick cur z) ?_ hl hpw ?_
    · unfold pick; split <;> simp [hc]
    · intro y hy
      rcases List.mem_append.mp hy with hy | hy
      · -- an earlier block: beaten by `cur`, hence by whoever beats `cur`
        unfold pick; split
        · rename_i hzc
          rcases hmax y hy with rfl | h
          · exact .inr hzc
          · exact .inr (htr z cur y hzl hcl (hl y (by simp [hy])) hzc h)
        · exact hmax y hy
      · -- the arrival itself: it wins, or (the hashes differ) the held block beats it
        rw [List.mem_singleton.mp hy]
        unfold pick; split
        · exact .inl rfl
        · rename_i hzc
          have hne : cur.hash ≠ z.hash :=
            (List.pairwise_append.mp (List.pairwise_append.mp hpw).1).2.2 cur hc z (by simp)
          rcases priority_total_antisymmetric cur z hne with h | h
          · exact .inr h.1
          · exact absurd h.2 hzc

/-- T3′ `winner_order_independent`: let a finite set of competitors for one height (pairwise distinct hashes,
    plasma fields in the no-wrap range, all with plasma or all without) arrive in two different orders; each arrival
    replaces the held block iff `higherPriority arrival held` succeeds. Both orders leave the same block. -/
theorem winner_order_independent (l₁ l₂ : List Blk) (hperm : l₁.Perm l₂)
    (hs : ∀ x ∈ l₁, Small x) (hu : Uniform l₁)
    (hd : l₁.Pairwise (fun x y => x.hash ≠ y.hash)) : winner l₁ = winner l₂ := by
  have hd2 : l₂.Pairwise (fun x y => x.hash ≠ y.hash) :=
    (hperm.pairwise_iff (fun h => Ne.symm h)).mp hd
  have htr := priority_trans_uniform l₁ hs hu
  match l₁, l₂, hperm, hd, hd2, htr with
  | [], [], _, _, _, _ => rfl
  | [], _ :: _, hp, _, _, _ => exact absurd hp.length_eq (by simp)
  | _ :: _, [], hp, _, _, _ => exact absurd hp.length_eq (by simp)
  | x :: xs, y :: ys, hp, hd, hd2, htr =>
    simp only [winner, Option.some.injEq]
    obtain ⟨hw1, hall1⟩ := fold_max (x :: xs) htr xs [x] x List.mem_cons_self (fun _ h => h) hd
      (fun _ h => .inl (List.mem_singleton.mp h))
    obtain ⟨hw2, hall2⟩ := fold_max (x :: xs) htr ys [y] y List.mem_cons_self (fun z h => hp.mem_iff.mpr h) hd2
      (fun _ h => .inl (List.mem_singleton.mp h))
    generalize xs.foldl pick x = w1 at *
    generalize ys.foldl pick y = w2 at *
    rcases hall1 w2 (hp.mem_iff.mpr hw2) with h | h
    · exact h.symm
    · rcases hall2 w1 (hp.mem_iff.mp hw1) with h' | h'
      · exact h'
      · exact absurd h' (priority_antisymm _ _ h)

/-- for accepted user blocks (bounded plasma, BasePlasma > 0) the hypotheses of `winner_order_independent` hold -/
theorem winner_order_independent_user (l₁ l₂ : List Blk) (hperm : l₁.Perm l₂)
    (hb : ∀ x ∈ l₁, Bounded x ∧ 0 < x.base)
    (hd : l₁.Pairwise (fun x y => x.hash ≠ y.hash)) : winner l₁ = winner l₂ :=
  winner_order_independent l₁ l₂ hperm (fun x hx => bounded_small x (hb x hx).1)
    (Or.inl (fun x hx => Or.inr (by have := (hb x hx).2; omega))) hd

example : ∃ l₁ l₂ : List Blk, l₁.Perm l₂ ∧ l₁ ≠ l₂ ∧ (∀ x ∈ l₁, Bounded x ∧ 0 < x.base) ∧
    l₁.Pairwise (fun x y => x.hash ≠ y.hash) ∧ winner l₁ = winner l₂ :=
  ⟨[{ height := 1, hash := [1], prevHash := [], total := 21000, base := 21000 },
    { height := 1, hash := [2], prevHash := [], total := 42000, base := 21000 }],
   [{ height := 1, hash := [2], prevHash := [], total := 42000, base := 21000 },
    { height := 1, hash := [1], prevHash := [], total := 21000, base := 21000 }],
   by decide, by decide, by decide, by decide, by decide⟩

/-! ### T5 — `filterBlocksToCommit` -/

/-- the result is a prefix of the input -/
theorem filter_prefix (ts : List Nat) : filterBlocksToCommit ts <+: ts := by
  have := filterGo_prefix isContractSend Gen.MaxAccountBlocksInMomentum ts [] []
  simpa [filterBlocksToCommit] using this

/-- at most `MaxAccountBlocksInMomentum` blocks -/
theorem filter_length (ts : List Nat) : (filterBlocksToCommit ts).length ≤ Gen.MaxAccountBlocksInMomentum :=
  filterGo_length isContractSend _ ts [] [] (by simp)

/-- the result ends at a batch boundary: it is empty or its last block is not a ContractSend — the descendant
    sends of a contract receive are never offered without the receive that follows them -/
theorem filter_batch_boundary (ts : List Nat) (x : Nat) (h : (filterBlocksToCommit ts).getLast? = some x) :
    x ≠ Gen.BlockTypeContractSend := by
  have := filterGo_boundary isContractSend Gen.MaxAccountBlocksInMomentum ts [] [] (by intro x hx; simp at hx) x h
  simpa [isContractSend] using this

/-- maximal: every prefix of the input that ends at a batch boundary and respects the limit is at most as long as
    the result (so the result is THE longest such prefix) -/
theorem filter_maximal (ts p : List Nat) (hp : p <+: ts)
    (hB : ∀ x, p.getLast? = some x → x ≠ Gen.BlockTypeContractSend)
    (hl : p.length ≤ Gen.MaxAccountBlocksInMomentum) : p.length ≤ (filterBlocksToCommit ts).length := by
  apply filterGo_maximal isContractSend Gen.MaxAccountBlocksInMomentum ts [] [] p (by intro x hx; cases hx)
    (by simpa using hp) _ hl
  intro x hx
  have := hB x hx
  simpa [isContractSend] using this

example : filterBlocksToCommit [2, 4, 4, 5, 4] = [2, 4, 4, 5] := by decide

/-! ### T1 / T2 — the per-address pool (one-block transactions)

`Reachable c0 s`: `s` is reached from the confirmed account chain `c0` and an empty pool by any sequence of
add / force-add (any block of height ≥ 1), momentum insert (any blocks that extend the confirmed chain) and momentum
delete (cut the confirmed chain anywhere). -/

/-- T1 `pool_single_chain`: in every reachable state the manager of the address is built on the current confirmed
    chain and its pooled blocks form one chain on top of it: the first block's Previous() is the stable identifier,
    every other block's Previous() is the identifier of its predecessor (`Linked`), and the heights are
    stable+1, stable+2, … without gap. -/
theorem pool_single_chain (c0 : List Blk) (s : PState) (hr : Reachable c0 s) :
    s.manager.base = s.confirmed ∧ Linked (lastId s.confirmed) s.manager.pooled ∧
    ∀ (i : Nat) (h : i < s.manager.pooled.length),
      s.manager.pooled[i].height = (lastId s.confirmed).2 + 1 + i := by
  obtain ⟨h1, h2, h3, _⟩ := manager_ok (reachable_inv hr)
  exact ⟨h1, h2, linked_heights _ _ h2 h3⟩

/-- the whole frontier view (confirmed chain followed by the pooled blocks) is one chain from the zero identifier -/
theorem pool_view_is_chain (c0 : List Blk) (s : PState) (hr : Reachable c0 s) :
    Linked zeroId (s.manager.base ++ s.manager.pooled) :=
  (view_chain (reachable_inv hr)).1

/-- T2 `confirmed_never_displaced`: no pool operation touches the confirmed chain, and an attempt to add (or force-add)
    a block at or below the confirmed height is answered "already inserted" — exactly when it IS the confirmed block
    of that height — or refused as older than the stable identifier; the pool keeps its blocks. The frontier store
    answers every height up to the confirmed one with the confirmed block. -/
theorem confirmed_never_displaced (c0 : List Blk) (s : PState) (hr : Reachable c0 s) (b : Blk) (f : Bool)
    (hb : b.height ≠ 0) (hle : b.height ≤ (lastId s.confirmed).2) :
    ((addBlock s b f).2 = .already ∨ (addBlock s b f).2 = .olderThanStable) ∧
    (addBlock s b f).1 = { s with mgr := some s.manager } ∧
    ((addBlock s b f).2 = .already ↔ (byHeight s.confirmed b.height).map Blk.id = some b.id) ∧
    ∀ h, h ≤ (lastId s.confirmed).2 →
      byHeight (s.manager.base ++ s.manager.pooled) h = byHeight s.confirmed h := by
  have hi := reachable_inv hr
  obtain ⟨h1, h2, h3, _⟩ := manager_ok hi
  obtain ⟨hvl, hvh⟩ := view_chain hi
  -- pooled blocks lie strictly above the confirmed height
  have hview : ∀ h, h ≤ (lastId s.confirmed).2 →
      byHeight (s.manager.base ++ s.manager.pooled) h = byHeight s.confirmed h := by
    intro h hh
    rw [byHeight_append, byHeight_low _ _ h2 h3 h hh, h1]; rfl
  -- the block cannot be a fast-forward: the frontier is at or above the confirmed height
  have hne : b.prev ≠ s.manager.frontierId := ne_lastId_of_lt hvl hvh (by
    rw [h1, List.length_append, ← chain_last_height _ hi.1 hi.2.1]
    simp only [Blk.prev, hb, if_false]
    omega)
  have hcr : canRollback s s.manager b = some .olderThanStable := by
    unfold canRollback; rw [if_pos hle]
  have hadd : addBlock s b f = ({ s with mgr := some s.manager },
      if (byHeight s.confirmed b.height).map Blk.id = some b.id then .already else .olderThanStable) := by
    unfold addBlock
    simp only [hne, if_false, hview b.height hle, hcr]
    split <;> rfl
  rw [hadd]
  refine ⟨?_, rfl, ?_, hview⟩ <;> split <;> simp [*]

/-- the call `higherPriority(block, trueBlock)` in addAccountBlockTransaction is made before `trueBlock` is known to be
    non-nil; in every reachable state it never is nil there (no nil dereference), forced or not -/
theorem add_never_nil_deref (c0 : List Blk) (s : PState) (hr : Reachable c0 s) (b : Blk) (f : Bool)
    (hb : b.height ≠ 0) : (addBlock s b f).2 ≠ .nilDeref := by
  obtain ⟨hvl, hvh⟩ := view_chain (reachable_inv hr)
  intro hnil
  obtain ⟨_, r, he, _, hn⟩ := addBlock_cases s b f
  rw [he] at hnil
  obtain ⟨hne, hcr, htb⟩ := hn hnil
  -- `canRollback` passed: Previous() is the identifier the view has below the block's height, and nothing is stored at
  -- that height itself, so the block sits right on top of the view: a fast-forward
  obtain ⟨_, hle, hp⟩ := (canRollback_eq_none_iff hvl hvh hb).mp hcr
  obtain ⟨k, hk⟩ : ∃ k, b.height = k + 1 := ⟨b.height - 1, by omega⟩
  rw [hk, byHeight_chain_eq _ hvl hvh, List.getElem?_eq_none_iff] at htb
  exact hne (by rw [hp, List.take_of_length_le (by omega)]; rfl)

/-- T3 at the level of the pool, for EVERY height (the first block of an account included): a well-formed competitor
    `b` (same Previous() as the pooled block `tb` it competes with, another hash) is decided by `higherPriority b tb`
    alone — it replaces `tb` (and everything pooled above it) iff it is forced or the rule lets it win; otherwise the
    pool is unchanged and the rule's error is returned. With `winner_order_independent` this makes the block held at a
    height independent of the arrival order of its competitors. -/
theorem competitor_decided_by_rule (c0 : List Blk) (s : PState) (hr : Reachable c0 s) (b tb : Blk) (f : Bool)
    (hb0 : b.height ≠ 0) (habove : (lastId s.confirmed).2 < b.height)
    (htb : byHeight (s.manager.base ++ s.manager.pooled) b.height = some tb)
    (hne : tb.hash ≠ b.hash) (hprev : b.prev = tb.prev) :
    addBlock s b f =
      if f = true ∨ higherPriority b tb = .ok then
        ({ s with mgr := some { s.manager with
            pooled := s.manager.pooled.take (b.height - 1 - (lastId s.confirmed).2) ++ [b] } }, .replaced)
      else ({ s with mgr := some s.manager },
            if higherPriority b tb = .ratioWorse then .ratioWorse else .hashTieBreak) := by
  have hi := reachable_inv hr
  have hm := manager_ok hi
  obtain ⟨hvl, hvh⟩ := view_chain hi
  have hconf := chain_last_height _ hi.1 hi.2.1
  have hfh := chain_last_height _ hvl hvh
  generalize hv : s.manager.base ++ s.manager.pooled = view at *
  -- tb is the block of the view at index b.height - 1
  obtain ⟨k, hk⟩ : ∃ k, b.height = k + 1 := ⟨b.height - 1, by omega⟩
  rw [hk, byHeight_chain_eq _ hvl hvh] at htb
  obtain ⟨hkv, rfl⟩ := List.getElem?_eq_some_iff.mp htb
  have htb := byHeight_chain _ hvl hvh k hkv
  -- the claimed previous is the identifier the view has below b (the zero identifier for a first block)
  have hbp : b.prev = lastId (view.take k) := by rw [hprev]; exact linked_getElem_prev _ _ hvl k hkv
  have hcr : canRollback s s.manager b = none :=
    (canRollback_eq_none_iff (hv ▸ hvl) (hv ▸ hvh) hb0).mpr
      ⟨habove, by rw [hv]; omega, by rw [hv, hk]; exact hbp⟩
  have hnff : ¬ b.prev = s.manager.frontierId := fun he =>
    ne_lastId_of_lt hvl hvh (by simp only [Blk.prev, hb0, if_false]; omega) (he.trans (congrArg lastId hv))
  have hnal : ¬ (some (view[k]).id = some b.id) := fun he => hne (congrArg Prod.fst (Option.some.inj he))
  -- the rollback target is the pooled chain cut below b
  have hN : view.length = s.confirmed.length + s.manager.pooled.length := by rw [← hv, hm.1, List.length_append]
  have htarget : b.prev = lastIdFrom (lastId s.confirmed) (s.manager.pooled.take (k - (lastId s.confirmed).2)) := by
    rw [hbp, ← hv, List.take_append, hm.1, hconf, List.take_of_length_le (by omega), lastId_append]
  have hroll := rollbackTo_reaches (conf := s.confirmed) (s.manager.pooled.length + 1) s.manager
    (k - (lastId s.confirmed).2) hm (by omega) (by omega)
  rw [← htarget] at hroll
  have hadd : Mgr.add { s.manager with pooled := s.manager.pooled.take (k - (lastId s.confirmed).2) } b =
      some { s.manager with pooled := s.manager.pooled.take (k - (lastId s.confirmed).2) ++ [b] } := by
    unfold Mgr.add
    rw [if_pos (by rw [frontierId_eq, hm.1]; exact htarget)]
  unfold addBlock
  simp only [hnff, if_false, hv, hk, Nat.add_sub_cancel, htb, Option.map_some, hnal, hcr, hroll, hadd, Bool.not_true,
    Bool.false_eq_true]
  exact prio_decision f _ _ _

/-- T4 `rebuild_spec`: after a momentum that extends the confirmed chain by `nb`, the pool of an address holds exactly
    the previously pooled blocks above the new confirmed height if they (still) link to the new confirmed frontier, and
    nothing otherwise; the confirmed chain is the extended one; `rebuild` never meets a missing height (no nil
    dereference). Every address is rebuilt independently of the others (`rebuild_no_early_return`). -/
theorem rebuild_spec (c0 : List Blk) (s : PState) (hr : Reachable c0 s) (nb : List Blk) (hop : OpOK s (.insert nb)) :
    (insertMomentum s nb).1.confirmed = s.confirmed ++ nb ∧
    (insertMomentum s nb).1.manager.pooled =
      (if Linked (lastId (s.confirmed ++ nb)) (s.manager.pooled.drop nb.length)
       then s.manager.pooled.drop nb.length else []) ∧
    (insertMomentum s nb).2 ≠ .nilDeref := by
  obtain ⟨r, hnn, he⟩ := insertMomentum_eq (reachable_inv hr) nb hop.1 hop.2
  rw [he]
  refine ⟨rfl, ?_, hnn⟩
  generalize s.manager.pooled.drop nb.length = rest
  cases rest with
  | nil => simp [PState.manager, Linked]
  | cons x xs => by_cases hlk : Linked (lastId (s.confirmed ++ nb)) (x :: xs) <;> simp [PState.manager, hlk]

/-- the address loop of `rebuild` contains no `return` (regenerated from the AST of chain/account_pool.go): a failure
    to re-apply the blocks of one address cannot leave other addresses on managers built on the old stable database,
    which is what makes the per-address statements above statements about the whole pool -/
theorem rebuild_no_early_return : Gen.rebuildLoopReturns = 0 := rfl

/-! ### P — lock discipline (the logical part of the concurrency clause; data-race freedom itself is not a theorem) -/

/-- `pool_lock_discipline` over the fact list regenerated from the AST of chain/account_pool.go: every exported method
    of `accountPool` that reaches `ap.managers` (directly or through unexported methods) executes
    `ap.changes.Lock(); defer ap.changes.Unlock()` before its first such access, and no unexported method takes the
    lock (sync.Mutex is not re-entrant; the unexported methods run with the lock held). So all accesses to the
    per-address managers are serialised by one mutex. -/
theorem pool_lock_discipline : ∀ x ∈ Gen.poolLockSites,
    (x.2.1 = true → x.2.2.2 ≠ 0 → x.2.2.1 ≠ 0 ∧ x.2.2.1 < x.2.2.2) ∧ (x.2.1 = false → x.2.2.1 = 0) := by
  decide +kernel

/-- the fact list really contains the methods the property is about -/
theorem pool_lock_sites_cover : ∀ n ∈ ["AddAccountBlockTransaction", "ForceAddAccountBlockTransaction",
    "InsertMomentum", "DeleteMomentum", "GetUncommittedAccountBlocksByAddress", "GetAllUncommittedAccountBlocks",
    "GetFrontierAccountStore", "GetAccountStore", "GetPatch", "addAccountBlockTransaction", "rebuild"],
    n ∈ Gen.poolLockSites.map (·.1) := by
  decide +kernel

/-! ### S — confinement of the subscription table of rpc/api/subscribe to its worker goroutine

`Server.subscriptions` (and the `Subscription` objects in it) carries no lock: it is correct only as long as exactly one
goroutine touches it. The momentum listener `Server.InsertMomentum` runs on the INSERTING goroutine, the `Api` methods on
the goroutines of the RPC server; both may only hand events / subscriptions over through the channels mCh, acCh,
installCh, uninstallCh. `zvh facts` (harness/cmd/zvh/f_subscribe.go) regenerates from the AST of the package every access
to the table, the functions that reach one without leaving their goroutine, every reference to such a function, and the
`go` statements. -/

/-- reviewed accesses: the table is created in the constructor (under `oneSingleton`, before the server is published),
    filled with the per-type maps in `Init` (zenon.Init, before `Start`: the worker does not exist yet), and from then on
    read and written by the worker's functions only -/
def reviewedSubscribeAccess : List (String × String) := [
  ("GetSubscribeServer", "composite-init"),
  ("Server.Init", "write-index"),
  ("Server.work", "assign"),
  ("Server.install", "write-index"),
  ("Server.uninstall", "delete"),
  ("Server.broadcastMomentums", "range"),
  ("Server.broadcastBlocks", "range"),
  ("Server.broadcastBlocks", "range"),
  ("Server.broadcastBlocks", "range")]

/-- reviewed call graph into the functions that reach the table: everything is called from `Server.work` (or from a
    function only `work` calls), and `work` is started once, with `go`, by `Server.Start` -/
def reviewedSubscribeCallers : List (String × String × Bool) := [
  ("Server.broadcast", "Server.broadcastBlocks", false),
  ("Server.broadcast", "Server.broadcastMomentums", false),
  ("Server.broadcastBlocks", "Server.work", false),
  ("Server.broadcastMomentums", "Server.work", false),
  ("Server.install", "Server.work", false),
  ("Server.uninstall", "Server.broadcast", false),
  ("Server.uninstall", "Server.work", false),
  ("Server.work", "Server.Start", true)]

/-- the functions that run on the worker goroutine and nowhere else -/
def subscribeWorkerOnly : List String :=
  ["Server.work", "Server.install", "Server.uninstall", "Server.broadcast", "Server.broadcastMomentums",
   "Server.broadcastBlocks"]

/-- the functions that touch the table before the worker exists -/
def subscribeSetupOnly : List String := ["GetSubscribeServer", "Server.Init"]

/-- generated fact: the accesses to `Server.subscriptions` are the reviewed ones -/
theorem subscribe_access_reviewed : Gen.subscribeAccess = reviewedSubscribeAccess := rfl

/-- generated fact: the references to the functions that reach the table are the reviewed ones -/
theorem subscribe_callers_reviewed : Gen.subscribeCallers = reviewedSubscribeCallers := rfl

/-- generated fact: the package starts one goroutine, the function literal in `Start` that runs `work` -/
theorem subscribe_go_sites_reviewed : Gen.subscribeGoSites = ["Server.Start:func"] := rfl

/-- the functions that reach the table without leaving their goroutine are the worker's and the two set-up functions:
    in particular neither `Server.InsertMomentum` (inserting goroutine) nor a method of `Api` (RPC goroutines) -/
theorem subscribe_reaching_confined :
    ∀ f ∈ Gen.subscribeReaching, f ∈ subscribeWorkerOnly ∨ f ∈ subscribeSetupOnly := by decide +kernel

/-- confinement, independent of the reviewed edge list: whoever refers to a worker-only function is itself worker-only,
    except the one `go` statement that starts `work`; so every call chain that ends in an access to the table after
    set-up starts at the worker's `go` statement -/
theorem subscribe_worker_confinement : ∀ e ∈ Gen.subscribeCallers, e.1 ∈ subscribeWorkerOnly →
    e.2.1 ∈ subscribeWorkerOnly ∨ (e = ("Server.work", "Server.Start", true)) := by decide +kernel

/-- the set-up functions are not called from inside the package (so not from the worker, the listener or the Api) -/
theorem subscribe_setup_not_called : ∀ e ∈ Gen.subscribeCallers, e.1 ∉ subscribeSetupOnly := by decide +kernel

/-- the fact lists really speak about the worker loop: each of its functions is among those found reaching the table -/
theorem subscribe_sites_cover : ∀ n ∈ subscribeWorkerOnly, n ∈ Gen.subscribeReaching := by decide +kernel

/-! What crosses the goroutine boundary. An event queued on `mCh` / `acCh` (capacity 100) is read by the worker later -
after the inserting goroutine has gone on to the next momentums (sync burst, worker busy in `Notify` for a slow client).
It keeps its content only if nothing the inserting goroutine touches afterwards is reachable from it: the value sent must be
allocated by the sending function for this one send, and the listener must not keep state of its own on the server.
(The runtime side: the `subscribe` stream inserts bursts of momentums while a subscriber does not read and compares every
delivered event with the ledger's momentum.) -/

/-- the functions that run on the inserting goroutine (momentum listener) or on the goroutines of the RPC server (Api) -/
def subscribeOffWorker : List String :=
  ["Server.InsertMomentum", "Server.DeleteMomentum", "newAccountBlock", "Api.subscribe", "Api.Momentums",
   "Api.AllAccountBlocks", "Api.AccountBlocksByAddress", "Api.UnreceivedAccountBlocksByAddress"]

/-- generated fact: every value sent on a channel of the package - the momentum event, the account-block event, the new
    subscription - is freshly allocated by the sender (composite literal, `make` + `append` to that local, constructor
    call): no queued event aliases a buffer the sender keeps -/
theorem subscribe_sends_fresh : ∀ e ∈ Gen.subscribeChanSends, e.2.2 = "fresh" := by decide +kernel

/-- generated fact: the sends are the three reviewed hand-overs (listener -> worker twice, Api -> worker) -/
theorem subscribe_sends_reviewed : Gen.subscribeChanSends.map (fun e => (e.1, e.2.1)) =
    [("Server.InsertMomentum", "s.mCh"), ("Server.InsertMomentum", "s.acCh"), ("Api.subscribe", "s.installCh")] := rfl

/-- generated fact: no function of the inserting goroutine or of the RPC goroutines assigns to a field (of the server or of
    anything else): they keep no scratch state between two events -/
theorem subscribe_off_worker_writes_nothing : ∀ e ∈ Gen.subscribeFieldWrites, e.1 ∉ subscribeOffWorker := by decide +kernel

/-- generated fact: whoever assigns to a field is a worker function, a life-cycle function (`Init` / `Start` / `Stop`, called
    by the node's start-up and shut-down), a constructor filling the options object it has just allocated, or
    `Subscription.Closed` (called by `Server.broadcast` and `Subscription.Notify`, worker goroutine) -/
theorem subscribe_field_writers_classified : ∀ e ∈ Gen.subscribeFieldWrites,
    e.1 ∈ subscribeWorkerOnly ∨ e.1 ∈ ["Server.Init", "Server.Start", "Server.Stop"] ∨
    e.1 ∈ ["NewBlocksByAddressSubscription", "NewToUnreceivedBlocksSubscription"] ∨
    e = ("Subscription.Closed", "notifier") := by decide +kernel

example : ∃ s, Reachable [] s ∧ s.manager.pooled.length = 2 :=
  ⟨step (step ⟨[], none⟩ (.add { height := 1, hash := [1], prevHash := zeroHash } false))
      (.add { height := 2, hash := [2], prevHash := [1] } false),
   Reachable.step _ (Reachable.step _ (Reachable.init trivial (fun _ h => by simp at h)) (by decide))
     (by decide), by decide⟩

/-- the first block of an account is decided like any other height: whichever of two competitors (ratio 1 vs ratio 2)
    arrives first, the one with the higher ratio is held -/
example :
    let a : Blk := { height := 1, hash := [1], prevHash := zeroHash, total := 21000, base := 21000 }
    let b : Blk := { height := 1, hash := [2], prevHash := zeroHash, total := 42000, base := 21000 }
    (step (step ⟨[], none⟩ (.add a false)) (.add b false)).manager.pooled = [b] ∧
    (step (step ⟨[], none⟩ (.add b false)) (.add a false)).manager.pooled = [b] := by decide

end ZV.C14
