import ZenonVerif.Lemmas.LedgerNode
import ZenonVerif.Props.C04
/-
C04, node level: "This holds across replacement of unconfirmed blocks, reorganisations and restarts."
The node (`Model/LedgerNode.lean`) keeps the confirmed momentums with one store version each, the unconfirmed pool and the
STORED contract inboxes. Every theorem quantifies over ALL operation lists (block into the pool at any pool height =
fast-forward or replacement, momentum insertion with any content, rollback to any height, restart), of any length.
`g` is the genesis version of the ledger database.
-/
namespace ZV.C04Node
open ZV.Ledger ZV.LedgerNode

/-- the node reached from genesis `g` by `ops`, rolled back to `h`, then driven on by `ops2` -/
abbrev after (g : Store) (ops : List Op) (h : Nat) (ops2 : List Op) : Node :=
  (((Node.genesis g).run ops).rollbackTo h).run ops2

theorem inv_after (g : Store) (ops : List Op) (h : Nat) (ops2 : List Op) : Inv (after g ops h ops2) :=
  (inv_run ops2 (inv_apply (inv_run ops (inv_genesis g)).1 (.rollbackTo h)).1).1

theorem gen_after (g : Store) (ops : List Op) (h : Nat) (ops2 : List Op) : (after g ops h ops2).gen = g := by
  have h1 := inv_run ops (inv_genesis g)
  have h2 := inv_apply h1.1 (.rollbackTo h)
  exact ((inv_run ops2 h2.1).2.trans h2.2).trans h1.2

/-- Reorganisation leaves no trace in the ledger: after a rollback to ANY height `h` of ANY reachable node, the confirmed
    store (ledger + stored inbox counters) EQUALS the store obtained by confirming the first `h` momentums alone on
    genesis — hence it is a `Ledger.Reach` state and every invariant of Props/C01 + Props/C04 holds for it. -/
theorem reach_closed_under_rollback (g : Store) (ops : List Op) (h : Nat)
    (hh : h ≤ ((Node.genesis g).run ops).chain.length) :
    replay g (((Node.genesis g).run ops).moms.take h) = .ok (((Node.genesis g).run ops).rollbackTo h).frontier ∧
    Reach g.led (((Node.genesis g).run ops).rollbackTo h).frontier.led := by
  have hi := inv_after g ops h []
  have hg := gen_after g ops h []
  simp only [after, Node.run] at hi hg
  have hr := hi.replay
  rw [hg, moms_rollbackTo _ _ hh] at hr
  refine ⟨hr, ?_⟩
  have := hi.frontier_reach
  rwa [hg] at this

/-- every confirmed state a node ever shows — before, right after and any time after a reorganisation — is a ledger
    state reachable by accepted events from genesis -/
theorem confirmed_reachable (g : Store) (ops : List Op) (h : Nat) (ops2 : List Op) :
    Reach g.led (after g ops h ops2).frontier.led := by
  have := (inv_after g ops h ops2).frontier_reach
  rwa [gen_after] at this

/-- the ledger seen through the pool (confirmed + all pooled blocks, account after account, each account's blocks in
    chain order) is a reachable ledger state as well, and it extends the confirmed one -/
theorem pool_view_reachable (g : Store) (ops : List Op) (h : Nat) (ops2 : List Op) :
    Reach g.led (after g ops h ops2).poolView.led ∧
    Reach (after g ops h ops2).frontier.led (after g ops h ops2).poolView.led := by
  have hi := inv_after g ops h ops2
  exact ⟨poolRun_reach hi.poolView_run (confirmed_reachable g ops h ops2), poolRun_reach hi.poolView_run .refl⟩

/-- at most one receive per send on the whole current chain, whatever was rolled back before -/
theorem receive_once_across_reorg (g : Store) (hg : g.led.gate = true) (hw : WF g.led)
    (ops : List Op) (h : Nat) (ops2 : List Op) :
    ((after g ops h ops2).frontier.led.recv.map (·.2)).Nodup ∧
    ∀ a x, (a, x) ∈ (after g ops h ops2).frontier.led.recv →
      ∃ s, findSend (after g ops h ops2).frontier.led.sends x = some s ∧ s.dst = a :=
  ⟨C04.receive_once_globally _ _ hg hw (confirmed_reachable g ops h ops2),
   fun a x hm => C04.receive_only_by_addressee _ _ hg hw (confirmed_reachable g ops h ops2) a x hm⟩

/-- contract inboxes stay strict FIFO across reorganisations -/
theorem fifo_across_reorg (g : Store) (hw : WF g.led) (hf : Fifo g.led) (ops : List Op) (h : Nat) (ops2 : List Op)
    (c : Addr) (hc : isEmbedded c = true) :
    receivedBy (after g ops h ops2).frontier.led c <+: inboxOf (after g ops h ops2).frontier.led c :=
  C04.contract_fifo _ _ hw hf (confirmed_reachable g ops h ops2) c hc

/-- a send cannot be received by one pooled and one confirmed receive (nor by two pooled ones): the markers of the pool
    view are the confirmed markers plus the pooled ones, and no send hash occurs twice among them -/
theorem no_double_receive_pool_and_chain (g : Store) (hg : g.led.gate = true) (hw : WF g.led)
    (ops : List Op) (h : Nat) (ops2 : List Op) :
    ((after g ops h ops2).poolView.led.recv.map (·.2)).Nodup ∧
    ∃ pooled, (after g ops h ops2).poolView.led.recv = pooled ++ (after g ops h ops2).frontier.led.recv := by
  obtain ⟨h1, h2⟩ := pool_view_reachable g ops h ops2
  obtain ⟨_, _, hm⟩ := h2.mono
  exact ⟨C04.receive_once_globally _ _ hg hw h1, hm⟩

/-- a pooled (so displaceable) send is received by nobody: every receive marker of the pool view — pooled receives of
    every account included — names a CONFIRMED send. Displacing a pooled send therefore cannot leave a receive of it
    behind in another account's pool (`fromHash` looks the send up in the momentum store). -/
theorem pooled_receive_names_confirmed_send (g : Store) (hw : WF g.led) (ops : List Op) (h : Nat) (ops2 : List Op) :
    ∀ m ∈ (after g ops h ops2).poolView.led.recv,
      m.2 ∈ (after g ops h ops2).frontier.led.sends.map (·.hash) := by
  intro m hm
  have hi := inv_after g ops h ops2
  rcases poolRun_marker hi.poolView_run m hm with h1 | h1
  · exact ((confirmed_reachable g ops h ops2).wf hw).recvConfirmed m h1
  · exact findSend_isSome_mem h1

/-- replacement of unconfirmed blocks: when a block is accepted at pool height `k` of its account, the account's pool is
    exactly its first `k` pooled blocks + the new block (the displaced block and everything built on it are gone; that a send
    named by a displaced receive is then receivable again is shown on the demo history below, not stated here), every other account's pool is what
    re-verification keeps, and in the new pool view every send is still received at most once, only confirmed sends
    are received. -/
theorem replacement_keeps_receive_once (g : Store) (hg : g.led.gate = true) (hw : WF g.led)
    (ops : List Op) (k : Nat) (e : Ev) (n' : Node) (hput : ((Node.genesis g).run ops).putBlock k e = .ok n') :
    n'.pool = (rebuild ((Node.genesis g).run ops).frontier ((Node.genesis g).run ops).frontier
                (((Node.genesis g).run ops).pool.filter (fun x => x.1 != acct e))).1 ++
              [(acct e, (getPool ((Node.genesis g).run ops).pool (acct e)).take k ++ [e])] ∧
    (n'.poolView.led.recv.map (·.2)).Nodup ∧
    ∀ m ∈ n'.poolView.led.recv, m.2 ∈ n'.frontier.led.sends.map (·.hash) := by
  have hn : n' = after g ops (((Node.genesis g).run ops).chain.length) [.put k e] := by
    simp only [after, Node.run, Node.rollbackTo, Nat.lt_irrefl, if_false, Node.apply, hput]
  obtain ⟨_, _, _, _, hp⟩ := putBlock_ok hput
  refine ⟨hp, ?_, ?_⟩
  · rw [hn]; exact (no_double_receive_pool_and_chain g hg hw ops _ _).1
  · rw [hn]; exact pooled_receive_names_confirmed_send g hw ops _ _

/-- restart: the pool is gone, nothing confirmed changes -/
theorem restart_same_ledger (n : Node) :
    n.restart.chain = n.chain ∧ n.restart.frontier = n.frontier ∧ n.restart.moms = n.moms ∧ n.restart.pool = [] :=
  ⟨rfl, rfl, rfl, rfl⟩

/-- "reorganisation leaves no trace" for the received markers: in every reachable node — after any number of rollbacks,
    replacements and restarts — the stored marker list is exactly the markers written by the receives of the momentums
    of the CURRENT chain (newest first), on top of the genesis markers. No marker of an abandoned branch survives. -/
theorem received_marker_iff_confirmed_receive (g : Store) (ops : List Op) (h : Nat) (ops2 : List Op) :
    (after g ops h ops2).frontier.led.recv = markersOf (after g ops h ops2).moms.flatten ++ g.led.recv := by
  have h2 := chainOk_markers (inv_after g ops h ops2).chain
  simp only [Node.frontier, Node.moms]
  rw [gen_after] at h2 ⊢
  exact h2

/-- the stored inbox (front / back counters + entries) refines the list view of Props/C04 in every reachable node,
    rollbacks included: the entries are the confirmed sends addressed to the contract in confirmation order, `back` is
    their number, `front` the number of receives of the contract on the current chain (so it moves BACK when receives
    are rolled back), the entries from `front` on are the confirmed, unreceived sends, and `SequencerFront` answers what
    the list model calls next in line. -/
theorem sequencer_counters_refine_list (g : Store) (hs : SeqRef g) (hw : WF g.led) (hf : Fifo g.led)
    (ops : List Op) (h : Nat) (ops2 : List Op) (c : Addr) (hc : isEmbedded c = true) :
    ((after g ops h ops2).frontier.seq c).entries = inboxOf (after g ops h ops2).frontier.led c ∧
    ((after g ops h ops2).frontier.seq c).back = ((after g ops h ops2).frontier.seq c).entries.length ∧
    ((after g ops h ops2).frontier.seq c).front = (receivedBy (after g ops h ops2).frontier.led c).length ∧
    ((after g ops h ops2).frontier.seq c).entries.drop ((after g ops h ops2).frontier.seq c).front =
      (pendingFor (after g ops h ops2).frontier.led c).map (·.hash) ∧
    ((after g ops h ops2).frontier.seq c).frontEntry = (nextInLine (after g ops h ops2).frontier.led c).map (·.hash) := by
  have hi := inv_after g ops h ops2
  have hr : SeqRef (after g ops h ops2).frontier :=
    chainOk_seqRef (g := (after g ops h ops2).gen) (by rw [gen_after]; exact hs) hi.chain
  obtain ⟨hw', hf'⟩ := (confirmed_reachable g ops h ops2).fifo hw hf
  obtain ⟨r1, r2, r3⟩ := hr c hc
  have hp := seqRef_pending hr hw' hf' hc
  refine ⟨r1, r2, r3, hp, ?_⟩
  rw [nextInLine_eq_head, ← List.head?_map, ← hp, List.head?_drop, SeqC.frontEntry]
  split
  · rename_i he
    rw [he, r2]; simp
  · rfl

/-! ## non-vacuity: a concrete reorganisation -/

/-- genesis: user 16 holds 100 of token 1 (supply 100, max 200), empty inboxes -/
def demoGen : Store :=
  ⟨{ bal := [((16, 1), 100)], sends := [], recv := [], toks := [(1, ⟨100, 200, true, true, 16⟩)], gate := true },
   fun _ => SeqC.empty⟩

/-- 16 pays 7 to 17 (momentum 1); 17 receives (momentum 2); 16 calls contract 3 twice (momentum 3); contract 3 answers
    the first call (momentum 4) -/
def demoOps : List Op :=
  [ .put 0 (.usend 16 17 1 7 100 .none), .insertMomentum [(16, 1)],
    .put 0 (.urecv 17 100), .insertMomentum [(17, 1)],
    .put 0 (.usend 16 3 1 2 101 .none), .put 1 (.usend 16 3 1 1 102 .none), .insertMomentum [(16, 2)],
    .put 0 (.crecv 3 101 1 []), .insertMomentum [(3, 1)] ]

/-- before the reorganisation: two markers, the inbox of contract 3 holds [101, 102] with front 1 -/
example : ((Node.genesis demoGen).run demoOps).frontier.led.recv = [(3, 101), (17, 100)] ∧
    ((Node.genesis demoGen).run demoOps).frontier.seq 3 = ⟨2, [101, 102], 1⟩ ∧
    ((Node.genesis demoGen).run demoOps).chain.length = 4 := by decide

/-- rollback to height 3: the contract's receive is gone, its marker too, and the stored front counter is back at 0;
    to height 1: the inbox is empty again and 17's marker is gone -/
example : (after demoGen demoOps 3 []).frontier.led.recv = [(17, 100)] ∧
    (after demoGen demoOps 3 []).frontier.seq 3 = ⟨2, [101, 102], 0⟩ ∧
    (after demoGen demoOps 1 []).frontier.led.recv = [] ∧
    (after demoGen demoOps 1 []).frontier.seq 3 = SeqC.empty := by decide

/-- shape of the pool: per account, per block: (hashes it receives, hashes of the sends it adds) -/
def poolShape (n : Node) : List (Nat × List (List Nat × List Nat)) :=
  n.pool.map (fun x => (x.1, x.2.map (fun e => (e.markers.map (·.2), e.newHashes))))

def errOf : Except NErr Node → Option NErr
  | .ok _ => none
  | .error e => some e

/-- after the rollback to 1 the send 100 is receivable again — once: a second receive on top of the first is refused,
    in the pool and after confirmation; a competitor at pool height 0 displaces the pooled receive -/
example : poolShape (after demoGen demoOps 1 [.put 0 (.urecv 17 100)]) = [(17, [([100], [])])] ∧
    errOf ((after demoGen demoOps 1 [.put 0 (.urecv 17 100)]).putBlock 1 (.urecv 17 100)) =
      some (.ledger .alreadyReceived) ∧
    errOf ((after demoGen demoOps 1 [.put 0 (.urecv 17 100), .insertMomentum [(17, 1)]]).putBlock 0 (.urecv 17 100)) =
      some (.ledger .alreadyReceived) ∧
    poolShape (after demoGen demoOps 1 [.put 0 (.urecv 17 100), .put 0 (.usend 17 16 1 0 103 .none)]) =
      [(17, [([], [103])])] ∧
    poolShape (after demoGen demoOps 1 [.put 0 (.urecv 17 100), .put 0 (.usend 17 16 1 0 103 .none),
        .put 1 (.urecv 17 100)]) = [(17, [([], [103]), ([100], [])])] := by decide

/-- a pooled send is not receivable: 17 cannot receive 16's send 104 before a momentum confirmed it -/
example : errOf ((after demoGen demoOps 4 [.put 0 (.usend 16 17 1 1 104 .none)]).putBlock 0 (.urecv 17 104)) =
    some .fromUnconfirmed := by decide

example : WF demoGen.led ∧ Fifo demoGen.led ∧ SeqRef demoGen ∧ demoGen.led.gate = true := by
  refine ⟨by decide, ?_, ?_, rfl⟩
  · intro c _; simp [receivedBy, inboxOf, demoGen]
  · intro c _; simp [receivedBy, inboxOf, demoGen, SeqC.empty]

end ZV.C04Node
