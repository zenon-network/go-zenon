import ZenonVerif.Lemmas.Consensus
import ZenonVerif.Lemmas.BeforeTime
import ZenonVerif.Gen.Nondet
/-
C05 — momentums come only from the elected pillar; the schedule is deterministic: property theorems only.
`sort` is ANY function returning a sorted permutation (Go's `sort.Sort` is not stable), `perm` is ANY
function returning permutations (Go's `math/rand.Perm`); both are parameters, never axioms.
-/
namespace ZV.C05
open ZV ZV.Consensus

/-! ## a. election -/

/-- T1: with at least one active pillar (and RandCount ≤ NodeCount, as configured) the
    election returns — it neither panics nor spins — and fills exactly `nodeCount` slots, also when there
    are fewer pillars than slots (the code then repeats the shuffled list). -/
theorem election_length (sort : List PD → List PD) (perm : Int → Nat → List Nat)
    (hs : IsSort sort) (hp : IsPerm perm) (n r : Nat) (hr : r ≤ n)
    (delegs : List PD) (hne : delegs ≠ []) (height : Nat) :
    ∃ l, selectProducers sort perm n r delegs height = .ok l ∧ l.length = n := by
  rcases Nat.lt_or_ge delegs.length n with hlt | hge
  · exact selectProducers_few hs hp r hlt hne height
  · obtain ⟨l, _, h, hl, _⟩ := selectProducers_enough hs hp hr hge height
    exact ⟨l, h, hl⟩

/-- with no active pillar at all the real loop `for len(result) < total` never ends (negative witness for
    the hypothesis `delegs ≠ []` of T1) -/
theorem election_empty_hangs :
    selectProducers sortPD (fun _ n => List.range n) Gen.NodeCount Gen.RandCount [] 7 = .hang := by decide +kernel

/-- RandCount > NodeCount is a misconfiguration on which the real code panics (negative witness for `r ≤ n`) -/
theorem election_rand_gt_node_panics :
    selectProducers sortPD (fun _ n => List.range n) 1 2 [⟨[97], [1], 5⟩] 7 = .panic := by decide

/-- T2: every elected entry is one of the delegations handed in (registered and active
    at the proof momentum) — for any `perm` whatsoever. -/
theorem election_members (sort : List PD → List PD) (perm : Int → Nat → List Nat) (hs : IsSort sort)
    (n r : Nat) (delegs : List PD) (height : Nat) (l : List PD)
    (h : selectProducers sort perm n r delegs height = .ok l) : ∀ x ∈ l, x ∈ delegs := by
  rw [selectProducers_eq] at h
  split at h
  · rename_i producers hprod
    exact fun x hx => (groups_perm hs n delegs).subset
      (List.mem_append.mpr (filterRandomSorted_mem hprod x (shuffle_mem h x hx)))
  · rename_i hno
    exact absurd h (hno l)

/-- T3: if the pillar names are distinct, permuting the input — and even
    exchanging the sorting algorithm — does not change the outcome. -/
theorem election_input_order_irrelevant (s1 s2 : List PD → List PD) (h1 : IsSort s1) (h2 : IsSort s2)
    (perm : Int → Nat → List Nat) (n r : Nat) (d1 d2 : List PD) (height : Nat)
    (hp : d1.Perm d2) (hn : (d1.map PD.name).Nodup) :
    selectProducers s1 perm n r d1 height = selectProducers s2 perm n r d2 height := by
  have key : s1 (filterByWeight s1 n d1).1 = s2 (filterByWeight s2 n d2).1 ∧
      s1 (filterByWeight s1 n d1).2 = s2 (filterByWeight s2 n d2).2 := by
    unfold filterByWeight
    rw [← hp.length_eq]
    split
    · exact ⟨sort_canonical h1 h2 hp hn, by rw [isSort_nil h1, isSort_nil h2]⟩
    · simp only
      rw [← sort_canonical h1 h2 hp hn]
      have hnn : ((s1 d1).map PD.name).Nodup := ((h1 d1).1.map PD.name).nodup_iff.mpr hn
      exact ⟨sort_canonical h1 h2 (.refl _) (hnn.sublist ((List.take_sublist _ _).map PD.name)),
        sort_canonical h1 h2 (.refl _) (hnn.sublist ((List.drop_sublist _ _).map PD.name))⟩
  rw [selectProducers_eq, selectProducers_eq, key.1, key.2]

/-- negative witness for the `Nodup` hypothesis of T3: two registrations with the same name and weight (the
    pillar contract excludes this) make the schedule depend on the input order. -/
theorem election_duplicate_names_order_dependent :
    selectProducers sortPD (fun _ n => List.range n) 2 1 [⟨[97], [1], 5⟩, ⟨[97], [2], 5⟩] 7 ≠
    selectProducers sortPD (fun _ n => List.range n) 2 1 [⟨[97], [2], 5⟩, ⟨[97], [1], 5⟩] 7 := by decide +kernel

/-- T4, as a statement about multisets: with at least as many pillars as slots the elected list is a
    sub-multiset of the delegations: together with the not-elected rest it is a permutation of the input. -/
theorem election_submultiset_when_enough (sort : List PD → List PD) (perm : Int → Nat → List Nat)
    (hs : IsSort sort) (hp : IsPerm perm) (n r : Nat) (hr : r ≤ n)
    (delegs : List PD) (hge : n ≤ delegs.length) (height : Nat) :
    ∃ l others, selectProducers sort perm n r delegs height = .ok l ∧ (l ++ others).Perm delegs := by
  obtain ⟨l, others, h, _, hperm⟩ := selectProducers_enough hs hp hr hge height
  exact ⟨l, others, h, hperm⟩

/-- T4: with enough pillars and distinct names nobody holds two slots. -/
theorem election_no_duplicate_when_enough (sort : List PD → List PD) (perm : Int → Nat → List Nat)
    (hs : IsSort sort) (hp : IsPerm perm) (n r : Nat) (hr : r ≤ n)
    (delegs : List PD) (hge : n ≤ delegs.length) (hn : (delegs.map PD.name).Nodup) (height : Nat) :
    ∃ l, selectProducers sort perm n r delegs height = .ok l ∧ (l.map PD.name).Nodup := by
  obtain ⟨l, others, h1, h2⟩ := election_submultiset_when_enough sort perm hs hp n r hr delegs hge height
  exact ⟨l, h1, ((h2.map PD.name).nodup_iff.mpr hn).sublist ((List.sublist_append_left l others).map PD.name)⟩

/-- with fewer pillars than slots somebody necessarily holds two slots (negative witness for `n ≤ length`) -/
theorem election_repeats_when_few :
    selectProducers sortPD (fun _ n => List.range n) 3 1 [⟨[97], [1], 5⟩, ⟨[98], [2], 5⟩] 7 =
      .ok [⟨[97], [1], 5⟩, ⟨[98], [2], 5⟩, ⟨[97], [1], 5⟩] := by decide +kernel

/-- hypotheses are satisfiable: the insertion sort is a sort, the identity permutation is a permutation -/
example : IsSort sortPD := sortPD_isSort
example : IsPerm (fun _ n => List.range n) := fun _ _ => List.Perm.refl _

/-! ## b. ticker (instants in nanoseconds; the interval is a whole number of seconds) -/

/-- `common.NewTicker(start, time.Second * ivs)` -/
def secTicker (start : Int) (ivs : Nat) : Ticker := ⟨start, nsPerSec * ivs⟩

/-- `ToTime k = [start + k·interval, start + (k+1)·interval)` as long as `(k+1)·interval` fits the int64
    nanosecond `Duration` (292 years after the start). -/
theorem ticker_toTime_spec (start : Int) (ivs k : Nat) (hiv : 0 < ivs)
    (h : nsPerSec * ivs * ((k : Int) + 1) ≤ maxDuration) :
    (secTicker start ivs).toTime k = (start + nsPerSec * ivs * k, start + nsPerSec * ivs * ((k : Int) + 1)) :=
  toTime_eq start _ k (Int.mul_pos (by decide) (Int.natCast_pos.mpr hiv)) h

/-- `ToTick(start + x seconds) = ⌊x / interval⌋` for every instant at or after the start (x within the
    292-year range in which `time.Sub` does not saturate). -/
theorem ticker_toTick_spec (start : Int) (ivs x : Nat) (hiv : 0 < ivs)
    (hivr : nsPerSec * ivs ≤ maxDuration) (hx : nsPerSec * x ≤ maxDuration) :
    (secTicker start ivs).toTick (start + nsPerSec * x) = some (x / ivs) := by
  unfold Ticker.toTick secTicker
  simp only
  rw [timeSub_add _ _ (ns_nonneg x) hx,
    durSeconds_mul, durSeconds_mul, toUInt64_natCast x (Nat.lt_trans (secs_lt hx) (by decide)),
    toUInt64_natCast ivs (Nat.lt_trans (secs_lt hivr) (by decide)), if_neg (Nat.ne_of_gt hiv)]

/-- `ToTime(ToTick t).start ≤ t < ToTime(ToTick t).end` for every whole-second instant t ≥ start. -/
theorem ticker_bracket (start : Int) (ivs x : Nat) (hiv : 0 < ivs)
    (hx : nsPerSec * ((x : Int) + ivs) ≤ maxDuration) :
    ∃ k, (secTicker start ivs).toTick (start + nsPerSec * x) = some k ∧
      ((secTicker start ivs).toTime k).1 ≤ start + nsPerSec * x ∧
      start + nsPerSec * x < ((secTicker start ivs).toTime k).2 := by
  have hx' : nsPerSec * ((x + ivs : Nat) : Int) ≤ maxDuration := hx
  refine ⟨x / ivs, ticker_toTick_spec start ivs x hiv (Int.le_trans (ns_le (Nat.le_add_left _ _)) hx')
    (Int.le_trans (ns_le (Nat.le_add_right _ _)) hx'), ?_⟩
  -- ivs·⌊x/ivs⌋ ≤ x < ivs·(⌊x/ivs⌋+1) ≤ x + ivs, in seconds
  have h1 : ivs * (x / ivs) ≤ x := Nat.mul_div_le x ivs
  have h2 : x < ivs * (x / ivs + 1) := Nat.lt_mul_div_succ x hiv
  rw [ticker_toTime_spec start ivs _ hiv (by
    rw [← Int.natCast_succ, secs_mul]; exact Int.le_trans (ns_le (Nat.add_le_add_right h1 ivs)) hx')]
  simp only [← Int.natCast_succ, secs_mul]
  exact ⟨Int.add_le_add_left (ns_le h1) _,
    Int.add_lt_add_left (Int.mul_lt_mul_of_pos_left (Int.ofNat_lt.mpr h2) (by decide)) _⟩

/-- `ToTick` is monotone (on whole-second instants at or after the start). -/
theorem ticker_mono (start : Int) (ivs x y : Nat) (hiv : 0 < ivs) (hivr : nsPerSec * ivs ≤ maxDuration)
    (hy : nsPerSec * y ≤ maxDuration) (hxy : x ≤ y) (a b : Nat)
    (ha : (secTicker start ivs).toTick (start + nsPerSec * x) = some a)
    (hb : (secTicker start ivs).toTick (start + nsPerSec * y) = some b) : a ≤ b := by
  rw [ticker_toTick_spec start ivs x hiv hivr (Int.le_trans (ns_le hxy) hy)] at ha
  rw [ticker_toTick_spec start ivs y hiv hivr hy] at hb
  cases ha; cases hb
  exact Nat.div_le_div_right hxy

/-- the start of tick k maps back to k -/
theorem ticker_roundtrip (start : Int) (ivs k : Nat) (hiv : 0 < ivs)
    (h : nsPerSec * ivs * ((k : Int) + 1) ≤ maxDuration) :
    (secTicker start ivs).toTick ((secTicker start ivs).toTime k).1 = some k := by
  have hI := ns_nonneg ivs
  rw [ticker_toTime_spec start ivs k hiv h]
  simp only [secs_mul]
  rw [ticker_toTick_spec start ivs (ivs * k) hiv (Int.le_trans (le_mul_succ hI k) h)
    (by rw [← secs_mul]; exact Int.le_trans (Int.mul_le_mul_of_nonneg_left (by omega) hI) h),
    Nat.mul_div_cancel_left k hiv]

/-- negative witness (why `ElectionByTime` refuses instants before genesis): one second before the start is
    tick ⌊(2^64−1)/300⌋ = 61489146912365172. -/
theorem ticker_before_start_is_huge :
    (secTicker (1000 * nsPerSec) 300).toTick (999 * nsPerSec) = some 61489146912365172 := by decide

/-- negative witness for the range hypothesis: 292 years after the start `interval * Duration(tick)` wraps
    around and the tick "ends" before the Unix epoch. -/
theorem ticker_wraps_after_292_years : ((secTicker 0 300).toTime 30744573).2 < 0 := by decide

/-- an interval of zero seconds (NodeCount = 0) is an integer division by zero -/
theorem ticker_zero_interval_panics : (secTicker 0 0).toTick nsPerSec = none := by decide

/-! ## c. schedule of a tick -/

/-- exactly one producer per slot: with `NodeCount` elected addresses the schedule has `NodeCount` entries and
    slot i is `[tickStart + i·B, tickStart + (i+1)·B)` held by the i-th elected pillar (B = block time). -/
theorem schedule_slot (c : Ctx) (tick : Nat) (addrs : List Bytes) (h : addrs.length = c.nodeCount) (i : Nat) :
    (generateProducers c tick addrs).length = c.nodeCount ∧
    (generateProducers c tick addrs)[i]? = addrs[i]?.map (fun a =>
      ⟨(c.ticker.toTime tick).1 + wrap64 (c.blockTime * nsPerSec) * i,
       (c.ticker.toTime tick).1 + wrap64 (c.blockTime * nsPerSec) * (i + 1), a⟩) := by
  unfold generateProducers
  rw [if_neg (by omega)]
  exact ⟨by rw [genEvents_length, h], genEvents_getElem? _ _ _ _⟩

/-- slots tile without gap or overlap: slot i ends exactly where slot i+1 starts -/
theorem schedule_no_gap (c : Ctx) (tick : Nat) (addrs : List Bytes) (h : addrs.length = c.nodeCount)
    (i : Nat) (p q : ProducerEvent) (hp : (generateProducers c tick addrs)[i]? = some p)
    (hq : (generateProducers c tick addrs)[i + 1]? = some q) : p.endTime = q.startTime := by
  rw [(schedule_slot c tick addrs h i).2] at hp
  rw [(schedule_slot c tick addrs h (i + 1)).2] at hq
  obtain ⟨a, _, rfl⟩ := Option.map_eq_some_iff.mp hp
  obtain ⟨b, _, rfl⟩ := Option.map_eq_some_iff.mp hq
  simp only [Int.natCast_succ]

/-- with the wrong number of addresses no schedule is produced at all -/
theorem schedule_wrong_count (c : Ctx) (tick : Nat) (addrs : List Bytes) (h : addrs.length ≠ c.nodeCount) :
    generateProducers c tick addrs = [] :=
  if_pos h

/-- the slots cover the tick exactly: the last slot ends at the end of the tick
    (positive block time and node count, tick within the 292-year range). -/
theorem schedule_covers_tick (genesis : Int) (bt n tick : Nat) (hbt : 0 < bt) (hn : 0 < n)
    (hr : nsPerSec * ((bt * n : Nat) : Int) * ((tick : Int) + 1) ≤ maxDuration) :
    ((Ctx.mk genesis bt n).ticker.toTime tick).2 =
      ((Ctx.mk genesis bt n).ticker.toTime tick).1 + wrap64 ((bt : Int) * nsPerSec) * n := by
  have h1 := Int.le_trans (le_mul_succ (ns_nonneg (bt * n)) tick) hr
  rw [ctx_ticker_secs genesis bt n hn h1,
    toTime_eq genesis _ tick (Int.mul_pos (by decide) (Int.natCast_pos.mpr (Nat.mul_pos hbt hn))) hr,
    Int.mul_comm (bt : Int) nsPerSec,
    wrap64_of_nonneg (ns_nonneg bt) (Int.le_trans (ns_le (Nat.le_mul_of_pos_right bt hn)) h1)]
  simp only
  rw [Int.mul_add, Int.mul_one, Int.add_assoc, Int.natCast_mul, Int.mul_assoc nsPerSec (bt : Int) (n : Int)]

/-- the producer for an instant is a function of (election result, instant): whatever `GetMomentumProducer`
    returns is the i-th elected address of the instant's tick, and the instant is EXACTLY the start of slot i. -/
theorem producer_sound (c : Ctx) (elected : Nat → Option (List Bytes)) (t : Int) (p : Bytes)
    (h : getMomentumProducer c elected t = .ok p) :
    c.genesis ≤ t ∧ ∃ (tick : Nat) (addrs : List Bytes) (i : Nat), c.ticker.toTick t = some tick ∧ elected tick = some addrs ∧
      addrs.length = c.nodeCount ∧ addrs[i]? = some p ∧
      t = (c.ticker.toTime tick).1 + wrap64 (c.blockTime * nsPerSec) * (i : Int) := by
  unfold getMomentumProducer at h
  obtain ⟨hg, h⟩ := of_ite_ne h nofun
  refine ⟨Int.not_lt.mp hg, ?_⟩
  split at h
  · cases h
  · rename_i tick htick
    obtain ⟨_, h⟩ := of_ite_ne h nofun
    split at h
    · cases h
    · rename_i addrs hel
      split at h
      · rename_i ev hfind
        cases h
        unfold generateProducers at hfind
        by_cases hlen : addrs.length ≠ c.nodeCount
        · rw [if_pos hlen] at hfind; cases hfind
        · rw [if_neg hlen] at hfind
          obtain ⟨i, h1, h2⟩ := genEvents_find_sound _ _ _ _ _ hfind
          exact ⟨tick, addrs, i, htick, hel, Decidable.not_not.mp hlen, h1, h2⟩
      · cases h

/-- conversely a slot start is answered with that slot's pillar, provided the block time is positive, the instant is
    not before genesis, and `ToTick` maps it back to the tick with `int64(tick) ≥ 0` (hypotheses here; `ticker_roundtrip`
    and `ticker_bracket` give them for whole-second tickers in range). -/
theorem producer_complete (c : Ctx) (elected : Nat → Option (List Bytes)) (tick : Nat) (addrs : List Bytes)
    (i : Nat) (a : Bytes) (hB : 0 < wrap64 (c.blockTime * nsPerSec))
    (hel : elected tick = some addrs) (hlen : addrs.length = c.nodeCount) (ha : addrs[i]? = some a)
    (hg : c.genesis ≤ (c.ticker.toTime tick).1 + wrap64 (c.blockTime * nsPerSec) * (i : Int))
    (htick : c.ticker.toTick ((c.ticker.toTime tick).1 + wrap64 (c.blockTime * nsPerSec) * (i : Int)) = some tick)
    (hpos : 0 ≤ toInt64 tick) :
    getMomentumProducer c elected ((c.ticker.toTime tick).1 + wrap64 (c.blockTime * nsPerSec) * (i : Int)) = .ok a := by
  unfold getMomentumProducer
  rw [if_neg (Int.not_lt.mpr hg), htick]
  simp only
  rw [if_neg (Int.not_lt.mpr hpos), hel]
  simp only
  unfold generateProducers
  rw [if_neg (fun h => h hlen), genEvents_find_complete _ hB _ _ _ _ ha]

/-- negative witness: an instant inside a slot that is not the slot start has no producer (a re-timed momentum
    is refused), while the slot start has one. -/
theorem producer_inside_slot_refused :
    getMomentumProducer ⟨0, 10, 3⟩ (fun _ => some [[1], [2], [3]]) (15 * nsPerSec) = .error .noSlotStartsHere ∧
    getMomentumProducer ⟨0, 10, 3⟩ (fun _ => some [[1], [2], [3]]) (10 * nsPerSec) = .ok [2] := by decide +kernel

/-! ## d. the proof momentum: `GetMomentumBeforeTime` = "last momentum with timestamp < t" -/

/-- partial correctness for EVERY instant (also sub-second ones) on a chain whose timestamps do not decrease:
    whenever the estimate-and-search code returns, it returns what the specification says. -/
theorem before_time_sound (ts : List Int) (tNs : Int) (hm : Mono ts) :
    (∀ h, getMomentumBeforeTime ts tNs = .found h → beforeSpec ts tNs = some h) ∧
    (getMomentumBeforeTime ts tNs = .none → beforeSpec ts tNs = none) := by
  rcases getMomentumBeforeTime_weakGood hm tNs with h | h | h
  · rw [h]; exact ⟨nofun, nofun⟩
  · rw [h]; exact ⟨nofun, nofun⟩
  · rw [eq_spec_of_good hm h]
    cases beforeSpec ts tNs <;> simp

/-- total correctness for whole-second instants below 2^62 (every instant the consensus code asks for: tick boundaries
    of a whole-second genesis) on chains with non-decreasing, non-negative timestamps and fewer than 2^62 momentums:
    the code returns exactly the specification's answer — it neither fails nor spins. -/
theorem before_time_eq_spec (ts : List Int) (tSec : Int) (hm : Mono ts) (hne : ts ≠ [])
    (hr : ∀ h, 1 ≤ h → h ≤ ts.length → 0 ≤ T ts h) (ht : tSec < two62) (hH : (ts.length : Int) < two62) :
    getMomentumBeforeTime ts (tSec * nsPerSec) =
      (match beforeSpec ts (tSec * nsPerSec) with | some h => BT.found h | none => BT.none) :=
  eq_spec_of_good hm (getMomentumBeforeTime_good hm (List.length_pos_iff.mpr hne) hr ht hH)

/-- negative witness for "whole-second": for an instant half a second after a momentum the estimate can land on
    that momentum with `timeSec - block.ts = 0` and the real loop never advances (no caller passes such an instant:
    proof times are tick boundaries, the RPC takes whole seconds). -/
theorem before_time_subsecond_hangs :
    getMomentumBeforeTime [100, 101, 102, 103] (102 * nsPerSec + 500000000) = .hang := by decide +kernel

/-- the hypotheses are satisfiable and the answer is the expected one on a chain with gaps -/
example : getMomentumBeforeTime [100, 150, 160, 470, 480] (470 * nsPerSec) = .found 3 := by decide +kernel

/-- T5 (chain part): the proof momentum of a tick is determined by the chain
    prefix up to it. If a second chain (another node, the same node after a restart or a reorganisation) has the
    same first h timestamps and either ends there or continues with a momentum at or after the proof time, it
    selects the same proof height. -/
theorem proof_momentum_prefix_determined (ts1 ts2 : List Int) (tNs : Int) (hm2 : Mono ts2) (h : Nat)
    (hspec : beforeSpec ts1 tNs = some h) (hagree : ts2.take h = ts1.take h) (hlen : h ≤ ts2.length)
    (hnext : h = ts2.length ∨ T ts2 (h + 1) * nsPerSec ≥ tNs) : beforeSpec ts2 tNs = some h := by
  obtain ⟨a1, a2, a3⟩ := beforeSpec_some hspec
  refine beforeSpec_eq_some hm2 ⟨a1, hlen, ?_, hnext⟩
  rwa [← T_take ts2 a1 (Nat.le_refl h), hagree, T_take ts1 a1 (Nat.le_refl h)]

/-- T5 (cache part): the election result is cached under the proof momentum's hash. If every cached entry was
    produced by the computation for its key (the cache is only written by `generateProducers`), then the answer from
    the cache equals the answer computed cold, and the updated cache keeps that property — whatever was inserted,
    rolled back or restarted in between (`DeleteMomentum` never touches the cache). -/
theorem cached_election_eq_recomputed (cache : Bytes → Option (List Bytes)) (compute : Bytes → List Bytes)
    (hc : ∀ h r, cache h = some r → r = compute h) (proofHash : Bytes) :
    (generateProducersCached cache compute proofHash).1 = compute proofHash ∧
    ∀ h r, (generateProducersCached cache compute proofHash).2 h = some r → r = compute h := by
  unfold generateProducersCached
  cases hcp : cache proofHash with
  | some r => exact ⟨hc _ _ hcp, hc⟩
  | none =>
    refine ⟨rfl, fun h r hr => ?_⟩
    simp only at hr
    split at hr
    · rename_i heq; cases hr; rw [heq]
    · exact hc h r hr

/-- generated fact (AST of vm, verifier, chain, consensus, common/db, common/types, regenerated on every run): no
    function of these packages refers to the PROCESS-WIDE random generators — the package-level functions of
    math/rand (`rand.Seed`, `rand.Perm`, `rand.Intn`, …), math/rand/v2 or crypto/rand, under whatever import name.
    The model's `perm` parameter is a function of (seed, n) alone; that is what `rand.New(rand.NewSource(seed)).Perm(n)`
    on a locally seeded generator is, and what a draw from the generator shared with every other goroutine of the
    node (p2p, fetcher, discovery, concurrent elections) is not. The election stream exercises the same claim
    dynamically: every election is repeated while other goroutines draw from and re-seed the process-wide generator. -/
theorem election_uses_no_process_wide_randomness : Gen.globalRandSites = [] := rfl

/-! ## e. momentum verifier -/

/-- the generated check order is the one the statement needs (a removed / reordered check breaks this) -/
theorem verifier_check_order :
    Gen.MV_Momentum_calls = ["getContext", "all"] ∧
    Gen.MV_raw_all = ["chainIdentifier", "version", "timestamp", "previous", "data", "content"] ∧
    Gen.MV_MomentumTransaction_calls = ["all"] ∧
    Gen.MV_tx_all = ["changesHash", "hash", "signature", "producer"] ∧
    Gen.SV_ApplyMomentum_calls = ["Momentum", "newMomentumContext", "NewMomentumVM", "applyMomentum", "packMomentum"] ∧
    "MomentumTransaction" ∈ Gen.SV_packMomentum_calls :=
  ⟨rfl, rfl, rfl, rfl, rfl, by simp [Gen.SV_packMomentum_calls]⟩

/-- each check rejects with the errors, and under the conditions, the model assumes (AST of the check bodies) -/
theorem verifier_check_bodies :
    Gen.MV_if_getContext = ["momentum.Height == 1", "momentum.PreviousHash.IsZero()", "momentumStore == nil"] ∧
    Gen.MV_ret_getContext = ["ErrMNotGenesis", "ErrMPrevHashMissing", "ErrMPreviousMissing", "nil"] ∧
    Gen.MV_if_chainIdentifier = ["rmv.momentum.ChainIdentifier == 0",
      "rmv.momentum.ChainIdentifier != rmv.momentumStore.ChainIdentifier()"] ∧
    Gen.MV_ret_chainIdentifier = ["ErrABChainIdentifierMissing", "ErrABChainIdentifierMismatch", "nil"] ∧
    Gen.MV_if_version = ["rmv.momentum.Version == 0", "rmv.momentum.Version != 1"] ∧
    Gen.MV_ret_version = ["ErrMVersionMissing", "ErrMVersionInvalid", "nil"] ∧
    Gen.MV_if_timestamp = ["rmv.momentum.Timestamp.Unix() == 0",
      "rmv.momentum.Timestamp.After(time.Now().Add(time.Second * 10))", "err != nil",
      "previous.TimestampUnix >= rmv.momentum.TimestampUnix"] ∧
    Gen.MV_ret_timestamp = ["ErrMTimestampMissing", "ErrMTimestampInTheFuture", "InternalError",
      "ErrMTimestampNotIncreasing", "nil"] ∧
    Gen.MV_if_previous = ["rmv.momentum.Height == 1", "rmv.momentum.PreviousHash.IsZero()", "err != nil",
      "rmv.momentum.Previous() != previous.Identifier()"] ∧
    Gen.MV_ret_previous = ["ErrMNotGenesis", "ErrMPrevHashMissing", "InternalError", "ErrMPreviousMissing", "nil"] ∧
    Gen.MV_if_data = ["len(rmv.momentum.Data) != 0"] ∧
    Gen.MV_ret_data = ["ErrMDataMustBeZero", "nil"] ∧
    Gen.MV_if_content = ["len(rmv.momentum.Content) > chain.MaxAccountBlocksInMomentum",
      "len(blocksLookup) != len(rmv.momentum.Content)", "!ok", "err != nil", "pastFrontier == nil",
      "isBatched(block)", "!ok", "block.Previous() != previous"] ∧
    Gen.MV_ret_content = ["ErrMContentTooBig", "Errorf", "InternalError", "Errorf", "Errorf", "nil"] ∧
    Gen.MV_if_changesHash = ["computedHash != transaction.Momentum.ChangesHash"] ∧
    Gen.MV_ret_changesHash = ["ErrMChangesHashInvalid", "nil"] ∧
    Gen.MV_if_hash = ["computedHash != momentum.Hash"] ∧
    Gen.MV_ret_hash = ["ErrMHashInvalid", "nil"] ∧
    Gen.MV_if_signature = ["len(momentum.Signature) == 0", "len(momentum.PublicKey) == 0", "err != nil", "!isVerified"] ∧
    Gen.MV_ret_signature = ["ErrMSignatureMissing", "ErrMPublicKeyMissing", "InternalError", "ErrMSignatureInvalid", "nil"] ∧
    Gen.MV_if_producer = ["err != nil", "!result"] ∧
    Gen.MV_ret_producer = ["InternalError", "ErrMProducerInvalid", "nil"] :=
  ⟨rfl, rfl, rfl, rfl, rfl, rfl, rfl, rfl, rfl, rfl, rfl, rfl, rfl, rfl, rfl, rfl, rfl, rfl, rfl, rfl, rfl, rfl⟩

/-- the producer lookup compares the slot start with the timestamp for EQUALITY, guards instants before genesis,
    and the election code has the shape the model follows (AST) -/
theorem consensus_code_shape :
    Gen.CS_if_GetMomentumProducer = ["err != nil", "plan.StartTime == timestamp"] ∧
    Gen.CS_calls_GetMomentumProducer = ["ElectionByTime", "Errorf"] ∧
    Gen.CS_if_VerifyMomentumProducer = ["err != nil", "momentum.Producer() == *expected"] ∧
    Gen.EL_if_ElectionByTime = ["t.Before(em.GenesisTime)"] ∧
    Gen.EL_if_generateProducers = ["len(producerAddresses) != int(info.NodeCount)"] ∧
    Gen.EL_if_genProofTime = ["tick < 2"] ∧
    Gen.EA_ret_findSeed = ["int64(context.hashH.Height)"] ∧
    Gen.EA_calls_SelectProducers = ["filterByWeight", "filterRandom", "shuffleOrder"] ∧
    Gen.EA_if_filterByWeight = ["len(context.delegations) <= int(ea.group.NodeCount)"] ∧
    Gen.EA_if_filterRandom = ["total != len(groupA)"] ∧
    Gen.EA_ret_filterRandom = ["result[:total]", "result"] ∧
    Gen.PD_Less_if = ["r == 0"] ∧ Gen.PD_Less_ret = ["a[i].Name < a[j].Name", "r < 0"] ∧
    Gen.RandCount ≤ Gen.NodeCount ∧ 0 < Gen.NodeCount ∧ 0 < Gen.BlockTime ∧ Gen.MomentumFutureSeconds = 10 :=
  ⟨rfl, rfl, rfl, rfl, rfl, rfl, rfl, rfl, rfl, rfl, rfl, rfl, rfl, by decide, by decide, by decide, rfl⟩

/-- T6: a momentum accepted by `ApplyMomentum` (cache consistent with the hashed
    timestamp, as `EnsureCache` makes it) has a valid chain id and version, names as previous exactly the
    frontier of a store the node holds (hash and height), has a strictly later timestamp that is at most
    `MomentumFutureSeconds` ahead of the clock, carries no data, lists at most 100 blocks all of which were
    prefetched, its changes hash is the hash of the state changes, its hash is the hash of its content, the
    signature over the hash verifies, and the signer is the pillar `GetMomentumProducer` returns for the timestamp. -/
theorem momentum_verify_sound (s : VState) (now : Int) (m : Momentum) (blocks : List PBlock) (o : Oracle)
    (hcache : m.tsCache = nsPerSec * m.tsUnix)
    (h : verifyMomentum s now m blocks o = .ok ()) :
    ∃ v, s.storeAt m.prevHash (prevHeight m) = some v ∧ m.height ≠ 1 ∧
      m.chainId ≠ 0 ∧ m.chainId = v.chainId ∧ m.version = 1 ∧
      m.prevHash = v.fHash ∧ prevHeight m = v.fHeight ∧
      v.fTs < m.tsUnix ∧ nsPerSec * (m.tsUnix : Int) ≤ now + nsPerSec * Gen.MomentumFutureSeconds ∧
      m.dataLen = 0 ∧
      m.content.length ≤ Gen.MaxAccountBlocksInMomentum ∧
      (∀ hd ∈ m.content, ∃ b ∈ blocks, b.hash = hd.hash ∧ b.height = hd.height) ∧
      o.patchHash = m.changesHash ∧ o.computedHash = m.hash ∧ o.sigOk = true ∧
      s.expected (nsPerSec * m.tsUnix) = .ok o.producer := by
  unfold verifyMomentum at h
  split at h
  · cases h
  · rename_i v hctx
    obtain ⟨c1, _, c3⟩ := getContext_ok hctx
    split at h
    · cases h
    · rename_i hraw
      obtain ⟨_, h⟩ := of_ite_ne h nofun
      -- the generated check lists are replaced by the reviewed literals: a check removed from the Go code changes
      -- `Gen.MV_raw_all` / `Gen.MV_tx_all`, `verifier_check_order` fails, and with it this proof
      rw [verifier_check_order.2.1] at hraw
      rw [verifier_check_order.2.2.2.1] at h
      simp only [runAll_cons_ok, rawCheck] at hraw
      simp only [runAll_cons_ok, txCheck] at h
      obtain ⟨r1, r2, r3, r4, r5, r6, _⟩ := hraw
      obtain ⟨t1, t2, t3, t4, _⟩ := h
      have a1 := chkChainIdentifier_ok r1
      have a3 := chkTimestamp_ok r3
      have a4 := chkPrevious_ok r4
      have a6 := chkContent_ok r6
      have b4 := chkProducer_ok t4
      rw [hcache] at a3 b4
      exact ⟨v, c3, c1, a1.1, a1.2, chkVersion_ok r2, a4.1, a4.2, a3.2.2, a3.2.1, chkData_ok r5, a6.1, a6.2.2,
        chkChangesHash_ok t1, chkHash_ok t2, (chkSignature_ok t3).2.2, b4⟩

/-- T6 + c: with `GetMomentumProducer` as modelled, an accepted momentum is signed by the i-th elected pillar of
    its tick and its timestamp is exactly the start of slot i. -/
theorem accepted_momentum_from_elected_pillar (c : Ctx) (elected : Nat → Option (List Bytes))
    (storeAt : Bytes → Nat → Option StoreView) (now : Int) (m : Momentum) (blocks : List PBlock) (o : Oracle)
    (hcache : m.tsCache = nsPerSec * m.tsUnix)
    (h : verifyMomentum ⟨storeAt, getMomentumProducer c elected⟩ now m blocks o = .ok ()) :
    o.sigOk = true ∧ ∃ (tick : Nat) (addrs : List Bytes) (i : Nat),
      c.ticker.toTick (nsPerSec * m.tsUnix) = some tick ∧ elected tick = some addrs ∧
      addrs.length = c.nodeCount ∧ addrs[i]? = some o.producer ∧
      nsPerSec * (m.tsUnix : Int) = (c.ticker.toTime tick).1 + wrap64 (c.blockTime * nsPerSec) * (i : Int) := by
  obtain ⟨_, _, _, _, _, _, _, _, _, _, _, _, _, _, _, hs, hp⟩ := momentum_verify_sound _ now m blocks o hcache h
  exact ⟨hs, (producer_sound c elected _ _ hp).2⟩

/-- "directly extends the node's frontier": the verifier alone accepts a momentum on top of ANY momentum whose store
    the node still holds (a sibling of the frontier passes `ApplyMomentum`); it is the insertion that requires the
    parent to be the node's frontier. A momentum that was accepted AND changed the ledger extends the frontier. -/
theorem inserted_momentum_extends_frontier (frontier : Bytes × Nat) (m : Momentum)
    (h : addMomentum frontier m ≠ frontier) :
    m.prevHash = frontier.1 ∧ prevHeight m = frontier.2 ∧ addMomentum frontier m = (m.hash, m.height) := by
  unfold addMomentum at *
  split
  · rename_i hc; exact ⟨hc.1, hc.2, rfl⟩
  · rename_i hc; rw [if_neg hc] at h; exact absurd rfl h

/-- negative witness for the cache hypothesis: a (locally built) momentum whose `Timestamp` cache differs from the
    hashed `TimestampUnix` passes the timestamp check on the strength of the cache (the producer check reads the same
    field) — deserialised momentums are always consistent (`EnsureCache`). -/
theorem verify_uses_timestamp_cache :
    chkTimestamp ⟨1, [1], 5, 100, fun _ => none⟩ (1000 * nsPerSec)
      ⟨1, 1, 6, 999999, 110 * nsPerSec, [], [1], [], 0, [], 32, 64⟩ = .ok () := by decide +kernel

/-- the verifier's decision is satisfiable: a well-formed momentum on a one-momentum store is accepted -/
example : verifyMomentum
    ⟨fun h n => if h = [1] ∧ n = 5 then some ⟨1, [1], 5, 100, fun _ => none⟩ else none, fun _ => .ok [7]⟩
    (1000 * nsPerSec) ⟨1, 1, 6, 110, 110 * nsPerSec, [2], [1], [3], 0, [], 32, 64⟩ []
    ⟨[2], true, [3], false, true, [7]⟩ = .ok () := by decide +kernel

end ZV.C05
