import ZenonVerif.Model.PeerDesc
import ZenonVerif.Props.C01
/-
C01, peer-delivered contract blocks: the descendants a node applies and stores for a contract receive are the ones it
regenerated, never the ones a peer delivered. Hence the ledger step a FOLLOWER takes for a delivered contract receive is
the producer's step (`crecv` with the regenerated descendants) and conservation (T1) carries over whatever the peer put
into the descendant blocks. Tie: peerdesc stream, lines `PD-deliver` (Driver/PeerDesc.lean): real follower, lying peer.
-/
namespace ZV.C01Peer
open ZV.Ledger ZV.PeerDesc

/-- what is stored after an accepted delivery is the regenerated list -/
theorem stored_descendants_are_regenerated {α : Type} (gen ds : List α) (d : Delivery α)
    (h : accept gen d = some ds) : ds = gen := by
  unfold accept at h
  split at h
  · exact (Option.some.inj h).symm
  · cases h

/-- the content of the delivered descendant objects plays no part: verdict and stored blocks are the same for every
    list of descendant objects delivered under the same hash fields -/
theorem delivered_descendant_content_irrelevant {α : Type} (gen : List α) (d : Delivery α) (descs' : List α) :
    accept gen { d with descs := descs' } = accept gen d := rfl

/-- a delivery whose own covered fields do not hash to the delivered hash field is refused -/
theorem altered_own_field_refused {α : Type} (gen : List α) (d : Delivery α) (h : d.ownOk = false) :
    accept gen d = none := by
  simp [accept, h]

/-- a copy delivered while the node holds the block changes nothing -/
theorem delivery_of_held_block_ignored {α : Type} (held : List α) (d : Delivery α) : acceptHeld held d = held := rfl

/-- the follower's ledger step for an accepted delivery IS the step with the regenerated descendants - the delivered
    descendants `d.descs` do not occur in it - and it preserves well-formedness and conservation (T1) -/
theorem follower_step_conserves_whatever_is_delivered (s s' : State) (c : Addr) (h : Hash) (status : Nat)
    (gen ds : List Desc) (d : Delivery Desc) (hacc : accept gen d = some ds)
    (hg : s.gate = true) (hw : WF s) (hc : Conserved s) (hf : Fresh s (.crecv c h status gen))
    (hok : step s (.crecv c h status ds) = .ok s') :
    step s (.crecv c h status gen) = .ok s' ∧ WF s' ∧ Conserved s' := by
  have e := stored_descendants_are_regenerated gen ds d hacc
  subst e
  exact ⟨hok, ZV.C01.conservation_step s s' _ hg hw hc hf hok⟩

/-- non-vacuity: a refund of 5 delivered with the amount tripled is accepted and stored with 5 -/
example : accept [(⟨17, znnTok, 5, 1, .none⟩ : Desc)]
    { ownOk := true, changesSame := true, hashSame := true, descs := [⟨17, znnTok, 15, 1, .none⟩] }
    = some [⟨17, znnTok, 5, 1, .none⟩] := by decide

end ZV.C01Peer
