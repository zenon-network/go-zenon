import ZenonVerif.Model.Rpc
/-
C18 — RPC paging: property theorems only.
-/
namespace ZV.C18
open ZV ZV.Rpc

/-- T1: for every index, count and length, GetRange is the statement's slice. -/
theorem get_range (i c n : Nat) : getRange i c n = rangeSpec i c n := by
  unfold getRange rangeSpec
  simp only []   -- unfolds the `let`s of `getRange`, which `split` does not see through
  split
  · rw [Nat.min_eq_right ‹_›, Nat.min_eq_right (by omega)]
  · split
    · rw [Nat.min_eq_left (by omega), Nat.min_eq_right ‹_›]
    · rw [Nat.min_eq_left (by omega), Nat.min_eq_left (by omega)]

/-- slice is well-formed and never longer than the page size -/
theorem get_range_bounds (i c n : Nat) :
    (getRange i c n).1 ≤ (getRange i c n).2 ∧ (getRange i c n).2 ≤ n ∧
    (getRange i c n).2 - (getRange i c n).1 ≤ c := by
  rw [get_range]
  unfold rangeSpec
  omega

/-- T1′, the pages tile the list — in four statements: page i+1 starts where page i ends (this one), page 0 starts at 0
    (`page_zero_start`), by page n at the latest the end of the list is reached (`pages_cover`), and the element at
    position p lies on page p / c and on no other (`element_on_unique_page`). -/
theorem pages_contiguous (i c n : Nat) : (getRange (i + 1) c n).1 = (getRange i c n).2 := by
  rw [get_range, get_range]
  unfold rangeSpec
  rw [Nat.add_mul]
  omega

theorem page_zero_start (c n : Nat) : (getRange 0 c n).1 = 0 := by
  rw [get_range]; unfold rangeSpec; simp

/-- a list of length n is exhausted by page INDEX n at the latest (each page before holds at least one element) -/
theorem pages_cover (c n : Nat) (hc : 0 < c) : (getRange n c n).2 = n := by
  rw [get_range]
  unfold rangeSpec
  have : n ≤ n * c := Nat.le_mul_of_pos_right n hc
  omega

/-- the element at list position p (< n) lies on page p / c and on no other page -/
theorem element_on_unique_page (p c n i : Nat) (hc : 0 < c) (hp : p < n) :
    ((getRange i c n).1 ≤ p ∧ p < (getRange i c n).2) ↔ i = p / c := by
  rw [get_range, eq_comm, Nat.div_eq_iff hc]
  unfold rangeSpec
  omega

/-- N1 (negative witness, pre-fix code): with uint32 arithmetic page 4194304 of size 1024 of a
    10-element list is page 0 again (finding F2 of DESIGN.md's table of findings). -/
theorem get_range32_wraps : getRange32 4194304 1024 10 = (0, 10) ∧ rangeSpec 4194304 1024 10 = (10, 10) := by
  decide

/-- T2: for every chain height H, page index i (with i+1 < 2^32) and page size c, the page is
    empty when the chain has at most i·c elements, and otherwise requests exactly the height interval
    [max 1 (H − (i+1)·c + 1), H − i·c]. -/
theorem by_page_height (H i c : Nat) (hi : i + 1 < two32) :
    pageRequest H i c =
      if H ≤ i * c ∨ c = 0 then none
      else some (max 1 (H + 1 - (i + 1) * c), min c (H - i * c)) := by
  unfold pageRequest
  simp only [Nat.mod_eq_of_lt hi, Nat.add_mul, Nat.one_mul]
  have e : ((i + 1 : Nat) : Int) * (c : Int) = ((i * c + c : Nat) : Int) := by
    rw [← Int.natCast_mul, Nat.add_mul, Nat.one_mul]
  rw [e]
  generalize i * c = ic
  by_cases h1 : H ≤ ic ∨ c = 0
  · rw [if_pos h1, if_pos (by split <;> omega)]
  · rw [if_neg h1, if_neg (by split <;> omega)]
    congr 1
    simp only [Prod.mk.injEq]
    constructor <;> split <;> omega

/-- a non-empty page in linear terms: it ends at height `H - i * c` and starts `c` below that, or at height 1 -/
private theorem pageRequest_some (H i c s n : Nat) (hi : i + 1 < two32) (h : pageRequest H i c = some (s, n)) :
    i * c < H ∧ 1 ≤ n ∧ s + n + i * c = H + 1 ∧ (s = 1 ∧ n ≤ c ∨ 1 ≤ s ∧ n = c) := by
  rw [by_page_height H i c hi, Nat.add_mul, Nat.one_mul] at h
  split at h
  · cases h
  · cases h
    omega

/-- the page never asks for more than the page size and never reaches below height 1 or above H -/
theorem page_request_bounds (H i c s n : Nat) (hi : i + 1 < two32) (h : pageRequest H i c = some (s, n)) :
    1 ≤ s ∧ 1 ≤ n ∧ n ≤ c ∧ s + n - 1 = H - i * c ∧ s + n - 1 ≤ H := by
  have := pageRequest_some H i c s n hi h
  omega

/-- consecutive pages are adjacent: page i+1 ends right below where page i starts. With
    `first_page_ends_at_frontier` and `page_request_bounds` (every page stays within 1..H): paging through the indices
    yields the heights from H downwards without gap or repetition. -/
theorem pages_adjacent (H i c s n s' n' : Nat) (hi : i + 2 < two32)
    (h : pageRequest H i c = some (s, n)) (h' : pageRequest H (i + 1) c = some (s', n')) :
    s' + n' = s := by
  have h1 := pageRequest_some H i c s n (by omega) h
  have h2 := pageRequest_some H (i + 1) c s' n' (by omega) h'
  rw [Nat.add_mul, Nat.one_mul] at h2
  omega

theorem first_page_ends_at_frontier (H c s n : Nat) (h : pageRequest H 0 c = some (s, n)) : s + n - 1 = H := by
  have := page_request_bounds H 0 c s n (by decide) h
  omega

/-- T3: a by-height query returns only heights that exist, inside the requested window, in
    ascending order without repetition, and never more than `count` of them -/
theorem by_height_bounds (H h count : Nat) :
    (∀ x ∈ byHeight H h count, 1 ≤ x ∧ x ≤ H ∧ h ≤ x ∧ x < h + count) ∧ (byHeight H h count).length ≤ count ∧
    (byHeight H h count).Pairwise (· < ·) := by
  unfold byHeight
  refine ⟨?_, ?_, ?_⟩
  · intro x hx
    simp only [List.mem_filter, List.mem_map, List.mem_range, decide_eq_true_eq] at hx
    obtain ⟨⟨k, hk, rfl⟩, h1, h2, _⟩ := hx
    omega
  · exact Nat.le_trans (List.length_filter_le _ _) (by simp)
  · apply List.Pairwise.filter
    rw [List.pairwise_map]
    exact List.Pairwise.imp (fun hab => by omega) List.pairwise_lt_range

/-- every existing height of the window is returned -/
theorem by_height_complete (H h count x : Nat) (hH : H < two64) (h1 : 1 ≤ x) (h2 : x ≤ H) (h3 : h ≤ x) (h4 : x < h + count) :
    x ∈ byHeight H h count := by
  unfold byHeight
  simp only [List.mem_filter, List.mem_map, List.mem_range, decide_eq_true_eq]
  exact ⟨⟨x - h, by omega, by omega⟩, h1, h2, by omega⟩

/-- N (excluded point, shown for completeness): at pageIndex = 2^32 − 1 the uint32 increment wraps to 0 and the
    request starts above the frontier — the page is empty, never a repeat of earlier elements -/
theorem last_index_wraps_to_empty : pageHeights 100 4294967295 10 = [] ∧ pageHeights 100 0 10 = [100, 99, 98, 97, 96, 95, 94, 93, 92, 91] := by
  decide

end ZV.C18
