import ZenonVerif.Lemmas.PoolMulti
import ZenonVerif.Lemmas.PoolFilter
import ZenonVerif.Props.C14
/-
C14 — the WHOLE unconfirmed pool: any number of addresses, transactions with several commits (a contract receive with
its descendant sends). Theorems over Model/PoolMulti.lean, for all operation sequences (`Reachable`), by induction.
-/
namespace ZV.C14Multi
open ZV ZV.PoolMulti
-- The block-level notions (`Blk`, `Linked`, `lastId`, `byHeight`, …) are those of the one-address model. Where both models
-- define a name, the whole-pool one is meant here and the one-address one is hidden.
open ZV.Pool hiding Mgr PState Op OpOK Reachable step insertMomentum deleteMomentum canRollback addAll rollbackTo
  uncommittedBlocks MgrOK Inv

/-- `pool_single_chain_multi`: in every reachable state, for EVERY address, the manager is built on the current
    confirmed chain; the pooled transactions, flattened, form one chain on top of it (the first block's Previous() is the
    stable identifier, every other block's is its predecessor's identifier: links by hash AND height), the heights are
    stable+1, stable+2, … without gap; and this chain is what the pool lists for the address. -/
theorem pool_single_chain_multi (s : PoolSt) (hr : Reachable s) (a : Addr) :
    (s a).manager.base = (s a).confirmed ∧
    Linked (lastId (s a).confirmed) (flat (s a).manager.pooled) ∧
    (∀ (i : Nat) (h : i < (flat (s a).manager.pooled).length),
      (flat (s a).manager.pooled)[i].height = (lastId (s a).confirmed).2 + 1 + i) ∧
    uncommittedBlocks (s a) = some (flat (s a).manager.pooled) := by
  have hi := PoolMulti.reachable_inv hr a
  obtain ⟨h1, h2, h3, _, _⟩ := PoolMulti.manager_ok hi
  exact ⟨h1, h2, linked_heights _ _ h2 h3, uncommitted_spec hi⟩

/-- `confirmed_never_displaced_multi`: a transaction (of any number of commits, forced or not) whose head lies at or
    below the confirmed height of its address is answered "already inserted" — exactly when its head IS the confirmed
    block of that height — or refused as older than the stable identifier; the pool keeps its transactions; the frontier
    store answers every height up to the confirmed one with the confirmed block. -/
theorem confirmed_never_displaced_multi (s : PoolSt) (hr : Reachable s) (a : Addr) (t : Tx) (f : Bool) (ht : TxWF t)
    (hle : t.head.height ≤ (lastId (s a).confirmed).2) :
    ((addAt s a t f).2 = .already ∨ (addAt s a t f).2 = .olderThanStable) ∧
    (addAt s a t f).1 a = { s a with mgr := some (s a).manager } ∧
    ((addAt s a t f).2 = .already ↔ (byHeight (s a).confirmed t.head.height).map Blk.id = some t.id) ∧
    ∀ h, h ≤ (lastId (s a).confirmed).2 → byHeight (s a).manager.view h = byHeight (s a).confirmed h := by
  have hi := PoolMulti.reachable_inv hr a
  obtain ⟨h1, h2, h3, _, _⟩ := PoolMulti.manager_ok hi
  obtain ⟨hvl, hvh⟩ := PoolMulti.view_chain hi
  -- pooled commits lie strictly above the confirmed height
  have hview : ∀ h, h ≤ (lastId (s a).confirmed).2 → byHeight (s a).manager.view h = byHeight (s a).confirmed h := by
    intro h hh
    rw [Mgr.view, byHeight_append, byHeight_low _ _ h2 h3 h hh, h1]; rfl
  -- not a fast-forward: the frontier is at or above the confirmed height, `Previous()` lies below the head
  have hpl : t.prev.2 < t.head.height := (linked_mem_height _ _ ht.1 ht.2.1 t.head (head_mem_commits t)).1
  have hne : t.prev ≠ (s a).manager.frontierId := ne_lastId_of_lt hvl hvh (by
    rw [Mgr.view, h1, List.length_append, ← chain_last_height _ hi.1 hi.2.1]
    omega)
  have hcr : canRollback (s a).confirmed (s a).manager t = some .olderThanStable := by
    unfold canRollback; rw [if_pos hle]
  have hadd : addTx (s a) t f = ({ s a with mgr := some (s a).manager },
      if (byHeight (s a).confirmed t.head.height).map Blk.id = some t.id then .already else .olderThanStable) := by
    simp only [addTx, addTxWith, hne, if_false, hview t.head.height hle, hcr]
    split <;> rfl
  simp only [addAt, upd, hadd, if_true]
  refine ⟨?_, trivial, ?_, hview⟩ <;> split <;> simp [*]

/-- no pool operation other than the chain's own rollback (`deleteMomentum`) shortens or rewrites a confirmed chain:
    adding leaves every confirmed chain as it is, a momentum extends them -/
theorem confirmed_chain_only_grows (s : PoolSt) :
    (∀ a t f b, ((addAt s a t f).1 b).confirmed = (s b).confirmed) ∧
    (∀ c b, (insertMomentum s c b).confirmed = (s b).confirmed ++ contentOf c b) := by
  constructor
  · intro a t f b
    simp only [addAt, upd]
    split
    · rename_i hb; subst hb
      obtain ⟨_, _, he, _⟩ := addTxWith_cases Mgr.pop PoolMulti.canRollback (fun _ _ tb => tb) (s b) t f
      rw [addTx, he]
    · rfl
  · intro c b
    simp only [insertMomentum, confirmAll, rebuildAddr, rebuildWith]
    repeat' split
    all_goals rfl

/-- `transactions_atomic` (state): in every reachable state, for every address, the pool IS a list of whole well-formed
    transactions: what it lists (`GetUncommittedAccountBlocksByAddress`) is their commits in order, and `GetPatch`
    answers for an identifier iff it is a commit of one of them — no transaction is in the pool in part. -/
theorem transactions_atomic (s : PoolSt) (hr : Reachable s) (a : Addr) :
    uncommittedBlocks (s a) = some (flat (s a).manager.pooled) ∧
    (∀ i, hasPatch s a i = true ↔ i ∈ (flat (s a).manager.pooled).map Blk.id) ∧
    ∀ t ∈ (s a).manager.pooled, TxWF t := by
  have hi := PoolMulti.reachable_inv hr a
  have hm := PoolMulti.manager_ok hi
  refine ⟨uncommitted_spec hi, fun i => ?_, pooled_txwf hm⟩
  simp only [hasPatch, Mgr.hasPatch, List.contains_eq_mem, decide_eq_true_eq]
  exact hm.2.2.2.2 i

/-- `transactions_atomic` (step): every operation keeps or removes the pooled transactions of an address as wholes —
    an add keeps the first `j` of them and possibly appends the offered one (fast-forward: all of them; replace: the
    ones below the fork; a failed rollback: the ones it did not pop), a momentum keeps exactly `keptBy` (a suffix of
    whole transactions or nothing), a delete keeps none; other addresses keep theirs. -/
theorem transactions_atomic_step (s : PoolSt) (hr : Reachable s) (op : Op) (hop : OpOK s op) (b : Addr) :
    match op with
    | .add a t _ => if b = a then
          ∃ j, (step s op b).manager.pooled = (s b).manager.pooled.take j ∨
               (step s op b).manager.pooled = (s b).manager.pooled.take j ++ [t]
        else step s op b = s b
    | .insert c => (step s op b).manager.pooled = keptBy ((s b).confirmed ++ contentOf c b) (s b).manager.pooled
    | .delete _ => (step s op b).manager.pooled = [] := by
  have hi := PoolMulti.reachable_inv hr
  cases op with
  | add a t f =>
    simp only [step, addAt, upd]
    split
    · rename_i hb; subst hb; exact (addTxWith_shape _ _ (hi b) t f hop).2.2
    · rfl
  | insert c =>
    obtain ⟨h1, h2⟩ := hop b
    exact (rebuild_addr_spec (hi b) (contentOf c b) h1 h2).2.2.1
  | delete k => simp [step, deleteMomentum, AState.manager]

/-- two blocks of one contract account: a descendant send at height 1 and the receive carrying it at height 2 -/
private def d1 : Blk := { height := 1, hash := [1], prevHash := zeroHash, btype := Gen.BlockTypeContractSend }
private def r2 : Blk := { height := 2, hash := [2], prevHash := [1], btype := 5 }
/-- a competing receive without descendants for height 1 -/
private def q1 : Blk := { height := 1, hash := [3], prevHash := zeroHash, btype := 5 }

example : TxWF ⟨[d1], r2⟩ ∧ TxWF ⟨[], q1⟩ := by decide

/-- negative witness (the behaviour before b940a18, F-BD1): with a `Pop` that forgets only the head of a transaction,
    a pooled receive with one descendant displaced by a forced competitor leaves the descendant answering `GetPatch`
    although the pool lists the competitor alone — the transaction is in the pool in part; the modelled `Pop` does not. -/
theorem pop_head_only_breaks_atomicity :
    let x := (addTx {} ⟨[d1], r2⟩ false).1
    let bad := (addTxWith Mgr.popHeadOnly canRollback (fun _ _ tb => tb) x ⟨[], q1⟩ true).1
    let good := (addTx x ⟨[], q1⟩ true).1
    uncommittedBlocks bad = some [q1] ∧ bad.manager.hasPatch d1.id = true ∧ bad.manager.hasPatch r2.id = false ∧
    uncommittedBlocks good = some [q1] ∧ good.manager.hasPatch d1.id = false := by decide

/-- negative witness (the behaviour before eef54d2, F16): a rebuild that re-applies every stored block as a transaction
    of its own loses a pooled receive with a descendant at a momentum that confirms nothing of it; the modelled rebuild
    keeps it. -/
theorem rebuild_split_loses_receive :
    let x := (addTx {} ⟨[d1], r2⟩ false).1
    (rebuildWith true x).1.manager.pooled = [] ∧ (rebuildWith true x).2 = .failed ∧
    (rebuildAddr x).1.manager.pooled = [⟨[d1], r2⟩] := by decide

/-- `addresses_independent`: adding a transaction of address `a` leaves every other address's confirmed chain and pool
    untouched; what a momentum does to an address depends on that address's state and on the momentum's blocks of that
    address only. -/
theorem addresses_independent (s : PoolSt) (a : Addr) (t : Tx) (f : Bool) :
    (∀ b, b ≠ a → (addAt s a t f).1 b = s b) ∧
    (∀ (s' : PoolSt) (c c' : List (Addr × Blk)) (b : Addr), s' b = s b → contentOf c' b = contentOf c b →
      insertMomentum s' c' b = insertMomentum s c b) :=
  ⟨fun b hb => by simp [addAt, upd, hb], fun s' c c' b h1 h2 => by simp only [insertMomentum, confirmAll, h1, h2]⟩

/-- `rebuild_order_independent`: `InsertMomentum` — the address loop of `rebuild` run over ANY enumeration of the
    addresses that have a manager (Go map order), one iteration per address — is the per-address rebuild of every
    address; in particular any two enumerations give the same pool. -/
theorem rebuild_order_independent (s : PoolSt) (c : List (Addr × Blk)) (order : List Addr) (hn : order.Nodup)
    (hcover : ∀ a, (s a).mgr ≠ none → a ∈ order) :
    rebuildLoop (confirmAll s c) order = insertMomentum s c := by
  funext b
  rw [rebuildLoop_apply order _ hn b]
  split
  · rfl
  · rename_i hb
    have : (s b).mgr = none := Decidable.of_not_not fun h => hb (hcover b h)
    simp only [insertMomentum, rebuildAddr, rebuildWith, confirmAll, this]

theorem rebuild_any_two_orders (s : PoolSt) (c : List (Addr × Blk)) (o₁ o₂ : List Addr) (h1 : o₁.Nodup) (h2 : o₂.Nodup)
    (c1 : ∀ a, (s a).mgr ≠ none → a ∈ o₁) (c2 : ∀ a, (s a).mgr ≠ none → a ∈ o₂) :
    rebuildLoop (confirmAll s c) o₁ = rebuildLoop (confirmAll s c) o₂ := by
  rw [rebuild_order_independent s c o₁ h1 c1, rebuild_order_independent s c o₂ h2 c2]

/-- a user block at height 1, a competitor of it, and a second account's first block -/
private def u1 : Blk := { height := 1, hash := [7], prevHash := zeroHash, total := 21000, base := 21000, btype := 2 }
private def v1 : Blk := { height := 1, hash := [8], prevHash := zeroHash, total := 21000, base := 21000, btype := 2 }
private def w1 : Blk := { height := 1, hash := [9], prevHash := zeroHash, total := 21000, base := 21000, btype := 2 }
private def u2 : Blk := { height := 2, hash := [10], prevHash := [7], total := 21000, base := 21000, btype := 2 }

/-- address 0 pooled u1, u2, address 1 pooled w1; the momentum confirms the competitor v1 for address 0 (u2 no longer
    links) and w1 for address 1 -/
private def twoAddr : PoolSt :=
  confirmAll (addAt (addAt (addAt PoolSt.empty 0 ⟨[], u1⟩ false).1 0 ⟨[], u2⟩ false).1 1 ⟨[], w1⟩ false).1
    [(0, v1), (1, w1)]

/-- negative witness (the behaviour before 38e1b1b, F12): a loop that returns at the first address whose blocks no longer
    link leaves the addresses behind it on their stale managers — address 1 still lists the block the momentum
    confirmed when address 0 is visited first, and not when it is visited last: the result depends on the map order. The
    modelled loop gives the empty pool for address 1 in both orders. -/
theorem early_return_depends_on_order :
    ((rebuildLoopEarly twoAddr [0, 1] 1).manager.pooled = [⟨[], w1⟩]) ∧
    ((rebuildLoopEarly twoAddr [1, 0] 1).manager.pooled = []) ∧
    ((rebuildLoop twoAddr [0, 1] 1).manager.pooled = []) ∧ ((rebuildLoop twoAddr [1, 0] 1).manager.pooled = []) := by
  decide

/-- the tie to the code: the address loop of `rebuild` contains no `return` (regenerated from the AST) -/
theorem rebuild_loop_has_no_return : Gen.rebuildLoopReturns = 0 := rfl

/-- `after_momentum_exactly_unconfirmed_that_link`: after `InsertMomentum`, for EVERY address, the confirmed chain is
    the extended one and the pool holds exactly the previously pooled transactions that the momentum did not confirm
    (head above the new confirmed height), in their order, if they still link to the new confirmed frontier — and
    nothing otherwise; `rebuild` never meets a missing height. -/
theorem after_momentum_exactly_unconfirmed_that_link (s : PoolSt) (hr : Reachable s) (c : List (Addr × Blk))
    (hop : OpOK s (.insert c)) (a : Addr) :
    let conf' := (s a).confirmed ++ contentOf c a
    let rest := (s a).manager.pooled.filter (fun t => decide ((lastId conf').2 < t.head.height))
    (insertMomentum s c a).confirmed = conf' ∧
    (insertMomentum s c a).manager.pooled = (if Linked (lastId conf') (flat rest) then rest else []) ∧
    (rebuildAddr (confirmAll s c a)).2 ≠ .nilDeref := by
  obtain ⟨h1, h2⟩ := hop a
  exact (rebuild_addr_spec (PoolMulti.reachable_inv hr a) (contentOf c a) h1 h2).2

/-- … in particular a momentum that confirms the first `k` pooled transactions of an address (what a momentum built from
    the pool's own content does) leaves exactly the remaining ones -/
theorem after_momentum_confirming_a_prefix (s : PoolSt) (hr : Reachable s) (c : List (Addr × Blk)) (a : Addr) (k : Nat)
    (hc : contentOf c a = flat ((s a).manager.pooled.take k)) :
    (insertMomentum s c a).manager.pooled = (s a).manager.pooled.drop k := by
  have hi := PoolMulti.reachable_inv hr a
  obtain ⟨_, h2, h3, _, _⟩ := PoolMulti.manager_ok hi
  obtain ⟨hl, hh⟩ := (chain_flat_take h2 h3 k).1
  have := (rebuild_addr_spec hi (contentOf c a) (hc ▸ hl) (hc ▸ hh)).2.2.1
  rw [hc, keptBy_whole_prefix h2 h3 k] at this
  simp only [insertMomentum, confirmAll, hc]
  exact this

/-- negative part of the winner clause, for the code AS IT IS (known finding FDF1): a transaction that carries at least
    one descendant block and is not a fast-forward is never inserted — `canRollback` looks one height below its HEAD and
    compares with `Previous()`, which lies one below its FIRST descendant — whatever its priority, forced or not, in
    every state; the pool stays as it is. -/
theorem multi_commit_competitor_refused (x : AState) (t : Tx) (f : Bool) (ht : TxWF t) (hd : t.desc ≠ [])
    (hff : t.prev ≠ x.manager.frontierId) :
    (addTx x t f).1 = { x with mgr := some x.manager } ∧
    ((addTx x t f).2 = .already ∨ (addTx x t f).2 = .olderThanStable ∨ (addTx x t f).2 = .missingPrevious ∨
      (addTx x t f).2 = .previousMismatch) := by
  have hlen : 2 ≤ t.commits.length := by
    cases hdd : t.desc with
    | nil => exact absurd hdd hd
    | cons d ds => simp [Tx.commits, hdd]
  have hh := head_height ht.1 ht.2.1
  have hcr : ∃ e, PoolMulti.canRollback x.confirmed x.manager t = some e ∧
      (e = .olderThanStable ∨ e = .missingPrevious ∨ e = .previousMismatch) := by
    unfold PoolMulti.canRollback
    by_cases h1 : (lastId x.confirmed).2 ≥ t.head.height
    · exact ⟨_, by simp [h1], Or.inl rfl⟩
    · have h2 : ¬ (t.head.height = 1 ∧ t.prev = zeroId) := by intro ⟨a, _⟩; omega
      simp only [h1, h2, if_false]
      cases hb : byHeight x.manager.view (t.head.height - 1) with
      | none => exact ⟨_, rfl, Or.inr (Or.inl rfl)⟩
      | some tp =>
        have hth := (byHeight_some hb).2
        have hne : tp.id ≠ t.prev := by
          intro he
          have := congrArg Prod.snd he
          simp only [Blk.id] at this
          omega
        exact ⟨_, by simp [hne], Or.inr (Or.inr rfl)⟩
  obtain ⟨e, he, hcase⟩ := hcr
  unfold addTx addTxWith
  simp only [hff, if_false, he]
  split
  · exact ⟨rfl, Or.inl rfl⟩
  · refine ⟨rfl, Or.inr ?_⟩
    rcases hcase with h | h | h <;> simp [h]

/-- a receive with one descendant and a competing receive without: by the rule on the heads ([2] < [3]) the first wins -/
example : higherPriority r2 q1 = .ok ∧ higherPriority q1 r2 = .hashTieBreak := by decide

/-- negative witness (FDF1), the code as it is: the same two transactions leave different pools depending on the arrival
    order — the one with the descendant is refused when it comes second (also when FORCED), and keeps its place when it
    comes first because the single block is compared with its descendant ([3] vs [1]) — while the rule on the heads names
    one winner; the repaired rule `addTxR` leaves that winner in both orders. -/
theorem winner_depends_on_arrival_order :
    let single : Tx := ⟨[], q1⟩
    let multi : Tx := ⟨[d1], r2⟩
    (addTx (addTx {} single false).1 multi false).1.manager.pooled = [single] ∧
    (addTx (addTx {} single false).1 multi true).2 = .previousMismatch ∧
    (addTx (addTx {} multi false).1 single false).1.manager.pooled = [multi] ∧
    (addTxR (addTxR {} single false).1 multi false).1.manager.pooled = [multi] ∧
    (addTxR (addTxR {} multi false).1 single false).1.manager.pooled = [multi] := by decide

/-- `winner_by_rule_multi` — for the REPAIRED rule (`addTxR`, fdf1_fix.diff), at full strength: a well-formed
    transaction `t` with any number of commits that competes with a pooled transaction `p` with any number of commits
    (same `Previous()`, a head hash not in the pool) is decided by `higherPriority` on the two HEAD blocks alone: it
    replaces `p` and everything pooled above it iff it is forced or the rule lets it win; otherwise the pool is unchanged
    and the rule's error is returned. With `C14.priority_total_antisymmetric` / `C14.winner_order_independent` on the head
    blocks, the survivor is the same on every node whatever the arrival order. -/
theorem winner_by_rule_multi (x : AState) (hi : PoolMulti.Inv x) (t p : Tx) (pre post : List Tx) (f : Bool) (ht : TxWF t)
    (hsplit : x.manager.pooled = pre ++ p :: post) (hprev : t.prev = p.prev)
    (hfresh : ∀ b ∈ flat x.manager.pooled, b.hash ≠ t.head.hash) :
    (addTxR x t f).2 = (if f = true ∨ higherPriority t.head p.head = .ok then .replaced
        else if higherPriority t.head p.head = .ratioWorse then .ratioWorse else .hashTieBreak) ∧
    (addTxR x t f).1.manager.pooled =
      (if f = true ∨ higherPriority t.head p.head = .ok then pre ++ [t] else x.manager.pooled) := by
  have hm := PoolMulti.manager_ok hi
  obtain ⟨hb, hl, hh, hty, _⟩ := hm
  obtain ⟨hvl, hvh⟩ := PoolMulti.view_chain hi
  have hpm : p ∈ x.manager.pooled := by rw [hsplit]; simp
  -- the view splits into the part A below `p`, the commits of `p`, and the rest; `Previous()` is the last identifier of A
  obtain ⟨hviewEq, hpp, hplen⟩ := view_split hi hsplit
  generalize hA : x.confirmed ++ flat pre = A at hviewEq hpp hplen
  have hcA : x.confirmed.length ≤ A.length := by rw [← hA, List.length_append]; omega
  have htp : t.prev = lastId A := hprev ▸ hpp
  have hAlen : A.length = t.prev.2 := by rw [hprev, hplen]
  have hhead := head_height ht.1 ht.2.1
  have hclen : 1 ≤ t.commits.length := by simp [Tx.commits]
  have hvlen : A.length < x.manager.view.length := by rw [hviewEq]; simp [Tx.commits]; omega
  have hnff : ¬ t.prev = x.manager.frontierId := ne_lastId_of_lt hvl hvh (by omega)
  have hnal : ¬ ((byHeight x.manager.view t.head.height).map Blk.id = some t.id) := by
    intro he
    obtain ⟨b, hbh, hbid⟩ := Option.map_eq_some_iff.mp he
    obtain ⟨hmem, hbheight⟩ := byHeight_some hbh
    rcases List.mem_append.mp hmem with hc | hp
    · rw [hb] at hc
      have := (linked_mem_height _ _ hi.1 hi.2.1 b hc).2
      simp only [zeroId] at this
      omega
    · exact hfresh b hp (congrArg Prod.fst hbid)
  -- canRollback (repaired) passes: the block stored at the height of `Previous()` is the last block of A
  have hcr : canRollbackR x.confirmed x.manager t = none := by
    unfold canRollbackR
    rw [if_neg (by rw [chain_last_height _ hi.1 hi.2.1]; omega)]
    by_cases hz : t.prev = zeroId
    · rw [if_pos hz]
    · obtain ⟨i, hi'⟩ : ∃ i, A.length = i + 1 :=
        ⟨A.length - 1, by cases A with | nil => exact absurd htp hz | cons _ _ => rfl⟩
      have hil : i < A.length := by omega
      have hid : A[i].id = t.prev := by
        have := lastIdFrom_take_succ zeroId A i hil
        rw [← hi', List.take_length] at this
        rw [htp]; exact this.symm
      have hbh : byHeight x.manager.view t.prev.2 = some A[i] := by
        have := byHeight_chain_eq _ hvl hvh i
        rwa [← hi', hAlen, hviewEq, List.getElem?_append_left (by omega), List.getElem?_eq_getElem (by omega),
          ← hviewEq] at this
      rw [if_neg hz, hbh]
      simp only [hid, ne_eq, not_true_eq_false, if_false]
  -- the competitor found by the repaired lookup is the head of p
  have hrival : headAt x.manager.view (x.manager.view.length + 1) (t.prev.2 + 1) = some p.head := by
    have hv : x.manager.view = A ++ p.desc ++ [p.head] ++ flat post := by
      rw [hviewEq]; simp [Tx.commits, List.append_assoc]
    have := headAt_spec x.manager.view hvl hvh p.desc A p.head (flat post)
      (x.manager.view.length + 1) hv (hty p hpm).1 (hty p hpm).2 (by rw [hv]; simp; omega)
    rw [← hAlen]; exact this
  -- the rollback reaches the place below p
  have htk : x.manager.pooled.take pre.length = pre := by rw [hsplit, List.take_left']; rfl
  obtain ⟨m', hroll, hpool, hbase⟩ := PoolMulti.rollbackTo_reaches (conf := x.confirmed) (x.manager.pooled.length + 1) x.manager
    pre.length ⟨hb, hl, hh, hty, ‹_›⟩ (by rw [hsplit]; simp) (by omega)
  rw [htk, ← lastId_append, hA, ← htp] at hroll
  rw [htk] at hpool
  have hadd : m'.add t = some { m' with pooled := m'.pooled ++ [t], patches := m'.patches ++ t.commits.map Blk.id } := by
    unfold PoolMulti.Mgr.add
    rw [if_pos (by rw [PoolMulti.frontierId_eq, hbase, hb, hpool, ← lastId_append, hA]; exact htp)]
  have hall : addTxR x t f = if f = true ∨ higherPriority t.head p.head = .ok
      then ({ x with mgr := some { m' with pooled := pre ++ [t], patches := m'.patches ++ t.commits.map Blk.id } }, .replaced)
      else ({ x with mgr := some x.manager }, if higherPriority t.head p.head = .ratioWorse then .ratioWorse else .hashTieBreak) := by
    unfold addTxR addTxWith
    simp only [hnff, if_false, hnal, hcr, hrival, hroll, hadd, hpool, Bool.not_true, Bool.false_eq_true]
    exact prio_decision f _ _ _
  rw [hall]
  by_cases hc : f = true ∨ higherPriority t.head p.head = .ok
  · simp only [if_pos hc]; exact ⟨trivial, rfl⟩
  · simp only [if_neg hc]; exact ⟨trivial, rfl⟩

/-- one-block transactions at a place held by a block that is not a ContractSend: the code as it is and the repaired
    rule do the same -/
theorem single_block_rule_unchanged (x : AState) (t : Tx) (f : Bool) (ht : TxWF t) (hd : t.desc = [])
    (hnc : ∀ b, byHeight x.manager.view t.head.height = some b → isContractSend b.btype = false) :
    addTx x t f = addTxR x t f := by
  have h0 : t.head.height ≠ 0 := ht.2.1 t.head (head_mem_commits t)
  have hp : t.prev = t.head.prev := by simp [Tx.prev, hd]
  have hp2 : t.prev.2 = t.head.height - 1 := by rw [hp]; simp [Blk.prev, h0]
  have hcr : PoolMulti.canRollback x.confirmed x.manager t = canRollbackR x.confirmed x.manager t := by
    have hor : ((lastId x.confirmed).2 ≥ t.head.height ∨ (lastId x.confirmed).2 > t.head.height - 1) ↔
        (lastId x.confirmed).2 ≥ t.head.height := by omega
    have hand : (t.head.height = 1 ∧ t.prev = zeroId) ↔ t.prev = zeroId :=
      ⟨fun h => h.2, fun h => ⟨by have := congrArg Prod.snd h; simp only [zeroId] at this; omega, h⟩⟩
    unfold PoolMulti.canRollback canRollbackR
    simp only [hand, hp2]
    simp only [hor]
  have hrv : headAt x.manager.view (x.manager.view.length + 1) (t.prev.2 + 1) =
      byHeight x.manager.view t.head.height := by
    rw [show t.prev.2 + 1 = t.head.height by omega]
    simp only [headAt]
    cases hb : byHeight x.manager.view t.head.height with
    | none => rfl
    | some b => simp [hnc b hb]
  unfold addTx addTxR addTxWith
  simp only [hcr, hrv]

/-- `winner_by_rule_multi_partial` — the code AS IT IS: between one-block transactions (every user account, and contract
    receives that emit nothing) the winner is chosen by the rule on their blocks, in every state of the whole pool.
    What is missing for the full clause is false of the code (`multi_commit_competitor_refused`,
    `winner_depends_on_arrival_order`): transactions with descendant blocks. -/
theorem winner_by_rule_multi_partial (x : AState) (hi : PoolMulti.Inv x) (t p : Tx) (pre post : List Tx) (f : Bool)
    (ht : TxWF t) (hd : t.desc = []) (hpd : p.desc = [])
    (hsplit : x.manager.pooled = pre ++ p :: post) (hprev : t.prev = p.prev)
    (hfresh : ∀ b ∈ flat x.manager.pooled, b.hash ≠ t.head.hash) :
    (addTx x t f).2 = (if f = true ∨ higherPriority t.head p.head = .ok then .replaced
        else if higherPriority t.head p.head = .ratioWorse then .ratioWorse else .hashTieBreak) ∧
    (addTx x t f).1.manager.pooled =
      (if f = true ∨ higherPriority t.head p.head = .ok then pre ++ [t] else x.manager.pooled) := by
  obtain ⟨_, _, _, hty, _⟩ := PoolMulti.manager_ok hi
  obtain ⟨hvl, hvh⟩ := PoolMulti.view_chain hi
  obtain ⟨hv, _, hplen⟩ := view_split hi hsplit
  -- `p` is one block: it is what the view holds at the height of `t`'s head
  have hat := byHeight_at_split x.manager.view hvl hvh (x.confirmed ++ flat pre) p.head (flat post)
    (by rw [hv]; simp [Tx.commits, hpd])
  have e : (x.confirmed ++ flat pre).length + 1 = t.head.height := by
    rw [head_height ht.1 ht.2.1, hprev, hplen]; simp [Tx.commits, hd]
  rw [e] at hat
  rw [single_block_rule_unchanged x t f ht hd fun b hb' => by
    rw [hat] at hb'; cases hb'; exact (hty p (by rw [hsplit]; simp)).2]
  exact winner_by_rule_multi x hi t p pre post f ht hsplit hprev hfresh

/-- hypotheses of `winner_by_rule_multi` are satisfiable with several commits on both sides -/
example : ∃ (x : AState) (t p : Tx), PoolMulti.Inv x ∧ TxWF t ∧ t.desc ≠ [] ∧ p.desc ≠ [] ∧ x.manager.pooled = [] ++ p :: [] ∧
    t.prev = p.prev ∧ (∀ b ∈ flat x.manager.pooled, b.hash ≠ t.head.hash) ∧
    (addTxR x t false).1.manager.pooled = [t] :=
  ⟨(addTx {} ⟨[d1], r2⟩ false).1,
   ⟨[{ d1 with hash := [0] }], { r2 with hash := [0, 1], prevHash := [0] }⟩, ⟨[d1], r2⟩,
   (addTxWith_shape _ _ (show PoolMulti.Inv ({} : AState) from ⟨trivial, fun _ h => by simp at h, fun _ h => by simp at h⟩)
     _ _ (by decide)).1,
   by decide, by decide, by decide, by decide, by decide, by decide, by decide⟩

/-- `offered_content_well_formed_partial`: what the pool offers for a momentum (`GetNewMomentumContent`, for every
    enumeration order of the managers) is a prefix of the concatenated pools, at most the limit long, and ends at a batch
    boundary — never between a contract's descendant sends and the receive that carries them. Together with
    `after_momentum_confirming_a_prefix` (a momentum that confirms the first k pooled transactions of an address leaves
    exactly the others) this is the content clause. NOT proved here: that the part of that prefix belonging to one
    address is `flat (pooled.take k)` for some k (a projection of a prefix of a concatenation of per-address chains); the
    pool-multi stream checks that sentence on the real pool after every offer and inserts exactly the offered content. -/
theorem offered_content_well_formed_partial (max : Nat) (s : PoolSt) (order : List Addr) (o all : List (Addr × Blk))
    (hall : allUncommitted s order = some all) (ho : offered max s order = some o) :
    o <+: all ∧ o.length ≤ max ∧ ∀ e, o.getLast? = some e → isContractSend e.2.btype = false := by
  simp only [offered, hall, Option.map_some, Option.some.injEq] at ho
  subst ho
  refine ⟨?_, ?_, ?_⟩
  · simpa using filterGo_prefix (fun e : Addr × Blk => isContractSend e.2.btype) max all [] []
  · exact filterGo_length _ max all [] [] (by simp)
  · exact filterGo_boundary (fun e : Addr × Blk => isContractSend e.2.btype) max all [] [] (fun _ h => by simp at h)

example : ∃ s, Reachable s ∧ (flat (s 0).manager.pooled).length = 2 ∧ (s 1).manager.pooled.length = 1 :=
  ⟨step (step PoolSt.empty (.add 0 ⟨[d1], r2⟩ false)) (.add 1 ⟨[], u1⟩ false),
   .step _ (.step _ (.init _ (fun _ => ⟨trivial, fun _ h => by simp [PoolSt.empty] at h, rfl⟩))
     (by show TxWF _; decide)) (by show TxWF _; decide), by decide, by decide⟩

end ZV.C14Multi
