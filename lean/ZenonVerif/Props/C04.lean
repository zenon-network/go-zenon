import ZenonVerif.Lemmas.LedgerFifo
import ZenonVerif.Lemmas.LedgerDemo
import ZenonVerif.Props.C01
import ZenonVerif.Gen.DbErr
/-
C04 — each send is received at most once, only by its addressee; contract inboxes are strict FIFO.
Property theorems only (helpers: Lemmas/LedgerFifo.lean; vocabulary: see the header of Props/C01.lean).

  `s.recv`            receive markers (receiving account, hash of the send), newest first
  `receivedBy s c`    hashes received by c, oldest first      `inboxOf s c`  hashes of the confirmed sends addressed to c,
                                                                              in confirmation order
State-level theorems about the current chain; reorganisation / pool replacement / restart (T5) are not modelled here
but in Props/C04Node.lean.
-/
namespace ZV.C04
open ZV.Ledger

/-! ## T1 — at most once per account (holds below the enforcement height too) -/

/-- T1: in every reachable state the receive markers are pairwise distinct: no account has received the same send twice. -/
theorem receive_once_per_account (s0 s : State) (hw : WF s0) (hr : Reach s0 s) : s.recv.Nodup :=
  (hr.wf hw).recvNodup

/-- T1, operationally: once a user account has received `h`, every later attempt of the same account to receive `h`
    is refused with `alreadyReceived` (exactly this error: the block exists, the addressee test gives the same answer
    as the first time, the marker is found). -/
theorem second_receive_refused (s s1 s2 : State) (a : Addr) (h : Hash) (hok : urecv s a h = .ok s1)
    (hr : Reach s1 s2) : urecv s2 a h = .error .alreadyReceived := by
  obtain ⟨hemb, snd, hchk, rfl⟩ := urecv_ok hok
  obtain ⟨hfind, hdst, _⟩ := checkFrom_ok.1 hchk
  obtain ⟨hg, ⟨ss, hs⟩, ⟨mm, hm⟩⟩ := hr.mono
  have hfind2 : findSend s2.sends h = some snd := by
    rw [hs]; exact findSend_append_left hfind ss
  have hmem : (a, h) ∈ s2.recv := by
    rw [hm]; exact List.mem_append_right _ (List.mem_cons_self ..)
  have hg2 : (s2.gate && snd.dst != a) = false := by
    rw [hg]
    show (s.gate && snd.dst != a) = false
    cases hgs : s.gate with
    | false => rfl
    | true => simp [hdst hgs]
  unfold urecv
  simp only [hemb, Bool.false_eq_true, if_false]
  unfold checkFrom
  simp only [hfind2, hg2, Bool.false_eq_true, if_false, List.contains_iff_mem.2 hmem, if_true]
  rfl

/-- T1 for contracts: once `c` has received `h`, `h` is never again next in `c`'s inbox, whatever outcome is offered. -/
theorem contract_second_receive_refused (s s1 s2 : State) (c : Addr) (h : Hash) (st : Nat) (ds : List Desc)
    (hok : crecv s c h st ds = .ok s1) (hr : Reach s1 s2) (st' : Nat) (ds' : List Desc) :
    crecv s2 c h st' ds' = .error .notNext := by
  obtain ⟨_, _, ⟨mm, hm⟩⟩ := hr.mono
  exact crecv_refused_of_marker (hm ▸ List.mem_append_right _ (crecv_marker hok)) st' ds'

/-! ## T2, T3 — only the addressee, hence at most once on the whole ledger (above the enforcement height) -/

/-- T2: above the receiver-enforcement height every marker `(a, h)` belongs to the addressee of the send `h`. -/
theorem receive_only_by_addressee (s0 s : State) (hg : s0.gate = true) (hw : WF s0) (hr : Reach s0 s)
    (a : Addr) (h : Hash) (hm : (a, h) ∈ s.recv) : ∃ x, findSend s.sends h = some x ∧ x.dst = a :=
  (hr.wf hw).marker_addressee (hr.gate.trans hg) hm

/-- T3: above the enforcement height every send hash occurs in at most one marker of the whole ledger. -/
theorem receive_once_globally (s0 s : State) (hg : s0.gate = true) (hw : WF s0) (hr : Reach s0 s) :
    (s.recv.map (·.2)).Nodup :=
  (hr.wf hw).recv_hashes_nodup (hr.gate.trans hg)

/-! ## T4 — FIFO -/

/-- T4: for every embedded contract `c` the hashes `c` has received, in order of acceptance, are a prefix of the hashes
    of the sends addressed to `c` in confirmation order — no skip, no repeat. Invariant of every accepted step
    (`crecv` requires `nextInLine`; `urecv` refuses embedded accounts); needs no gate. -/
theorem contract_fifo (s0 s : State) (hw : WF s0) (hf : Fifo s0) (hr : Reach s0 s)
    (c : Addr) (hc : isEmbedded c = true) : receivedBy s c <+: inboxOf s c :=
  (hr.fifo hw hf).2 c hc

/-- T4 in the `take` form of DESIGN §3: the received hashes are exactly the first `front` entries of the queue. -/
theorem contract_fifo_take (s0 s : State) (hw : WF s0) (hf : Fifo s0) (hr : Reach s0 s)
    (c : Addr) (hc : isEmbedded c = true) :
    receivedBy s c = (inboxOf s c).take (receivedBy s c).length :=
  List.prefix_iff_eq_take.1 ((hr.fifo hw hf).2 c hc)

/-- T4 from the empty ledger, in both gate regimes. -/
theorem contract_fifo_from_empty (g : Bool) (s : State) (hr : Reach (State.init g) s)
    (c : Addr) (hc : isEmbedded c = true) : receivedBy s c <+: inboxOf s c :=
  (hr.fifo (wf_init g) (fifo_init g)).2 c hc

/-- T4, one step (the inductive content). -/
theorem contract_fifo_step (s s' : State) (e : Ev) (hw : WF s) (hf : Fifo s) (hok : step s e = .ok s') : Fifo s' :=
  step_fifo hw hf hok

/-! ## N1 — the gate is necessary for T2 / T3 (finding F8) -/

/-- U1(=16) sends 7 ZNN to U2(=17); U3(=18) and then U2 receive it; result: the markers -/
def thirdPartyThenAddressee (gate : Bool) : Except Err (List (Addr × Hash)) := do
  let s0 : State := { State.init gate with bal := [((16, znnTok), 10)], toks := [(znnTok, ⟨10, 100, true, true, 1⟩)] }
  let s1 ← usend s0 16 17 znnTok 7 0 TokCall.none
  let s2 ← urecv s1 18 0
  let s3 ← urecv s2 17 0
  pure s3.recv

/-- N1: below the enforcement height the same send ends up with two markers, one of them of a non-addressee. -/
theorem pre_gate_two_receivers : thirdPartyThenAddressee false = .ok [(17, 0), (18, 0)] := by rfl

/-- N1 as in C01: the balances then sum to 17 against a recorded supply of 10. -/
theorem pre_gate_double_receive : C01.doubleReceive false = .ok 17 := C01.pre_gate_double_receive

/-- with the gate on, the third-party receive is refused -/
theorem post_gate_third_party_refused : thirdPartyThenAddressee true = .error Err.receiverMismatch := by rfl

/-! ## database read errors of the account store and the inbox (regenerated AST fact)

The at-most-once clause rests on two stored facts being READ correctly: the received mark of a send (account key 6|hash,
`IsReceived`) and the position counters of a contract's inbox (account key 7 `sequencerFrontIndex`, mailbox key 7
`SequencerSize`). A read that fails for another reason than "no such key" must not be answered like an absent key
("not received yet", "position 0"): the same send would be received again. `zvh facts` lists every database read of
chain/account and chain/account/mailbox with the shape of its error handling (harness/cmd/zvh/f_dberr.go explains the
tokens); the list below is the reviewed one. -/

/-- Reviewed: no read error in chain/account or chain/account/mailbox is discarded or answered like an absent key,
    except `leveldb.ErrNotFound` itself:
    * `GetBalance`, `GetChainPlasma`, `parseAccountBlock` (Frontier / ByHash / ByHeight): ErrNotFound is "zero / no
      block", every other error is returned to the caller; `MoreByHeight`, `AddChainPlasma` return the error of the
      getter they call; `Identifier` hands it to `common.DealWithErr` (panic);
    * `IsReceived`: ErrNotFound is "not received", every other error goes to `common.DealWithErr` (panic: the block
      under verification is refused by the supervisor);
    * `parseAccountHeader` (GetBlockWhichReceives, SequencerByHeight): ErrNotFound is "no header", every other error
      panics;
    * `sequencerFrontIndex` and `mailbox.SequencerSize` compare with ErrNotFound ONLY and otherwise decode the data
      with `common.BytesToUint64` without looking at the error: on a failed read the data is nil and the decoding
      panics (index out of range), so the answer is still not "0" - fail-closed, though by accident rather than by an
      explicit check (listed as it is);
    * the two iterators (`GetBalanceMap`, `GetUnreceivedAccountBlockHashes`) test `iterator.Error()` when `Next()`
      gives false and return it;
    * `db.GetFrontierIdentifier` has no error result (common/db panics inside), `db.DisableNotFound` (contract storage
      view: ErrNotFound becomes an empty value there by design) is returned as a view, not read here. -/
def reviewedAccountDbReadSites : List (String × String × String × List String) := [
  ("chain/account/account_block.go:parseAccountBlock:param", "data []byte, err error", "err", ["if(err == leveldb.ErrNotFound){", "return nil, nil", "}", "if(err != nil){", "return nil, err", "}", "use:nom.DeserializeAccountBlock"]),
  ("chain/account/account_block.go:accountStore.Frontier:db.GetEntryByHeight", "", "<arg:parseAccountBlock>", []),
  ("chain/account/account_block.go:accountStore.Frontier:db.GetFrontierIdentifier", "", "<expr>", []),
  ("chain/account/account_block.go:accountStore.ByHash:db.GetEntryByHash", "", "<arg:parseAccountBlock>", []),
  ("chain/account/account_block.go:accountStore.ByHeight:db.GetEntryByHeight", "", "<arg:parseAccountBlock>", []),
  ("chain/account/account_block.go:accountStore.MoreByHeight:as.ByHeight", "block, err :=", "err", ["if(err != nil){", "return nil, err", "}", "use:append"]),
  ("chain/account/balance.go:accountStore.GetBalance:as.DB.Get", "data, err :=", "err", ["if(err == leveldb.ErrNotFound){", "return big.NewInt(0), nil", "}", "if(err != nil){", "return nil, err", "}", "return big.NewInt(0).SetBytes(data), nil"]),
  ("chain/account/balance.go:accountStore.GetBalanceMap:as.DB.NewIterator", "iterator :=", "", ["use:iterator.Release", "if(!iterator.Next()){", "if(iterator.Error() != nil){", "return nil, iterator.Error()", "}", "break", "}", "if(iterator.Value() == nil){", "continue", "}", "use:iterator.Key", "use:iterator.Value"]),
  ("chain/account/plasma.go:accountStore.GetChainPlasma:as.DB.Get", "data, err :=", "err", ["if(err == leveldb.ErrNotFound){", "return big.NewInt(0), nil", "}", "if(err != nil){", "return nil, err", "}", "return big.NewInt(0).SetBytes(data), nil"]),
  ("chain/account/plasma.go:accountStore.AddChainPlasma:as.GetChainPlasma", "plasma, err :=", "err", ["if(err != nil){", "return err", "}", "use:plasma.Add", "use:common.BigIntToBytes"]),
  ("chain/account/received.go:accountStore.IsReceived:as.DB.Get", "_, err :=", "err", ["if(err == leveldb.ErrNotFound){", "return false", "}", "use:common.DealWithErr"]),
  ("chain/account/sequencer.go:accountStore.sequencerFrontIndex:as.DB.Get", "data, err :=", "err", ["if(err == leveldb.ErrNotFound){", "return 0", "}", "return common.BytesToUint64(data)"]),
  ("chain/account/store.go:accountStore.Storage:db.DisableNotFound", "", "<returned>", []),
  ("chain/account/store.go:accountStore.Identifier:as.Frontier", "frontier, err :=", "err", ["use:common.DealWithErr", "if(frontier == nil){", "return types.ZeroHashHeight", "}", "return frontier.Identifier()"]),
  ("chain/account/mailbox/mailbox.go:parseAccountHeader:param", "data []byte, err error", "err", ["if(err == leveldb.ErrNotFound){", "return nil", "}", "if(err != nil){", "use:panic", "return nil", "}", "use:types.DeserializeAccountHeader"]),
  ("chain/account/mailbox/mailbox.go:mailbox.GetBlockWhichReceives:m.DB.Get", "", "<arg:parseAccountHeader>", []),
  ("chain/account/mailbox/mailbox.go:mailbox.GetUnreceivedAccountBlockHashes:m.DB.NewIterator", "iterator :=", "", ["use:iterator.Release", "if(!iterator.Next()){", "if(iterator.Error() != nil){", "return nil, iterator.Error()", "}", "break", "}", "if(iterator.Value() == nil){", "continue", "}", "use:iterator.Key"]),
  ("chain/account/mailbox/mailbox.go:mailbox.SequencerSize:m.DB.Get", "data, err :=", "err", ["if(err == leveldb.ErrNotFound){", "return 0", "}", "return common.BytesToUint64(data)"]),
  ("chain/account/mailbox/mailbox.go:mailbox.SequencerByHeight:m.DB.Get", "", "<arg:parseAccountHeader>", [])
]

/-- generated fact: the database reads of chain/account and chain/account/mailbox and the handling of their errors are
    exactly the reviewed ones (regenerated from the AST on every run: a read added, removed, re-bound or handled in
    another shape changes the list) -/
theorem account_store_read_errors_reviewed : Gen.accountDbReadSites = reviewedAccountDbReadSites := by rfl

/-- independent of the reviewed list: no read site binds its error result to the blank identifier, drops the results
    in a call statement, or binds them in a shape the scan cannot attribute ("?") -/
theorem account_store_no_read_error_discarded :
    ∀ x ∈ Gen.accountDbReadSites, x.2.2.1 ≠ "_" ∧ x.2.2.1 ≠ "<dropped>" ∧ x.2.2.1 ≠ "?" := by decide +kernel

/-- the fact list really contains the three reads the clause rests on -/
theorem account_store_read_sites_cover : ∀ n ∈ ["chain/account/received.go:accountStore.IsReceived:as.DB.Get",
    "chain/account/sequencer.go:accountStore.sequencerFrontIndex:as.DB.Get",
    "chain/account/mailbox/mailbox.go:mailbox.SequencerSize:m.DB.Get"],
    n ∈ Gen.accountDbReadSites.map (·.1) := by
  decide +kernel

/-! ## non-vacuity -/

example : Reach (State.init true) demoFinal := demo_reach

/-- in the demo state the token contract has received its whole queue and contract 3 the first of its three entries -/
example : receivedBy demoFinal tokenContract = [100, 103, 107] ∧ inboxOf demoFinal tokenContract = [100, 103, 107] ∧
    receivedBy demoFinal 3 = [105] ∧ inboxOf demoFinal 3 = [105, 108, 109] := by decide

example : (demoFinal.recv.map (·.2)).Nodup := by decide

/-- the second receive attempt of the demo's user 17 is refused -/
example : urecv demoFinal 17 102 = .error .alreadyReceived := by rfl

/-- contract 3 cannot skip its queue: 109 is refused while 108 is next -/
example : crecv demoFinal 3 109 1 [] = .error .notNext ∧ (nextInLine demoFinal 3).map (·.hash) = some 108 := by
  constructor <;> rfl

end ZV.C04
