import ZenonVerif.Lemmas.Journal
import ZenonVerif.Props.C08
/-
C08 — crash atomicity at BYTE granularity: the journal (write-ahead log) layer under `Props/C08.lean`.
`Props/C08.lean` proves that a commit / rollback is ONE write call and that a crash between write calls leaves the
state before or after. This file proves what was taken for granted there: that one write call is one atomic unit
after a crash, for a process that dies at ANY BYTE of the journal file - on the model of goleveldb's log format
and of its (non-strict) reader in `Model/Journal.lean`. The lemmas are in `Lemmas/Journal.lean`.

Block size: every general theorem holds for all block sizes 8 ≤ B ≤ 65542 (a header plus one payload byte must fit
into a block; the payload of a chunk, at most B - 7 bytes, must fit the 16-bit length field) and for every checksum
function `crc`; goleveldb's instance is B = 32768, crc = `leveldbCrc` (masked CRC-32C).
-/
namespace ZV.C08J
open ZV ZV.Kv ZV.Versioned ZV.Crash ZV.Journal

variable (B : Nat) (crc : Journal.Bytes → UInt32)

/-- the bounds on the block size the format needs -/
def BlockOK (B : Nat) : Prop := 8 ≤ B ∧ B ≤ 65542

/-- J0 (chunk level, any way of cutting records into pieces): every prefix of the chunk sequence of a journal
    delivers a prefix of whole records. `pss` = the records, each given by its non-empty list of payload pieces. -/
theorem chunk_prefix_whole_records (pss : List (List Journal.Bytes)) (hne : ∀ ps ∈ pss, ps ≠ []) (j : Nat) :
    ∃ k, recoverChunks (((pss.map recChunks).flatten).take j) none = (pss.map List.flatten).take k := by
  induction pss generalizing j with
  | nil => exact ⟨0, by simp [recoverChunks]⟩
  | cons ps pss ih =>
    have hps : ps ≠ [] := hne ps (by simp)
    simp only [List.map_cons, List.flatten_cons, List.take_append]
    by_cases hj : (recChunks ps).length ≤ j
    · obtain ⟨k, hk⟩ := ih (fun q hq => hne q (by simp [hq])) (j - (recChunks ps).length)
      refine ⟨k + 1, ?_⟩
      rw [List.take_of_length_le hj, recoverChunks_rec ps hps, hk, List.take_succ_cons]
    · refine ⟨0, ?_⟩
      have : j - (recChunks ps).length = 0 := by omega
      rw [this, List.take_zero, List.append_nil, List.take_zero]
      exact recoverChunks_rec_prefix ps j (by omega)

/-- the journal file has the size the layout says, whatever the checksum function -/
theorem journal_size (rs : List Record) : (encodeJournal B crc rs).length = journalSize B rs :=
  length_encSegs crc _

/-- the journal after the first `i` write calls is the prefix of that length of the journal after all of them:
    `journalSize B (rs.take (i+1))` is the offset at which record `i` ends (the quantity `completeAt` counts) -/
theorem journal_prefix (rs : List Record) (i : Nat) :
    encodeJournal B crc (rs.take i) = (encodeJournal B crc rs).take (journalSize B (rs.take i)) := by
  have h := journalSegs_append B (rs.take i) 0 (rs.drop i)
  rw [List.take_append_drop] at h
  unfold encodeJournal journalSize
  rw [h, encSegs_append]
  exact (List.take_left' (length_encSegs crc _)).symm

/-- T3 `recover_truncate_exact`: a journal cut at ANY byte `n` is read back as the records whose encoding ends at
    or before `n` - whole records, in order, nothing of the record the cut falls into. -/
theorem recover_truncate_exact (hB : BlockOK B) (rs : List Record) (n : Nat) :
    recover B crc ((encodeJournal B crc rs).take n) = rs.take (completeAt B rs n) := by
  have h := recover_cut B crc hB.1 hB.2 rs n 0 (Or.inl rfl)
  rwa [List.replicate_zero, List.append_nil] at h

/-- the count in T3 is what the layout recursion `wholeRecs` computes (the `p=` value the driver prints on jr-cut lines) -/
theorem completeAt_is_wholeRecs (rs : List Record) (n : Nat) : completeAt B rs n = wholeRecs B 0 rs n :=
  completeAt_eq B rs n

/-- T3' `recover_truncate`: every byte prefix of a journal recovers to a prefix of the write calls -/
theorem recover_truncate (hB : BlockOK B) (rs : List Record) (n : Nat) :
    ∃ k, recover B crc ((encodeJournal B crc rs).take n) = rs.take k :=
  ⟨_, recover_truncate_exact B crc hB rs n⟩

/-- T4 `recover_encode`: reader ∘ writer = identity (records of any size: empty, spanning many blocks) -/
theorem recover_encode (hB : BlockOK B) (rs : List Record) : recover B crc (encodeJournal B crc rs) = rs := by
  have h := recover_truncate_exact B crc hB rs (encodeJournal B crc rs).length
  rwa [List.take_length, journal_size, completeAt_all, List.take_length] at h

/-- T5 `recover_zero_tail`: a file system that extended the file before the data arrived leaves zeros behind the
    cut. Provided the checksum test rejects the one chunk the cut falls into when its missing bytes read as zeros
    (`TornDetected`; nothing is assumed when the cut falls between chunks, into padding or into a chunk header), the
    result is the same whole-record prefix. -/
theorem recover_zero_tail (hB : BlockOK B) (rs : List Record) (n z : Nat)
    (hdet : TornDetected crc n (journalSegs B 0 rs)) :
    recover B crc ((encodeJournal B crc rs).take n ++ List.replicate z 0) = rs.take (completeAt B rs n) :=
  recover_cut B crc hB.1 hB.2 rs n z (Or.inr hdet)

/-- T5' zeros behind a COMPLETE journal (preallocated tail) change nothing - no hypothesis on the checksum -/
theorem recover_zero_padded (hB : BlockOK B) (rs : List Record) (z : Nat) :
    recover B crc (encodeJournal B crc rs ++ List.replicate z 0) = rs := by
  have h := recover_zero_tail B crc hB rs (encodeJournal B crc rs).length z
    (tornDetected_of_size_le crc _ _ (Nat.le_of_eq (journal_size B crc rs).symm))
  rwa [List.take_length, journal_size, completeAt_all, List.take_length] at h

/-! ### joined with the write plan of `Model/Crash.lean` -/

/-- the store a reopened database shows: the batches read back from the journal, applied to the state `s0` the
    table files hold. `de` decodes a record into its batch. -/
def replay (de : Record → Batch) (s0 : Ldb) (recs : List Record) : Ldb := (recs.map de).foldl applyBatch s0

/-- T6 `replay_truncate`: byte granularity = write-call granularity. The journal holds the earlier write calls
    `hist` and then the write plan of an operation; the process dies when `n` bytes of the file exist, the earlier
    calls being complete (`hn`). Then the reopened store is the store after the first `k` write calls of the plan,
    for some `k` - the situation `afterWrites` of Props/C08 describes. `ser`/`de`: any batch serialisation with a
    left inverse. -/
theorem replay_truncate (hB : BlockOK B) (ser : Batch → Record) (de : Record → Batch) (hde : ∀ b, de (ser b) = b)
    (s0 : Ldb) (hist plan : List Batch) (n : Nat) (hn : journalSize B (hist.map ser) ≤ n) :
    ∃ k, replay de s0 (recover B crc ((encodeJournal B crc ((hist ++ plan).map ser)).take n))
      = afterWrites (hist.foldl applyBatch s0) plan k := by
  have hmap : ∀ l : List Batch, (l.map ser).map de = l := fun l => by
    simp [Function.comp_def, hde]
  have hex := recover_truncate_exact B crc hB ((hist ++ plan).map ser) n
  rw [completeAt_eq, List.map_append, wholeRecs_append B _ 0 _ n hn] at hex
  refine ⟨wholeRecs B (segsEnd B 0 (journalSegs B 0 (hist.map ser))) (plan.map ser)
    (n - segsSize (journalSegs B 0 (hist.map ser))), ?_⟩
  rw [List.map_append, hex, List.take_append, List.take_of_length_le (by omega)]
  simp only [List.length_map, Nat.add_sub_cancel_left]
  unfold replay afterWrites
  rw [List.map_append, hmap, ← List.map_take, hmap, List.foldl_append]

/-- T7 `crash_atomic_add_bytes`: a commit interrupted at ANY BYTE of the journal leaves, after reopening, exactly
    the state before or exactly the state after (lifts `C08.crash_atomic_add` from write calls to bytes). -/
theorem crash_atomic_add_bytes (hB : BlockOK B) (ser : Batch → Record) (de : Record → Batch)
    (hde : ∀ b, de (ser b) = b) (s0 : Ldb) (hist : List Batch) (s s' : Ldb) (prev id : Id) (ops : Patch)
    (hs : s = hist.foldl applyBatch s0) (hp : prev = s.frontierId) (h : s.add prev id ops = some s')
    (n : Nat) (hn : journalSize B (hist.map ser) ≤ n) :
    replay de s0 (recover B crc ((encodeJournal B crc ((hist ++ planAdd s prev id ops).map ser)).take n)) = s ∨
    replay de s0 (recover B crc ((encodeJournal B crc ((hist ++ planAdd s prev id ops).map ser)).take n)) = s' := by
  obtain ⟨k, hk⟩ := replay_truncate B crc hB ser de hde s0 hist (planAdd s prev id ops) n hn
  rw [hk, ← hs]
  exact C08.crash_atomic_add s s' prev id ops hp h k

/-- T7' `crash_atomic_pop_bytes`: the same for a rollback -/
theorem crash_atomic_pop_bytes (hB : BlockOK B) (ser : Batch → Record) (de : Record → Batch)
    (hde : ∀ b, de (ser b) = b) (s0 : Ldb) (hist : List Batch) (s s' : Ldb)
    (hs : s = hist.foldl applyBatch s0) (h : s.pop = some s')
    (n : Nat) (hn : journalSize B (hist.map ser) ≤ n) :
    replay de s0 (recover B crc ((encodeJournal B crc ((hist ++ planPop s).map ser)).take n)) = s ∨
    replay de s0 (recover B crc ((encodeJournal B crc ((hist ++ planPop s).map ser)).take n)) = s' := by
  obtain ⟨k, hk⟩ := replay_truncate B crc hB ser de hde s0 hist (planPop s) n hn
  rw [hk, ← hs]
  exact C08.crash_atomic_pop s s' h k

/-! ### goleveldb's instance -/

theorem block_32768 : BlockOK 32768 := by unfold BlockOK; omega

/-- T3 at goleveldb's parameters -/
theorem recover_truncate_leveldb (rs : List Record) (n : Nat) :
    recover 32768 leveldbCrc ((encodeJournal 32768 leveldbCrc rs).take n) = rs.take (completeAt 32768 rs n) :=
  recover_truncate_exact 32768 leveldbCrc block_32768 rs n

/-- the checksum implementation against the published CRC-32C check value ("123456789" ↦ 0xE3069283) -/
theorem crc32c_check_value :
    crc32c [0x31, 0x32, 0x33, 0x34, 0x35, 0x36, 0x37, 0x38, 0x39] = 0xE3069283 := by decide +kernel

/-! ### negative witness: the strict reader (seeded change C08-r2-1: `Strict: opt.StrictAll`) -/

/-- toy checksum for the decidable instance -/
def toyCrc (l : Journal.Bytes) : UInt32 := l.foldl (fun a b => a * 31 + b.toUInt32) 7

/-- two write calls with block size 32: a 3-byte record, then a 30-byte record that needs two blocks -/
def tornRecs : List Record := [[1, 2, 3], List.replicate 30 9]

/-- N2 `strict_reader_refuses_torn_tail`: the second write is torn at the block boundary (byte 32 of 54: the first
    of its two write(2) calls reached the file). The reader the node uses drops the torn record and delivers the
    first write (the state before); the strict reader refuses the journal - the database cannot be opened any more -
    although it reads the complete journal like the other one. -/
theorem strict_reader_refuses_torn_tail :
    (encodeJournal 32 toyCrc tornRecs).length = 54 ∧
    recover 32 toyCrc ((encodeJournal 32 toyCrc tornRecs).take 32) = tornRecs.take 1 ∧
    recoverStrict 32 toyCrc ((encodeJournal 32 toyCrc tornRecs).take 32) = none ∧
    recoverStrict 32 toyCrc (encodeJournal 32 toyCrc tornRecs) = some tornRecs := by
  decide +kernel

/-- the strict reader differs from the node's reader only by refusing: on ANY file content, when it opens the
    journal it delivers the same records (so the seeded change is invisible until a journal is torn) -/
theorem strict_reader_agrees_when_it_opens (data : Journal.Bytes) (l : List Record)
    (h : recoverStrict B crc data = some l) : recover B crc data = l :=
  strictAux_some B crc _ _ _ _ _ h

end ZV.C08J
