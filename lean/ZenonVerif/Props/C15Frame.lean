import ZenonVerif.Lemmas.Frame
import ZenonVerif.Gen.Proto
/-
C15 — "Corrupted, truncated or re-ordered encrypted frames and malformed discovery packets are rejected, only the
offending peer is dropped": the RLPx frame reader / writer (p2p/rlpx.go) and the discovery packet decoder
(p2p/discover/udp.go) of Model/Frame.lean. Property theorems only; every statement is about ALL byte strings.

The cryptography is a parameter. What is proved is the code AROUND it: which bytes are authenticated before which
are used, that nothing is delivered unless both MACs (hash and signature) verified, that no bounds check can fail.
What is NOT proved, and is a premise wherever it is needed, is that the MAC cannot be forged: stated as "the changed
bytes do not happen to carry the right tag" (`…_rejected` theorems; a changed TAG needs no premise at all) and, for
re-ordering, as injectivity of the tag in the state of the running hash.
-/
namespace ZV.C15Frame
open ZV ZV.Frame

variable {μ κ : Type} {C : Crypto μ κ}

/-! ### frames: round trip -/

/-- Reading what the writer wrote — any code below 2^64, any payload whose frame size fits 24 bits — yields exactly that
    message, leaves the rest of the stream untouched and leaves the reader in the writer's successor state. -/
theorem frame_roundtrip (L : Lawful C) (st : RW μ κ) (code : Nat) (payload rest : Bytes) (hc : code < two64)
    (hs : (encodeCode code).length + payload.length ≤ maxUint24) :
    ∃ wire st', writeMsg C st code payload.length payload = .ok wire st' ∧
      readMsg C st (wire ++ rest) = .msg code payload.length payload rest st' :=
  ⟨_, _, writeMsg_eq L st code payload hs, readMsg_frame L st code payload rest hc hs⟩

/-- The writer refuses a message whose frame size (code bytes + declared size, `uint32`) exceeds 2^24 − 1. -/
theorem writer_size_gate (st : RW μ κ) (code size : Nat) (payload : Bytes)
    (h : ((encodeCode code).length + size) % two32 > maxUint24) : writeMsg C st code size payload = .err := by
  unfold writeMsg; simp only []; rw [if_pos h]

/-! ### frames: totality, authenticity, size -/

/-- For every byte string the reader ends in one of three ways — a message, waiting for more bytes, an error: no bounds
    check of `ReadMsg`, `updateMAC`, `readInt24` can fail. -/
theorem frame_reject_total (L : Lawful C) (st : RW μ κ) (inp : Bytes) : readMsg C st inp ≠ .panic := by
  intro h
  rcases readMsg_cases L st inp with e | ⟨_, e⟩ | ⟨_, _, _, _, e, _⟩ <;>
    exact nomatch h.symm.trans e

/-- A delivered message passed BOTH MAC comparisons: the stream starts with 16 header bytes whose tag under the
    connection's ingress MAC is the next 16 bytes, and a frame body whose tag (MAC state after header and body) is
    the 16 bytes behind it. -/
theorem accepted_frame_authentic (L : Lawful C) (st : RW μ κ) (inp : Bytes) (code size : Nat) (payload rest : Bytes)
    (st' : RW μ κ) (h : readMsg C st inp = .msg code size payload rest st') :
    ∃ h16 t fb fm, inp = h16 ++ t ++ (fb ++ fm ++ rest) ∧ h16.length = 16 ∧ t.length = 16 ∧ fm.length = 16 ∧
      (tag C st.mac h16).2 = t ∧
      (tag C (C.write (tag C st.mac h16).1 fb) (C.sum (C.write (tag C st.mac h16).1 fb))).2 = fm := by
  rcases readMsg_cases L st inp with e | ⟨_, e⟩ | ⟨_, _, _, _, hm, h16, t, fb, fm, _, e, l1, l2, _, m2, ht, hfm, _⟩
  · exact nomatch h.symm.trans e
  · exact nomatch h.symm.trans e
  · cases h.symm.trans hm
    exact ⟨h16, t, fb, fm, e, l1, l2, m2, ht, hfm⟩

/-- A delivered message is smaller than the 24-bit frame size, and its `Size` is the length of its payload; the reader
    has taken at most 32 + 2^24 + 16 bytes from the connection for it. -/
theorem accepted_frame_size_le (L : Lawful C) (st : RW μ κ) (inp : Bytes) (hw : inp.WF) (code size : Nat)
    (payload rest : Bytes) (st' : RW μ κ) (h : readMsg C st inp = .msg code size payload rest st') :
    size = payload.length ∧ size < maxUint24 ∧ inp.length ≤ rest.length + headerLen + (maxUint24 + 1) + macLen := by
  rcases readMsg_cases L st inp with e | ⟨_, e⟩ | ⟨_, _, _, _, hm, h16, t, fb, fm, fsize, e, l1, l2, m1, m2, _, _, hf, hd⟩
  · exact nomatch h.symm.trans e
  · exact nomatch h.symm.trans e
  · cases h.symm.trans hm
    -- the announced size is below 2^24 (three bytes), the payload is shorter than the content it is cut from
    have hlt := readInt24_lt _ (L.dec_wf _ _ fun x hx => hw x (by rw [e]; simp [hx])) _ hf
    have hp := decodeCode_len _ _ _ hd
    rw [List.length_take] at hp
    have hr : roundUp16 fsize ≤ 16777216 := by unfold roundUp16; split <;> omega
    have e2 := congrArg List.length e
    simp only [List.length_append, l1, l2, m1, m2] at e2
    rw [headerLen_eq, macLen_eq, maxUint24_eq]
    unfold two32
    omega

/-- The buffer `make([]byte, rsize)` is at most 2^24 bytes: arithmetic of the rounding only. That it is allocated behind the
    header MAC comparison is the order of `readMsg_order_in_code`; `corrupted_header_rejected` returns before it. -/
theorem frame_allocation_bound (fsize : Nat) (h : fsize ≤ maxUint24) : roundUp16 fsize ≤ maxUint24 + 1 := by
  have hm := maxUint24_eq
  unfold roundUp16; split <;> omega

/-! ### frames: truncation -/

/-- Any strict prefix of a valid frame makes the reader wait (`io.ReadFull` does not return): never a message. -/
theorem truncated_frame_never_accepted (L : Lawful C) (st : RW μ κ) (code : Nat) (payload : Bytes)
    (hs : (encodeCode code).length + payload.length ≤ maxUint24) (wire : Bytes) (st' : RW μ κ)
    (hw : writeMsg C st code payload.length payload = .ok wire st') (n : Nat) (hn : n < wire.length) :
    readMsg C st (wire.take n) = .needMore := by
  rw [writeMsg_eq L st code payload hs] at hw
  cases hw
  exact readMsg_frame_prefix L st code payload hs n hn

/-- Fewer than 32 bytes never produce anything. -/
theorem short_input_waits (st : RW μ κ) (inp : Bytes) (h : inp.length < headerLen) : readMsg C st inp = .needMore := by
  unfold readMsg; rw [readHeader_short _ _ h]

/-! ### frames: corruption -/

/-- The first 32 bytes, whatever they are: unless the second half is the tag of the first half under the connection's
    MAC state (premise = the sender of these bytes did not forge it), the reader stops with "bad header MAC" — having
    looked at nothing else, allocated nothing, decrypted nothing. -/
theorem corrupted_header_rejected (L : Lawful C) (st : RW μ κ) (h16 t X : Bytes) (h1 : h16.length = 16)
    (h2 : t.length = 16) (unforged : (tag C st.mac h16).2 ≠ t) :
    readMsg C st (h16 ++ t ++ X) = .reject .badHeaderMAC := by
  unfold readMsg; rw [readHeader_split L st h16 t X h1 h2, if_pos unforged]

/-- No premise: any change of the header MAC bytes of a valid frame is rejected. -/
theorem flipped_header_mac_rejected (L : Lawful C) (st : RW μ κ) (f : Nat) (t X : Bytes) (h2 : t.length = 16)
    (hne : t ≠ wHmac C st f) : readMsg C st (wHdr C st f ++ t ++ X) = .reject .badHeaderMAC :=
  corrupted_header_rejected L st _ t X (wHdr_len L st f) h2 (fun h => hne (by rw [← h]; rfl))

/-- A change of the 16 encrypted header bytes of a valid frame is rejected unless the changed bytes collide with the
    original ones under the MAC (premise: they do not). -/
theorem flipped_header_rejected (L : Lawful C) (st : RW μ κ) (f : Nat) (h16 X : Bytes) (h1 : h16.length = 16)
    (nocollision : (tag C st.mac h16).2 ≠ (tag C st.mac (wHdr C st f)).2) :
    readMsg C st (h16 ++ wHmac C st f ++ X) = .reject .badHeaderMAC :=
  corrupted_header_rejected L st h16 _ X h1 (wHmac_len L st f) nocollision

/-- Behind an authentic header announcing `fsize`: whatever the body `fb` and the 16 bytes `fm` behind it are, unless
    `fm` is the tag of the MAC state after the body (premise), the reader stops with "bad frame MAC" — before
    decrypting the body and before looking at the message code. -/
theorem corrupted_body_rejected (L : Lawful C) (st : RW μ κ) (h16 t fb fm rest : Bytes) (fsize : Nat)
    (h1 : h16.length = 16) (h2 : t.length = 16) (ht : (tag C st.mac h16).2 = t)
    (hf : readInt24 (C.dec st.ks h16).2 = .ok fsize) (h3 : fb.length = roundUp16 fsize) (h4 : fm.length = 16)
    (unforged : (tag C (C.write (tag C st.mac h16).1 fb) (C.sum (C.write (tag C st.mac h16).1 fb))).2 ≠ fm) :
    readMsg C st (h16 ++ t ++ (fb ++ fm ++ rest)) = .reject .badFrameMAC := by
  unfold readMsg
  rw [readHeader_split L st h16 t _ h1 h2, if_neg (by simp [ht]), hf]
  simp only []
  rw [readBody_split L _ _ _ fb fm rest h3 h4, if_pos unforged]

/-- No premise: any change of the frame MAC bytes of a valid frame is rejected. -/
theorem flipped_frame_mac_rejected (L : Lawful C) (st : RW μ κ) (code : Nat) (payload fm rest : Bytes)
    (hs : (encodeCode code).length + payload.length ≤ maxUint24) (h4 : fm.length = 16) (hne : fm ≠ wFmac C st code payload) :
    readMsg C st (wHdr C st (wFsize code payload) ++ wHmac C st (wFsize code payload)
      ++ (wBody C (wK1 C st (wFsize code payload)) code payload (wFsize code payload) ++ fm ++ rest)) = .reject .badFrameMAC := by
  unfold readMsg
  rw [readHeader_frame L st (wFsize code payload) _ hs]
  simp only []
  rw [readBody_split L _ _ _ _ fm rest (wBody_len L _ code payload) h4, if_pos (fun h => hne (by rw [← h]; rfl))]

/-- A changed body (same length) of a valid frame is rejected unless it collides with the original under the MAC. -/
theorem flipped_body_rejected (L : Lawful C) (st : RW μ κ) (code : Nat) (payload fb rest : Bytes)
    (hs : (encodeCode code).length + payload.length ≤ maxUint24) (h3 : fb.length = roundUp16 (wFsize code payload))
    (nocollision : (tag C (C.write (wM1 C st (wFsize code payload)) fb) (C.sum (C.write (wM1 C st (wFsize code payload)) fb))).2
      ≠ wFmac C st code payload) :
    readMsg C st (wHdr C st (wFsize code payload) ++ wHmac C st (wFsize code payload)
      ++ (fb ++ wFmac C st code payload ++ rest)) = .reject .badFrameMAC := by
  unfold readMsg
  rw [readHeader_frame L st (wFsize code payload) _ hs]
  simp only []
  rw [readBody_split L _ _ _ fb _ rest h3 (wFmac_len L st code payload), if_pos nocollision]

/-! ### frames: re-ordering and replay (the MAC is a running hash) -/

/-- "The running MAC is injective in its history", as far as the header check needs it: the header tag of the same 16
    bytes under two different MAC states differs. -/
def TagSeparatesStates (C : Crypto μ κ) : Prop := ∀ m m' x, (tag C m x).2 = (tag C m' x).2 → m = m'

/-- A frame written for MAC state `s.mac` and read at a different MAC state is rejected at its header. -/
theorem frame_for_other_state_rejected (L : Lawful C) (hinj : TagSeparatesStates C) (st s : RW μ κ) (code : Nat)
    (payload X : Bytes) (hne : s.mac ≠ st.mac) :
    readMsg C st (frameBytes C s code payload ++ X) = .reject .badHeaderMAC := by
  rw [frameBytes_append]
  exact corrupted_header_rejected L st _ _ _ (wHdr_len L s _) (wHmac_len L s _)
    (fun h => hne (hinj _ _ _ h).symm)

/-- Two frames A, B written in this order and delivered as B, A: the reader rejects B (the first swapped frame) with
    "bad header MAC" — premises: the tag separates MAC states, and writing A moved the MAC state. -/
theorem reordered_frames_rejected (L : Lawful C) (hinj : TagSeparatesStates C) (st : RW μ κ) (a b : Nat) (pa pb X : Bytes)
    (hadv : (frameNext C st a pa).mac ≠ st.mac) :
    readMsg C st (frameBytes C (frameNext C st a pa) b pb ++ (frameBytes C st a pa ++ X)) = .reject .badHeaderMAC :=
  frame_for_other_state_rejected L hinj st _ b pb _ hadv

/-- A frame delivered a second time is rejected: the reader's MAC state has moved on. -/
theorem replayed_frame_rejected (L : Lawful C) (hinj : TagSeparatesStates C) (st : RW μ κ) (a : Nat) (pa X : Bytes)
    (ha : a < two64) (hs : (encodeCode a).length + pa.length ≤ maxUint24)
    (hadv : (frameNext C st a pa).mac ≠ st.mac) :
    ∃ st', readMsg C st (frameBytes C st a pa ++ (frameBytes C st a pa ++ X)) = .msg a pa.length pa (frameBytes C st a pa ++ X) st' ∧
      readMsg C st' (frameBytes C st a pa ++ X) = .reject .badHeaderMAC :=
  ⟨_, readMsg_frame L st a pa _ ha hs, frame_for_other_state_rejected L hinj _ st a pa X (fun h => hadv h.symm)⟩

/-! ### a toy instance: the premises are satisfiable -/

/-- MAC state = number of bytes written; `Sum` shows it; no encryption. -/
def toy : Crypto Nat Unit where
  sum m := m :: List.replicate 31 0
  write m b := m + b.length
  block _ := List.replicate 16 0
  enc k b := (k, b)
  dec k b := (k, b)

theorem toy_lawful : Lawful toy where
  sum_len _ := by simp [toy]; rfl
  block_len _ := by simp [toy]; rfl
  enc_len _ _ := rfl
  dec_len _ _ := rfl
  dec_wf _ _ h := h
  dec_enc _ _ := rfl
  dec_append _ _ _ := rfl
  write_append m a b := by simp [toy]; omega

theorem toy_separates : TagSeparatesStates toy := by
  intro m m' x h
  simp [tag, toy, macLen_eq, xorBytes] at h
  omega

example : ∃ (C : Crypto Nat Unit), Lawful C ∧ TagSeparatesStates C ∧
    (frameNext C ⟨0, ()⟩ 5 [1, 2, 3]).mac ≠ (⟨0, ()⟩ : RW Nat Unit).mac ∧
    (tag C 0 (List.replicate 16 7)).2 ≠ List.replicate 16 0 :=
  ⟨toy, toy_lawful, toy_separates, by decide, by decide⟩

/-! ### only the offending peer -/

/-- `ReadMsg` works on the state of ONE connection. Whatever peer `p`'s bytes are — message, waiting, rejection — the
    session of every other peer is what it was; a rejection removes `p`'s session and nothing else. -/
theorem reject_drops_only_that_peer (node : Node μ κ) (p : Nat) (inp : Bytes) (q : Nat) (hq : q ≠ p) :
    (nodeRead C node p inp).1 q = node q := by
  unfold nodeRead
  split
  · rfl
  · split <;> simp [hq]

/-- …and a rejection does drop `p`. -/
theorem rejected_peer_is_dropped (node : Node μ κ) (p : Nat) (inp : Bytes) (st : RW μ κ) (r : Reason)
    (hp : node p = some st) (h : readMsg C st inp = .reject r) :
    nodeRead C node p inp = (fun q => if q = p then none else node q, .dropped) := by
  unfold nodeRead; rw [hp]; simp only []; rw [h]

/-- In the code (AST of p2p/peer.go): `readLoop` sends a `ReadMsg` error on its own `errc` and returns; the `readErr`
    case of `run` picks a reason and leaves the loop; behind the loop THIS peer's transport is closed. `readLoop` touches
    nothing but `p.rw`, `p.handle` and the message. -/
theorem read_error_ends_only_this_peer_in_code :
    Gen.PeerReadLoopBody.take 2 = ["msg, err := p.rw.ReadMsg()", "if err != nil { … return }"] ∧
    Gen.PeerReadLoopErrBranch = ["if err != nil", "errc <- err", "return"] ∧
    Gen.PeerRunReadErrCase = ["if r, ok := err.(DiscReason); ok { … reason = r }", "break",
      "then: requested = true; reason = r", "else: reason = DiscNetworkError"] ∧
    Gen.PeerRunAfterLoop.take 2 = ["p.rw.close(reason)", "close(p.closed)"] ∧
    Gen.PeerReadLoopSelectors = ["p.rw", "msg.ReceivedAt", "time.Now", "p.handle"] := ⟨rfl, rfl, rfl, rfl, rfl⟩

/-! ### the order of the checks in the code -/

/-- `ReadMsg` as the model follows it: 32 header bytes, header MAC compared BEFORE the header is decrypted and the size
    read, the body read, frame MAC compared BEFORE the body is decrypted, then the code. -/
theorem readMsg_order_in_code : Gen.ReadMsgShape =
    ["headbuf := make([]byte, 32)",
     "if _, err := io.ReadFull(rw.conn, headbuf); err != nil { … return msg, err }",
     "shouldMAC := updateMAC(rw.ingressMAC, rw.macCipher, headbuf[:16])",
     "if !hmac.Equal(shouldMAC, headbuf[16:]) { … return msg, errors.New(\"bad header MAC\") }",
     "rw.dec.XORKeyStream(headbuf[:16], headbuf[:16])",
     "fsize := readInt24(headbuf)",
     "var rsize = fsize",
     "if padding := fsize % 16; padding > 0 { … rsize += 16 - padding }",
     "framebuf := make([]byte, rsize)",
     "if _, err := io.ReadFull(rw.conn, framebuf); err != nil { … return msg, err }",
     "rw.ingressMAC.Write(framebuf)",
     "fmacseed := rw.ingressMAC.Sum(nil)",
     "if _, err := io.ReadFull(rw.conn, headbuf[:16]); err != nil { … return msg, err }",
     "shouldMAC = updateMAC(rw.ingressMAC, rw.macCipher, fmacseed)",
     "if !hmac.Equal(shouldMAC, headbuf[:16]) { … return msg, errors.New(\"bad frame MAC\") }",
     "rw.dec.XORKeyStream(framebuf, framebuf)",
     "content := bytes.NewReader(framebuf[:fsize])",
     "if err := rlp.Decode(content, &msg.Code); err != nil { … return msg, err }",
     "msg.Size = uint32(content.Len())",
     "msg.Payload = content",
     "return msg, nil"] := rfl

theorem writeMsg_order_in_code : Gen.WriteMsgShape.take 9 =
    ["ptype, _ := rlp.EncodeToBytes(msg.Code)",
     "headbuf := make([]byte, 32)",
     "fsize := uint32(len(ptype)) + msg.Size",
     "if fsize > maxUint24 { … return errors.New(\"message size overflows uint24\") }",
     "putInt24(fsize, headbuf)",
     "copy(headbuf[3:], zeroHeader)",
     "rw.enc.XORKeyStream(headbuf[:16], headbuf[:16])",
     "copy(headbuf[16:], updateMAC(rw.egressMAC, rw.macCipher, headbuf[:16]))",
     "if _, err := rw.conn.Write(headbuf); err != nil { … return err }"] ∧
    Gen.UpdateMACShape = ["aesbuf := make([]byte, aes.BlockSize)", "block.Encrypt(aesbuf, mac.Sum(nil))", "for range aesbuf",
      "mac.Write(aesbuf)", "return mac.Sum(nil)[:16]"] ∧
    Gen.ReadInt24Shape = ["return uint32(b[2]) | uint32(b[1])<<8 | uint32(b[0])<<16"] ∧
    Gen.PutInt24Shape = ["b[0] = byte(v >> 16)", "b[1] = byte(v >> 8)", "b[2] = byte(v)"] := ⟨rfl, rfl, rfl, rfl⟩

/-- the constants the model computes with, as the packages have them -/
theorem frame_constants :
    Gen.FrMaxUint24 = 2 ^ 24 - 1 ∧ Gen.FrHeaderLen = 2 * Gen.FrAesBlockSize ∧ Gen.FrAesBlockSize ≤ Gen.FrHashSize ∧
    Gen.FrZeroHeader.length = 3 ∧ Gen.FrBaseProtocolMaxMsgSize = 2048 ∧ Gen.FrBaseProtocolMaxMsgSize < Gen.FrMaxUint24 ∧
    Gen.ProtocolMaxMsgSize = 10 * 1024 * 1024 ∧ Gen.ProtocolMaxMsgSize < Gen.FrMaxUint24 := by decide

/-- the first message of a session: nothing larger than `baseProtocolMaxMsgSize` gets as far as `msg.Decode` — the size
    test stands in front of every test on the code. -/
theorem handshake_size_gate (code size : Nat) (h : size > Gen.FrBaseProtocolMaxMsgSize) :
    protoHandshakeGate true code size = .tooBig := by
  unfold protoHandshakeGate; simp [h]

theorem handshake_gate_in_code : Gen.ReadProtocolHandshakeShape.take 5 =
    ["msg, err := rw.ReadMsg()", "if err != nil { … return nil, err }",
     "if msg.Size > baseProtocolMaxMsgSize { … return nil, fmt.Errorf(\"message too big\") }",
     "if msg.Code == discMsg { … return nil, reason[0] }",
     "if msg.Code != handshakeMsg { … return nil, fmt.Errorf(\"expected handshake, got %x\", msg.Code) }"] := rfl

/-! ### discovery datagrams -/

/-- Every datagram shorter than hash + signature + one packet-type byte is refused before anything is sliced. -/
theorem packet_too_small_rejected (D : DCrypto) (buf : Bytes) (h : buf.length < headSize + 1) :
    decodePacket D buf = .reject .tooSmall := by
  unfold decodePacket; rw [if_pos h]

/-- For every byte string `decodePacket` returns a request or an error: no slice expression, not `sigdata[0]`, can fail. -/
theorem decode_total (D : DCrypto) (buf : Bytes) : decodePacket D buf ≠ .panic := by
  by_cases h : buf.length < headSize + 1
  · rw [packet_too_small_rejected D buf h]; exact DOut.noConfusion
  · rw [decodePacket_long D buf h]
    split
    · exact DOut.noConfusion
    · split
      · exact DOut.noConfusion
      · split
        · split <;> exact DOut.noConfusion
        · exact DOut.noConfusion

/-- A datagram whose first 32 bytes are not the hash of the rest is refused — before signature recovery, before the
    packet type is looked at, before RLP decoding. -/
theorem bad_hash_rejected (D : DCrypto) (buf : Bytes) (h : ¬ buf.length < headSize + 1)
    (hh : buf.take macSize ≠ D.hash (buf.drop macSize)) : decodePacket D buf = .reject .badHash := by
  rw [decodePacket_long D buf h, if_pos hh]

/-- What an accepted datagram has gone through: long enough, the hash in front matches, a public key was recovered from
    the signature over the hash of type + body, the type is one of the four, the body decoded as that type's request. -/
theorem accepted_packet_wellformed (D : DCrypto) (buf : Bytes) (ptype : Nat) (fromID hash : Bytes) (req : Req)
    (h : decodePacket D buf = .ok ptype fromID hash req) :
    headSize + 1 ≤ buf.length ∧ hash = buf.take macSize ∧ buf.take macSize = D.hash (buf.drop macSize) ∧
    D.recover (D.hash (buf.drop headSize)) ((buf.drop macSize).take sigSize) = some fromID ∧
    ptype = (buf.drop headSize).getD 0 0 ∧ ptype ∈ knownTypes ∧ D.body ptype ((buf.drop headSize).drop 1) = some req := by
  by_cases hs : buf.length < headSize + 1
  · rw [packet_too_small_rejected D buf hs] at h; cases h
  · rw [decodePacket_long D buf hs] at h
    have e3 : headSize - macSize = sigSize := rfl
    split at h
    · cases h
    · rename_i hh
      split at h
      · cases h
      · rename_i fid hr
        split at h
        · rename_i hk
          split at h
          · cases h
          · rename_i r hb
            cases h
            exact ⟨by omega, rfl, by simpa using hh, by rw [← e3]; exact hr, rfl, hk, hb⟩
        · cases h

/-- A packet-type byte other than ping / pong / findnode / neighbors is refused (never decoded, never handled). -/
theorem unknown_type_rejected (D : DCrypto) (buf : Bytes) (ptype : Nat) (fromID hash : Bytes) (req : Req)
    (h : decodePacket D buf = .ok ptype fromID hash req) : ptype ∈ knownTypes :=
  (accepted_packet_wellformed D buf ptype fromID hash req h).2.2.2.2.2.1

/-- An expired request is never handled: `handlePacket` returns `errExpired` (or an earlier decoding error) whatever
    the type, for EVERY datagram — the expiry test is the first statement of each of the four `handle` methods. -/
theorem expired_rejected (D : DCrypto) (nowSec : Int) (nowNsec version : Nat) (buf : Bytes) (ptype : Nat)
    (fromID hash : Bytes) (req : Req) (h : decodePacket D buf = .ok ptype fromID hash req)
    (he : expired req.expiration nowSec nowNsec = true) :
    handlePacket D nowSec nowNsec version buf = .expired := by
  unfold handlePacket; rw [h]; simp only []; rw [if_pos he]

/-- …and whatever is handled was decoded, is not expired and, for a ping, carries this node's protocol version. -/
theorem handled_packet_fresh (D : DCrypto) (nowSec : Int) (nowNsec version : Nat) (buf : Bytes) (ptype : Nat)
    (h : handlePacket D nowSec nowNsec version buf = .handled ptype) :
    ∃ fromID hash req, decodePacket D buf = .ok ptype fromID hash req ∧ expired req.expiration nowSec nowNsec = false ∧
      (ptype = Gen.DiscPingPacket → req.version = version) := by
  revert h
  fun_cases handlePacket D nowSec nowNsec version buf
  case case5 pt fid hs req hd hne hv =>
    intro h; cases h
    exact ⟨fid, hs, req, hd, by simpa using hne, fun hp => Decidable.byContradiction fun hc => hv ⟨hp, hc⟩⟩
  all_goals nofun

/-- `expired` at the extremes: an expiration of 0, of 2^63 − 1 (`time.Unix` wraps), of 2^63 and of 2^64 − 1 (negative
    `int64`) all count as expired at any time of this era; one second ahead of the clock does not. -/
theorem expired_extremes (nowSec : Nat) (h1 : 0 < nowSec) (h2 : nowSec < 2 ^ 62) (nsec : Nat) :
    expired 0 nowSec nsec = true ∧ expired (2 ^ 63 - 1) nowSec nsec = true ∧ expired (2 ^ 63) nowSec nsec = true ∧
    expired (2 ^ 64 - 1) nowSec nsec = true ∧ expired (nowSec + 1) nowSec nsec = false := by
  have e : Gen.UnixToInternal = 62135596800 := rfl
  refine ⟨?_, ?_, ?_, ?_, ?_⟩ <;>
    simp only [expired, toInt64, wrap64, two64, two63, e, Bool.or_eq_true, Bool.and_eq_true, decide_eq_true_eq,
      Bool.or_eq_false_iff, Bool.and_eq_false_imp, decide_eq_false_iff_not] <;> omega

/-- in the code: the first statement of every `handle` is the expiry test; `decodePacket`'s statements in order; the
    packet-type switch; `handlePacket` returns a decoding error without calling `handle`; the read loop of the socket
    ignores what `handlePacket` returns and goes on. -/
theorem decodePacket_order_in_code :
    Gen.DecodePacketShape =
      ["if len(buf) < headSize+1 { … return nil, NodeID{}, nil, errPacketTooSmall }",
       "hash, sig, sigdata := buf[:macSize], buf[macSize:headSize], buf[headSize:]",
       "shouldhash := crypto.Keccak256(buf[macSize:])",
       "if !bytes.Equal(hash, shouldhash) { … return nil, NodeID{}, nil, errBadHash }",
       "fromID, err := recoverNodeID(crypto.Keccak256(buf[headSize:]), sig)",
       "if err != nil { … return nil, NodeID{}, hash, err }",
       "var req packet", "switch ptype", "err = rlp.DecodeBytes(sigdata[1:], req)", "return req, fromID, hash, err"] ∧
    Gen.DecodePacketCases =
      ["pingPacket: req = new(ping)", "pongPacket: req = new(pong)", "findnodePacket: req = new(findnode)",
       "neighborsPacket: req = new(neighbors)", "default: return nil, fromID, hash, fmt.Errorf(\"unknown type: %d\", ptype)"] ∧
    Gen.HandleFirstStatement =
      ["ping: if expired(req.Expiration) { … return errExpired }", "pong: if expired(req.Expiration) { … return errExpired }",
       "findnode: if expired(req.Expiration) { … return errExpired }",
       "neighbors: if expired(req.Expiration) { … return errExpired }"] ∧
    Gen.ExpiredShape = ["return time.Unix(int64(ts), 0).Before(time.Now())"] ∧
    Gen.HandlePacketShape.take 2 = ["packet, fromID, hash, err := decodePacket(buf)", "if err != nil { … return err }"] ∧
    Gen.UdpReadLoopShape = ["defer t.conn.Close()", "buf := make([]byte, 1280)", "for",
      "nbytes, from, err := t.conn.ReadFromUDP(buf)", "if err != nil { … return }", "t.handlePacket(from, buf[:nbytes])"] :=
  ⟨rfl, rfl, rfl, rfl, rfl, rfl⟩

theorem disc_constants :
    Gen.DiscHeadSize = Gen.DiscMacSize + Gen.DiscSigSize ∧ Gen.DiscMacSize = 32 ∧ Gen.DiscSigSize = 65 ∧
    Gen.DiscExpirationSec = 20 ∧ Gen.DiscDatagramLimit = 1280 ∧ Gen.DiscLimitLiterals = [1280, 1, 1280] ∧
    knownTypes = [1, 2, 3, 4] ∧ Gen.DiscMaxNeighbors ≤ Gen.DiscBucketSize := by decide

/-! ### the size of a neighbors reply -/

/-- `maxNeighbors` is what the stuffing loop of `init()` computes under the model's size arithmetic: with that many
    nodes of maximal size the datagram stays below the limit, with one more it does not. -/
theorem maxNeighbors_is_stuffing_bound :
    stuff 100 0 = some Gen.DiscMaxNeighbors ∧
    neighborsPacketLen (List.replicate Gen.DiscMaxNeighbors maxSizeNode) (two64 - 1) < Gen.DiscDatagramLimit ∧
    neighborsPacketLen (List.replicate (Gen.DiscMaxNeighbors + 1) maxSizeNode) (two64 - 1) ≥ Gen.DiscDatagramLimit := by
  decide

/-- A neighbors datagram with at most `maxNeighbors` nodes — any IPs of at most 16 bytes, any ports, any expiration
    below 2^64 — is at most 1280 bytes long (it is below 1280: what `readLoop`'s buffer of the receiver holds). -/
theorem neighbors_reply_fits (ns : List RpcNode) (exp : Nat) (h : ∀ n ∈ ns, NodeOk n) (hn : ns.length ≤ Gen.DiscMaxNeighbors)
    (he : exp < two64) : neighborsPacketLen ns exp < Gen.DiscDatagramLimit := by
  have e1 : Gen.DiscMaxNeighbors = 12 := rfl
  have e2 : Gen.DiscDatagramLimit = 1280 := rfl
  have e3 : headSize = 97 := rfl
  have hl := nodesLen_le ns h
  have a1 := rlpUintLen_le exp 8 he
  have b1 := rlpHdrLen_le (nodesLen ns) 2 (by omega)
  have b2 := rlpHdrLen_le (rlpHdrLen (nodesLen ns) + nodesLen ns + rlpUintLen exp) 2 (by omega)
  unfold neighborsPacketLen neighborsLen
  simp only []
  omega

/-- The chunking loop of `findnode.handle`: no datagram carries more than `maxNeighbors` nodes (for `maxNeighbors ≥ 1`),
    and together the datagrams carry exactly the nodes found, in order. -/
theorem chunks_bounded {α : Type} (maxN : Nat) (hm : 1 ≤ maxN) (closest acc : List α) (ha : acc.length < maxN) :
    (∀ c ∈ chunkLoop maxN acc closest, c.length ≤ maxN) ∧
    (chunkLoop maxN acc closest).flatten = (if closest = [] then [] else acc ++ closest) := by
  induction closest generalizing acc with
  | nil => simp [chunkLoop]
  | cons n rest ih =>
    unfold chunkLoop
    simp only []
    split
    · have := ih [] (by simp; omega)
      refine ⟨List.forall_mem_cons.mpr ⟨by simp; omega, this.1⟩, ?_⟩
      simp only [List.flatten_cons, this.2]
      cases rest <;> simp
    · rename_i hc
      have hlen : (acc ++ [n]).length < maxN := by simp at hc ⊢; omega
      have := ih (acc ++ [n]) hlen
      refine ⟨this.1, ?_⟩
      rw [this.2]
      have hr : rest ≠ [] := fun h => hc (Or.inr h)
      simp [hr]

theorem chunk_loop_in_code : Gen.FindnodeChunkLoop =
    ["closest := t.closest(target, bucketSize).entries", "for i, n := range closest",
     "p.Nodes = append(p.Nodes, nodeToRPC(n))",
     "if len(p.Nodes) == maxNeighbors || i == len(closest)-1 { … p.Nodes = p.Nodes[:0] }",
     "then: t.send(from, neighborsPacket, p); p.Nodes = p.Nodes[:0]"] ∧
    Gen.DiscInitShape.drop 3 =
    ["for n := 0; ; n++", "p.Nodes = append(p.Nodes, maxSizeNode)", "size, _, err := rlp.EncodeToReader(p)",
     "if err != nil { … panic(\"cannot encode: \" + err.Error()) }", "if headSize+size+1 >= 1280 { … break }",
     "then: maxNeighbors = n; break"] := ⟨rfl, rfl⟩

end ZV.C15Frame
