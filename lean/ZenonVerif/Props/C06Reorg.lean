import ZenonVerif.Lemmas.NodeReorg
import ZenonVerif.Props.C02Node
import ZenonVerif.Gen.NodeReorg
import ZenonVerif.Gen.NodeCache
/-
C06 / C02 / C16 at the level of the node, in ONE state machine (`Model/NodeReorg.lean`): the node of `Props/C02Node.lean`
(accepted history + unconfirmed pool, the VM an arbitrary parameter `exec`) whose delivery operation is the whole
`chainBridge.InsertChain` — skip loop, side-chain tests (link, window, strictly longer), `RollbackTo` with the pool
dropped, insert loop stopping at the first failure. Every theorem is for every `exec` / `pack` / `hash` / `mvalid` /
`prio` and for every operation sequence: gossip of arbitrary blocks, deliveries that extend, reorganise (any number of
times), are refused, or fail half-way before or after a rollback, and restarts.

What is assumed, and where: about the VM nothing; about block identifiers no collision among the blocks that occur
(`NoCollision`, as in C02Node — wherever a node recognises a block by its identifier); about the changes hash nothing.
Consensus statistics and the versioned store's views are `Props/C06Node.lean` / `Props/C06.lean`; here "historical view" is
`ledgerAt` (the ledger as of a momentum of the chain).
-/
namespace ZV.C06Reorg
open ZV ZV.NodeSync ZV.NodeReorg ZV.C02Node

variable {P L : Type}

/-- C06 `no_trace_of_abandoned_branch`: for every reachable node — whatever it accepted and abandoned before — the stored
    history (every momentum with its transactions, the patch of every block, the patch of every momentum), hence the
    frontier ledger, the ledger as of every momentum (`ledgerAt`), the confirmed account chains and the chain itself,
    equal those of a node that was given ONLY the final chain, in one batch, from genesis (`served` = what the node serves to
    a syncing peer: `GetBlock` of every momentum of its chain). Everything observable except the pool is a function of
    the current chain alone; this generalises `C02Node.ledger_schedule_independent` from "same accepted sequence" to "same
    current chain". The delivery to the fresh node is accepted completely. -/
theorem no_trace_of_abandoned_branch (W : VM P L) (ops : List NodeReorg.Op) (hcol : NoCollision (opBlocksR ops)) :
    (deliverR W false Node.init (served (runR W ops).hist)).2 = .ok ∧
    (runR W [.deliver (served (runR W ops).hist)]).hist = (runR W ops).hist ∧
    (runR W [.deliver (served (runR W ops).hist)]).chain = (runR W ops).chain ∧
    ledger W (runR W [.deliver (served (runR W ops).hist)]).hist = ledger W (runR W ops).hist ∧
    (∀ x, ledgerAt W (runR W [.deliver (served (runR W ops).hist)]).hist x = ledgerAt W (runR W ops).hist x) ∧
    (∀ a, conf W (runR W [.deliver (served (runR W ops).hist)]).hist a = conf W (runR W ops).hist a) := by
  let U : Block → Prop := fun b => b ∈ opBlocksR ops
  have hi := runR_inv W U ops (fun b hb => hb)
  obtain ⟨q, hq, _⟩ := replay_served (U := U) (fun b b' hb hb' => hcol b hb b' hb') _
    hi.base.hist hi.base.hash hi.chain hi.base.blocks.2
  have hd := deliverR_served (W := W) false hi.chain
  have e : (runR W [.deliver (served (runR W ops).hist)]).hist = (runR W ops).hist := by
    show ((deliverR W false Node.init (served (runR W ops).hist)).1).hist = _
    rw [hd, hq]
  refine ⟨by rw [hd, hq], e, ?_⟩
  rw [Node.chain, e]
  exact ⟨rfl, rfl, fun _ => rfl, fun _ => rfl⟩

/-- C06 `pool_after_reorg_sound`: `C02Node.pool_patches_sound` in every reachable state of the extended model, with respect
    to the CURRENT chain — each pooled `(b, p)` sits in its account's stack, links to the transaction below it (or to
    the confirmed frontier of the current chain), `b.ack` is a momentum of the current chain and `p` is `exec` on the
    ledger as of it and the account chain up to `b.prev`. No pooled patch computed against an abandoned momentum
    survives a reorganisation: `RollbackTo` drops the pool, and a block that acknowledges an abandoned momentum cannot
    enter it afterwards (`ledgerAt … = some l` is part of the conclusion). -/
theorem pool_after_reorg_sound (W : VM P L) (ops : List NodeReorg.Op) (a : Nat) (below above : List (Tx P)) (b : Block) (p : P)
    (h : (runR W ops).pool a = below ++ (b, p) :: above) :
    b.acct = a ∧ b.prev = lastId (conf W (runR W ops).hist a ++ below) ∧
      ∃ l, ledgerAt W (runR W ops).hist b.ack = some l ∧
        W.exec l (conf W (runR W ops).hist a ++ below) b = some p := by
  exact (runR_inv W (fun _ => True) ops (fun _ _ => trivial)).base.pool_at h

/-- the same for what is stored: after any number of reorganisations every stored momentum's transactions are
    exec-determined in their stated contexts on the chain below it, its patch is `pack` of them and hashes to its changes
    hash; every stored momentum names the one below it, carries its position as height and passed `mvalid` there -/
theorem confirmed_after_reorg_sound (W : VM P L) (ops : List NodeReorg.Op) :
    HistSound W (runR W ops).hist ∧ HashOk W (runR W ops).hist ∧ ChainOk W (runR W ops).hist :=
  let hi := runR_inv W (fun _ => True) ops (fun _ _ => trivial)
  ⟨hi.base.hist, hi.base.hash, hi.chain⟩

/-- C16 at node level with the real verification loop instead of an oracle (`_partial`: what `exec` / `mvalid` stand for —
    the verifier's checks themselves — is C03 / C05; downloader / fetcher are not modelled). If `InsertChain` returns nil on
    a reachable node, then with `todo` = the batch behind its known prefix and `k` = the number of own momentums
    abandoned: `k` is at most the window constant of the code (and at most the chain), EVERY momentum of `todo` passed
    `stepR` in order on the state it extends, starting from the node rolled back by `k` (`Steps`: block loop with `exec` on
    the stated context, content consumed from the pool, changes hash recomputed and compared), the new chain is exactly
    fork-prefix + `todo`, and if anything was abandoned (`k > 0`) the new chain is STRICTLY LONGER than the old one. -/
theorem reorg_only_to_longer_verified_chain_partial (W : VM P L) (ops : List NodeReorg.Op) (batch : List DM) (s' : Node P)
    (h : deliverR W false (runR W ops) batch = (s', .ok)) :
    ∃ k, k ≤ Gen.InsertChainWindow ∧ k ≤ (runR W ops).hist.length ∧
      Steps W (rollback false (runR W ops) k) (batch.dropWhile (fun d => knownR W (runR W ops).hist d.m)) s' ∧
      s'.chain = ((batch.dropWhile (fun d => knownR W (runR W ops).hist d.m)).map (·.m)).reverse ++
        (runR W ops).chain.drop k ∧
      (0 < k → (runR W ops).hist.length < s'.hist.length) := by
  generalize runR W ops = s at h ⊢
  rcases deliverR_cases W false s batch with ⟨_, hr⟩ | ⟨k, he, hk⟩
  · rw [h] at hr
    rcases hr with hr | hr | hr <;> cases hr
  · rw [he] at h
    obtain ⟨n, s1, hs, hres⟩ := loopR_spec _ h
    rcases hres with ⟨_, hn, rfl⟩ | ⟨_, _, hv, _⟩
    · rw [hn, List.take_length] at hs
      have hchain := (Steps.chain _ hs).1
      rw [rollback_chain] at hchain
      rcases hk with ⟨rfl, _⟩ | ⟨head, more, hto, hk, hw, hb, hlong⟩
      · exact ⟨0, Nat.zero_le _, Nat.zero_le _, hs, hchain, fun h0 => absurd h0 (Nat.lt_irrefl _)⟩
      · have hbs := byHeight_some_le hb
        have hkl : k ≤ s.hist.length := by
          simp only [frontierHeight, genesisHeight] at hk hbs ⊢; omega
        refine ⟨k, hw, hkl, hs, hchain, fun _ => ?_⟩
        rw [hto] at hs
        have h2 := (Steps.chain _ hs).2
        rw [Steps.last_height _ hs] at hlong
        simp only [frontierHeight, rollback_length] at hlong h2
        omega
    · cases hv

/-- C16 `failure_index_exact`: if `InsertChain` on a reachable node fails in its insert loop with index `i`, then — `todo`,
    `k` as above, `n` = number of momentums accepted before the failure — `i = (number of skipped momentums) + n` is the
    position IN THE ORIGINAL BATCH of the first momentum that `stepR` refuses (`batch[i]? = some d`), the `n` momentums
    before it all passed `stepR` in order, and the node holds exactly fork-prefix + that verified prefix: nothing of the
    refused momentum and nothing behind it. -/
theorem failure_index_exact (W : VM P L) (ops : List NodeReorg.Op) (batch : List DM) (s' : Node P) (i : Nat)
    (h : deliverR W false (runR W ops) batch = (s', .verify i)) :
    ∃ k n d s1, k ≤ Gen.InsertChainWindow ∧
      i = (batch.length - (batch.dropWhile (fun d => knownR W (runR W ops).hist d.m)).length) + n ∧
      batch[i]? = some d ∧
      (batch.dropWhile (fun d => knownR W (runR W ops).hist d.m))[n]? = some d ∧
      Steps W (rollback false (runR W ops) k)
        ((batch.dropWhile (fun d => knownR W (runR W ops).hist d.m)).take n) s1 ∧
      stepR W s1 d = (s', false) ∧
      s'.chain = (((batch.dropWhile (fun d => knownR W (runR W ops).hist d.m)).take n).map (·.m)).reverse ++
        (runR W ops).chain.drop k := by
  generalize runR W ops = s at h ⊢
  rcases deliverR_cases W false s batch with ⟨_, hr⟩ | ⟨k, he, hk⟩
  · rw [h] at hr
    rcases hr with hr | hr | hr <;> cases hr
  · rw [he] at h
    obtain ⟨n, s1, hs, hres⟩ := loopR_spec _ h
    rcases hres with ⟨hv, _, _⟩ | ⟨d, hd, hv, hst⟩
    · cases hv
    · simp only [Res.verify.injEq] at hv
      have hw : k ≤ Gen.InsertChainWindow := by
        rcases hk with ⟨rfl, _⟩ | ⟨_, _, _, _, hw, _⟩
        · exact Nat.zero_le _
        · exact hw
      refine ⟨k, n, d, s1, hw, hv, by rw [hv, getElem?_dropWhile]; exact hd, hd, hs, hst, ?_⟩
      have : s'.chain = s1.chain := by simp only [Node.chain, stepR_false_hist hst]
      rw [this, (Steps.chain _ hs).1, rollback_chain]

/-- the three refusals that precede the rollback leave the node — chain AND pool — exactly as it was, with index 0 -/
theorem refused_before_rollback_unchanged (W : VM P L) (kp : Bool) (s : Node P) (batch : List DM)
    (h : (deliverR W kp s batch).2 = .link ∨ (deliverR W kp s batch).2 = .tooFar ∨
      (deliverR W kp s batch).2 = .notLonger) : (deliverR W kp s batch).1 = s := by
  rcases deliverR_cases W kp s batch with ⟨hu, _⟩ | ⟨k, he, _⟩
  · exact hu
  · rw [he] at h
    obtain ⟨_, _, _, hres⟩ := loopR_spec _ (Prod.eta (loopR W (rollback kp s k) _ _)).symm
    rcases hres with ⟨ho, _⟩ | ⟨_, _, ho, _⟩ <;> rw [ho] at h <;> simp at h

/-- C16 `redelivery_idempotent`: delivering again any batch whose momentums are all on the current chain of a reachable
    node — in any order, with repetitions, whatever the pool holds — returns `(0, nil)` and changes nothing, pool included -/
theorem redelivery_idempotent (W : VM P L) (ops : List NodeReorg.Op) (batch : List DM)
    (hon : ∀ d ∈ batch, d.m ∈ (runR W ops).chain) :
    deliverR W false (runR W ops) batch = (runR W ops, .ok) := by
  have hc := (runR_inv W (fun _ => True) ops (fun _ _ => trivial)).chain
  have hk : ∀ d ∈ batch, (fun d => knownR W (runR W ops).hist d.m) d = true := by
    intro d hd
    obtain ⟨e, he, hm⟩ := List.mem_map.1 (hon d hd)
    simp only
    rw [← hm]
    exact hc.known e he
  have hd := List.dropWhile_append_of_pos (l₂ := []) hk
  rw [List.append_nil] at hd
  unfold deliverR
  simp only [hd, List.dropWhile_nil]

/-- C16 `abandoned_branch_needs_length`: a delivered side chain — the first unknown momentum does not name the frontier as its
    previous; in particular a branch the node abandoned earlier — whose last momentum claims a height that is not above
    the node's frontier is refused without touching the node (chain and pool), whatever it links to and whatever it
    contains: the node goes back to an abandoned branch only if that branch has become strictly longer. For every node
    state, not only reachable ones. -/
theorem abandoned_branch_needs_length (W : VM P L) (kp : Bool) (s : Node P) (batch : List DM) (head : DM)
    (more : List DM) (hto : batch.dropWhile (fun d => knownR W s.hist d.m) = head :: more)
    (hside : head.m.prev ≠ frontierId W s.hist)
    (hlen : ((head :: more).getLastD head).m.height ≤ frontierHeight s.hist) :
    (deliverR W kp s batch).1 = s ∧
      ((deliverR W kp s batch).2 = .link ∨ (deliverR W kp s batch).2 = .tooFar ∨
        (deliverR W kp s batch).2 = .notLonger) := by
  rcases deliverR_cases W kp s batch with hr | ⟨k, _, ⟨_, hp⟩ | ⟨head', more', hto', _, _, _, hlong⟩⟩
  · exact hr
  · exact absurd (hp head (by rw [hto]; rfl)) hside
  · rw [hto] at hto'
    cases hto'
    omega

/-- C02 `honest_momentum_accepted_after_reorg`: `C02Node.honest_momentum_accepted` on the reachable states of the extended
    model. A momentum produced on a reachable node (content bottom-up from its own pool, changes hash of the pooled
    patches, numbered frontier + 1) that passes the remaining momentum checks there is accepted by EVERY reachable node
    with the same current chain — whatever branches either node was on before, whatever gossip, refused or half-applied
    deliveries, rollbacks and restarts left in the receiver's pool. -/
theorem honest_momentum_accepted_after_reorg (W : VM P L) (opsP opsT : List NodeReorg.Op)
    (hcol : NoCollision (opBlocksR opsP ++ opBlocksR opsT))
    (m0 : Momentum) (d : DM) (hprod : produce W (runR W opsP) m0 = some d)
    (hheight : m0.height = frontierHeight (runR W opsP).hist + 1)
    (hvalid : W.mvalid (ledger W (runR W opsP).hist) d.m = true)
    (hchain : (runR W opsT).chain = (runR W opsP).chain) :
    (deliverR W false (runR W opsT) [d]).2 = .ok ∧
      (knownR W (runR W opsT).hist d.m = false →
        (deliverR W false (runR W opsT) [d]).1.chain = d.m :: (runR W opsP).chain) := by
  let U : Block → Prop := fun b => b ∈ opBlocksR opsP ++ opBlocksR opsT
  have hinj : ∀ b b', U b → U b' → b.id = b'.id → b = b' := fun b b' hb hb' => hcol b hb b' hb'
  have iP := (runR_inv W U opsP (fun b hb => List.mem_append.2 (Or.inl hb))).base
  have iT := (runR_inv W U opsT (fun b hb => List.mem_append.2 (Or.inr hb))).base
  have e : (runR W opsT).hist = (runR W opsP).hist := iT.hist_eq hinj iP hchain
  obtain ⟨txs, hd, hu, c1, c3⟩ := produce_sound iP hprod
  rw [← e] at hd c1 hvalid hheight
  subst hd
  rw [← hchain]
  exact deliverR_honest hinj iT hu c1 c3 rfl hheight rfl hvalid

/-- C02 / C06 `two_nodes_same_chain_same_everything`: any two reachable nodes — arbitrary, different histories of gossip,
    reorganisations, refused deliveries, restarts — whose CURRENT chains are equal hold the same stored history: same
    transactions, same patch for every block and every momentum; hence equal frontier ledgers, equal ledgers as of every
    momentum and equal confirmed account chains. -/
theorem two_nodes_same_chain_same_everything (W : VM P L) (ops₁ ops₂ : List NodeReorg.Op)
    (hcol : NoCollision (opBlocksR ops₁ ++ opBlocksR ops₂))
    (hchain : (runR W ops₁).chain = (runR W ops₂).chain) :
    (runR W ops₁).hist.map (·.txs) = (runR W ops₂).hist.map (·.txs) ∧
      (runR W ops₁).hist.map (·.patch) = (runR W ops₂).hist.map (·.patch) ∧
      ledger W (runR W ops₁).hist = ledger W (runR W ops₂).hist ∧
      (∀ x, ledgerAt W (runR W ops₁).hist x = ledgerAt W (runR W ops₂).hist x) ∧
      (∀ a, conf W (runR W ops₁).hist a = conf W (runR W ops₂).hist a) := by
  let U : Block → Prop := fun b => b ∈ opBlocksR ops₁ ++ opBlocksR ops₂
  have i1 := (runR_inv W U ops₁ (fun b hb => List.mem_append.2 (Or.inl hb))).base
  have i2 := (runR_inv W U ops₂ (fun b hb => List.mem_append.2 (Or.inr hb))).base
  have e : (runR W ops₁).hist = (runR W ops₂).hist := i1.hist_eq (fun b b' hb hb' => hcol b hb b' hb') i2 hchain
  rw [e]
  exact ⟨rfl, rfl, rfl, fun _ => rfl, fun _ => rfl⟩

/-- C02 `accepts_same_next`: two reachable nodes with the same current chain accept the same next momentums. If one of
    them accepts the delivered momentum `d` on top of its chain and `d` carries its account blocks in content order (as
    `ChainBridge.GetBlock` serves them), then the other accepts `d` too — whatever its pool holds — and both end with
    the same chain. (Without the order condition acceptance can depend on the pool: `reordered_blocks_need_the_pool`.) -/
theorem accepts_same_next (W : VM P L) (ops₁ ops₂ : List NodeReorg.Op) (d : DM) (s₁' : Node P)
    (hcol : NoCollision (opBlocksR ops₁ ++ opBlocksR ops₂ ++ d.blocks))
    (hchain : (runR W ops₁).chain = (runR W ops₂).chain)
    (horder : d.blocks.map Block.hdr = d.m.content)
    (hacc : stepR W (runR W ops₁) d = (s₁', true)) :
    ∃ s₂', stepR W (runR W ops₂) d = (s₂', true) ∧ s₂'.hist = s₁'.hist := by
  let U : Block → Prop := fun b => b ∈ opBlocksR ops₁ ++ opBlocksR ops₂ ++ d.blocks
  have hinj : ∀ b b', U b → U b' → b.id = b'.id → b = b' := fun b b' hb hb' => hcol b hb b' hb'
  have i1 := runR_inv W U ops₁ (fun b hb => List.mem_append.2 (Or.inl (List.mem_append.2 (Or.inl hb))))
  have i2 := runR_inv W U ops₂ (fun b hb => List.mem_append.2 (Or.inl (List.mem_append.2 (Or.inr hb))))
  have hud : ∀ b ∈ d.blocks, U b := fun b hb => List.mem_append.2 (Or.inr hb)
  have e : (runR W ops₁).hist = (runR W ops₂).hist := i1.base.hist_eq hinj i2.base hchain
  have i1' := stepR_inv hacc hud i1
  obtain ⟨hheight, hm⟩ := stepR_true hacc
  obtain ⟨s1, q, txs, hb, hprev, hq, hh, hv, rfl⟩ := stepMomentum_true hm
  have e1 := blockLoop_hist _ hb
  rw [e1] at hprev hh hv
  obtain ⟨_, hts, hcont, _⟩ := i1'.base.hist
  simp only [e1] at hts hcont
  have hutx : ∀ x ∈ txs, U x.1 := fun x hx => i1'.base.blocks.2 _ (List.mem_cons_self ..) x hx
  -- the delivered blocks are the stored transactions' blocks, one by one
  have hblocks : d.blocks = txs.map (·.1) :=
    blocks_eq_of_hdr hinj _ _ (by rw [horder, ← hcont]; simp) hud (by
      intro b hb; obtain ⟨t, ht, rfl⟩ := List.mem_map.1 hb; exact hutx t ht)
  rw [e] at hts hprev hh hv hheight
  obtain ⟨q', hq'⟩ := stepMomentum_honest hinj i2.base hutx hts hcont hprev hh hv
  have hd : d = ⟨d.m, txs.map (·.1)⟩ := by rw [← hblocks]
  refine ⟨{ hist := ⟨d.m, txs, W.pack (ledger W (runR W ops₂).hist) txs⟩ :: (runR W ops₂).hist, pool := q' }, ?_, ?_⟩
  · unfold stepR
    rw [if_pos hheight, hd]
    exact hq'
  · simp [e1, e]

/-! ### negative witnesses and examples (a tiny world: `C02Node.wVM` — patches are numbers, `exec` tags a block with the
frontier of the account chain it ran on, the changes hash is the identity) -/

/-- a momentum without content on top of the node `s`, as an honest producer makes it -/
def wEmpty (s : Node Nat) (id height : Nat) : DM :=
  (produce wVM s { id := id, height := height, prev := 0, content := [], changesHash := 0 }).getD default

/-- branch A: momentums 2, 5 on genesis (= 1) -/
def wA1 : DM := wEmpty Node.init 2 2
def wA2 : DM := wEmpty (runR wVM [.deliver [wA1]]) 5 3
/-- branch B: momentums 3, 4, 6 on genesis -/
def wB1 : DM := wEmpty Node.init 3 2
def wB2 : DM := wEmpty (runR wVM [.deliver [wB1]]) 4 3
def wB3 : DM := wEmpty (runR wVM [.deliver [wB1, wB2]]) 6 4
/-- `wB2` with another changes hash: refused by the comparison -/
def wB2bad : DM := { wB2 with m := { wB2.m with changesHash := 99 } }
/-- a block of account 7 that acknowledges `wA1` (identifier 2) -/
def wAckA : Block := { acct := 7, height := 1, prev := 0, ack := 2, payload := 0, id := 20 }

/-- non-vacuity of the reorganisation theorems: a node on branch A (two momentums, a pooled block acknowledging A's
    first momentum) is given branch B (three momentums): accepted, chain = B, the pool is empty; the abandoned branch
    delivered again is refused as not longer (it is shorter now); B delivered again, in any order, changes nothing; a side
    chain of EQUAL height is refused -/
example :
    (deliverR wVM false (runR wVM [.deliver [wA1, wA2], .gossip wAckA]) [wB1, wB2, wB3]).2 = .ok ∧
    ((runR wVM [.deliver [wA1, wA2], .gossip wAckA]).pool 7).map (·.1.id) = [20] ∧
    (runR wVM [.deliver [wA1, wA2], .gossip wAckA, .deliver [wB1, wB2, wB3]]).chain.map (·.id) = [6, 4, 3] ∧
    (runR wVM [.deliver [wA1, wA2], .gossip wAckA, .deliver [wB1, wB2, wB3]]).pool 7 = [] ∧
    (deliverR wVM false (runR wVM [.deliver [wA1, wA2], .deliver [wB1, wB2, wB3]]) [wA1, wA2]).2 = .notLonger ∧
    (deliverR wVM false (runR wVM [.deliver [wA1, wA2], .deliver [wB1, wB2, wB3]]) [wB2, wB1, wB3]).2 = .ok ∧
    (deliverR wVM false (runR wVM [.deliver [wA1, wA2]]) [wB1, wB2]).2 = .notLonger := by decide

/-- negative witness for `pool_after_reorg_sound`: the variant of `RollbackTo` that does NOT drop the pool
    (`keepPool = true`) keeps, across the switch from branch A to branch B, a pooled block whose acknowledged momentum is
    no longer on the chain — `ledgerAt` answers `none` for it, so its pooled patch is not the value of `exec` in any
    context of the current chain; the code (`keepPool = false`) ends with an empty pool -/
theorem pool_kept_across_rollback_unsound :
    ((deliverR wVM true (runR wVM [.deliver [wA1, wA2], .gossip wAckA]) [wB1, wB2, wB3]).1.pool 7).map (·.1.id) = [20] ∧
    (deliverR wVM true (runR wVM [.deliver [wA1, wA2], .gossip wAckA]) [wB1, wB2, wB3]).1.chain.map (·.id) = [6, 4, 3] ∧
    ledgerAt wVM (deliverR wVM true (runR wVM [.deliver [wA1, wA2], .gossip wAckA]) [wB1, wB2, wB3]).1.hist wAckA.ack
      = none ∧
    (deliverR wVM false (runR wVM [.deliver [wA1, wA2], .gossip wAckA]) [wB1, wB2, wB3]).1.pool 7 = [] := by decide

/-- F7d at node level (known finding, kept visible): `InsertChain` rolls back BEFORE it verifies the side chain. A node
    on branch A (height 3) is given [B1, bad B2, B3] — links to genesis, claims height 4 > 3 — the rollback happens, B1 is
    accepted, B2 fails the changes-hash comparison: the call returns index 1 and the node is left on a chain of height 2,
    SHORTER than the one it had, holding none of its former momentums. `failure_index_exact` describes exactly this state. -/
theorem failed_reorg_leaves_node_shorter :
    (deliverR wVM false (runR wVM [.deliver [wA1, wA2]]) [wB1, wB2bad, wB3]).2 = .verify 1 ∧
    (runR wVM [.deliver [wA1, wA2]]).chain.map (·.id) = [5, 2] ∧
    (deliverR wVM false (runR wVM [.deliver [wA1, wA2]]) [wB1, wB2bad, wB3]).1.chain.map (·.id) = [3] := by decide

def wb1 : Block := { acct := 7, height := 1, prev := 0, ack := 1, payload := 0, id := 20 }
def wb2 : Block := { acct := 7, height := 2, prev := 20, ack := 1, payload := 0, id := 21 }
def wOrdered : DM :=
  (produce wVM (runR wVM [.gossip wb1, .gossip wb2])
    { id := 2, height := 2, prev := 0, content := [wb1.hdr, wb2.hdr], changesHash := 0 }).getD default
def wReordered : DM := { wOrdered with blocks := [wb2, wb1] }

/-- negative witness for the order condition of `accepts_same_next`: the momentum lists [b1, b2] of one account but the
    batch carries the blocks as [b2, b1]. A node that pooled b1 before (gossip) executes b2 on top of it, recognises b1
    as pooled, and accepts; a node with the same chain and an empty pool cannot link b2 and refuses. In content order both
    accept. -/
theorem reordered_blocks_need_the_pool :
    (stepR wVM (runR wVM [.gossip wb1]) wReordered).2 = true ∧
    (stepR wVM (runR wVM []) wReordered).2 = false ∧
    (stepR wVM (runR wVM [.gossip wb1]) wOrdered).2 = true ∧
    (stepR wVM (runR wVM []) wOrdered).2 = true := by decide

/-! ### the shape of the code the model follows (AST of the working tree, regenerated on every run) -/

/-- `InsertChain` (model: `deliverR`): the skip loop stops at the first height the node does not hold or holds with another
    hash; the side-chain `if` stands BEFORE the insert loop and is the only place that calls `RollbackTo` (once, on the
    target's identifier); inside it, in this order: target by `head.Height - 1`, nil ⇒ link error, identifier ≠ previous ⇒
    link error, `frontier − target > 30` ⇒ too far (the constant and operator of `Gen.InsertChainWindow` /
    `InsertChainWindowOp`, which the model uses), `tail.Height <= frontier` ⇒ not longer, THEN the rollback (F7d: before any
    verification) — all returning index 0; every error test of the insert loop returns `index + start` at once (no
    continuation after a failed momentum). -/
theorem reorg_shape_in_code :
    Gen.nrSkipLoop =
      ["our, err := store.GetMomentumByHeight(momentums[start].Momentum.Height)", "if err != nil => return start, err",
       "if our == nil => break", "if our.Hash != momentums[start].Momentum.Hash => break"] ∧
    Gen.nrTopLevel =
      ["if len(momentums) == 0 => return 0, nil", "for start < len(momentums)",
       "if start == len(momentums) => return 0, nil", "if err != nil => return 0, err",
       "if head.Previous() != ourFrontier.Identifier()", "range momentums", "return 0, nil"] ∧
    Gen.nrSideBranch =
      ["target, err := store.GetMomentumByHeight(head.Height - 1)", "if err != nil => return 0, err",
       "if target == nil => return 0, errors.Errorf(\"can't link momentums to insert. First momentum Prev is %v but we have no momentum at that height\")",
       "if target.Identifier() != head.Previous() => return 0, errors.Errorf(\"can't link momentums to insert. First momentum Prev is %v but he have %v\")",
       "if ourFrontier.Height-target.Height > 30 => return 0, errors.Errorf(\"can't rollback to %v. Too far. Frontier is %v. Wanted to be able to insert %v\")",
       "if tail.Height <= ourFrontier.Height => return 0, errors.Errorf(\"won't insert side-chain which is not longer\")",
       "err = c.chain.RollbackTo(insert, target.Identifier())",
       "if err != nil => return 0, errors.Errorf(\"unable to rollback to %v. Reason:%v\")"] ∧
    Gen.nrRollbackCalls = 1 ∧ Gen.nrRollbackCallsInSideBranch = 1 ∧
    Gen.nrLoopErrBranches =
      ["return index + start, err", "return index + start, err", "return index + start, err",
       "return index + start, err"] ∧
    Gen.InsertChainWindow = 30 ∧ Gen.InsertChainWindowOp = ">" ∧ Gen.InsertChainLongerOp = "<=" ∧
    Gen.InsertChainRollbackBeforeApplyLoop = true :=
  ⟨rfl, rfl, rfl, rfl, rfl, rfl, rfl, rfl, rfl, rfl⟩

/-- `AddMomentumTransaction` (model: the `prev = frontier` test of `stepMomentum` / the height test of `stepR`): a momentum is
    committed only on top of the frontier — the test stands before `chainManager.Add` (9a5065f: siblings are refused) -/
theorem momentum_only_on_frontier :
    Gen.nrAddMomentumPrevTests =
      ["if frontier := c.getFrontierStore().Identifier(); momentum.Previous() != frontier => return errors.Errorf(\"can't insert momentum %v. previous doesn't match with current frontier %v\")"] ∧
    Gen.nrAddMomentumCommitsBeforePrevTest = false :=
  ⟨rfl, rfl⟩

/-- `RollbackTo` + `accountPool.DeleteMomentum` (model: `rollback`, `keepPool = false`): every popped momentum is announced
    once to the listeners after the pop, and the account pool answers by replacing ALL its managers with an empty map —
    nothing of the deleted momentum is put back -/
theorem rollback_drops_whole_pool :
    Gen.PoolDeleteMomentumStmts =
      ["ap.changes.Lock()", "defer ap.changes.Unlock()", "ap.managers = make(map[types.Address]db.Manager)"] ∧
    Gen.RollbackToPopCalls = 1 ∧ Gen.RollbackToNotifyCalls = 1 ∧ Gen.RollbackToPopAt = 7 ∧ Gen.RollbackToNotifyAt = 9 ∧
    Gen.ChainRegistersAccountPool = true :=
  ⟨rfl, rfl, rfl, rfl, rfl, rfl⟩

end ZV.C06Reorg
