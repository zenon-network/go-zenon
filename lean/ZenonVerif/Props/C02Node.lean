import ZenonVerif.Lemmas.NodeSync
import ZenonVerif.Gen.NodeSync
/-
C02 at the level of the node: the ledger a node ends with is a function of the momentum sequence it accepted and of
nothing else that happened to it, and an honest momentum is accepted whatever the receiver's pool holds. The model is
`ZenonVerif/Model/NodeSync.lean`, the invariants are in `ZenonVerif/Lemmas/NodeSync.lean`; besides the property theorems
the file holds `NoCollision` and the small world `wVM` of the negative witnesses (also used by `Props/C06Reorg.lean`).

What is assumed, and where:
  * about `exec` (verifier + VM): NOTHING. It is a parameter of the model — an arbitrary function of (ledger as of the
    acknowledged momentum, account chain up to the stated previous block, block). That the Go VM reads nothing else is the
    correspondence side of C02 (multi-node streams) and the nondeterminism-site fact of `Props/C02.lean`.
  * about block identifiers: no collision among the blocks that occur in the two operation sequences (`NoCollision`;
    for the code: SHA3 collision freedom AND that the identifier covers every field that reaches the stored bytes or
    the execution — C13; known finding F9, a user block's ChangesHash field, is a real-code exception to exactly this
    hypothesis and shows the predicted effect: the node holding the variant refuses the producer's momentum).
    Needed wherever a node recognises a block by its identifier (`GetPatch`).
  * about the changes hash: injectivity is needed ONLY for `ledger_pinned_by_changes_hash` (nodes whose VMs differ);
    (a), (b), (c) hold for every hash function.
  * about `higherPriority`: nothing — it only decides what gossip leaves in the pool, and the theorems quantify over
    every pool content that gossip can produce.
-/
namespace ZV.C02Node
open ZV ZV.NodeSync

variable {P L : Type}

/-- no two different blocks with the same identifier -/
def NoCollision (bs : List Block) : Prop := ∀ b ∈ bs, ∀ b' ∈ bs, b.id = b'.id → b = b'

/-- (a) INVARIANT `pool_patches_sound`: in every reachable state — after any sequence of gossiped blocks (valid,
    competing, unrelated), delivered batches (accepted or refused half-way) and restarts — every pooled transaction
    `(b, p)` sits in the pool of its own account, links to the transaction below it (or to the confirmed frontier), and
    `p` is the value of `exec` on the ledger as of `b.ack` and the account chain up to `b.prev`: a function of the chain
    and the block, not of the node's frontier, the rest of its pool or the way the block arrived. -/
theorem pool_patches_sound (W : VM P L) (ops : List Op) (a : Nat) (below above : List (Tx P)) (b : Block) (p : P)
    (h : (run W ops).pool a = below ++ (b, p) :: above) :
    b.acct = a ∧ b.prev = lastId (conf W (run W ops).hist a ++ below) ∧
      ∃ l, ledgerAt W (run W ops).hist b.ack = some l ∧
        W.exec l (conf W (run W ops).hist a ++ below) b = some p := by
  exact (run_inv W (fun _ => True) ops (fun _ _ => trivial)).pool_at h

/-- (a′) the same for what is confirmed: every stored momentum's transactions are exec-determined in their stated
    contexts (as of the chain below the momentum), they are the momentum's content, the momentum's patch is `pack` of
    them and its hash is the momentum's changes hash. (`HistSound`, `HashOk`: Lemmas/NodeSync.lean.) -/
theorem confirmed_patches_sound (W : VM P L) (ops : List Op) :
    HistSound W (run W ops).hist ∧ HashOk W (run W ops).hist :=
  let hi := run_inv W (fun _ => True) ops (fun _ _ => trivial)
  ⟨hi.hist, hi.hash⟩

/-- (b) `ledger_schedule_independent` — the headline of C02 for the model. Two nodes that went through ANY two
    operation sequences (any interleaving of gossip of arbitrary blocks, batch boundaries, refused deliveries, restarts)
    and ended having accepted the same momentum sequence hold the same frontier ledger, the same ledger as of every
    momentum, the same confirmed account chains and the same patch for every momentum. (The proof shows that the stored
    histories are equal — `Inv.hist_eq` — and the statement lists these consequences;
    `C06Reorg.two_nodes_same_chain_same_everything` also states the transactions.) By (a′) that common value is the fold
    over the sequence of the patches `exec` determines. No hypothesis on `exec`, on the hash or on the priority rule. -/
theorem ledger_schedule_independent (W : VM P L) (ops₁ ops₂ : List Op)
    (hcol : NoCollision (opBlocks ops₁ ++ opBlocks ops₂))
    (hchain : (run W ops₁).chain = (run W ops₂).chain) :
    ledger W (run W ops₁).hist = ledger W (run W ops₂).hist ∧
      (∀ x, ledgerAt W (run W ops₁).hist x = ledgerAt W (run W ops₂).hist x) ∧
      (∀ a, conf W (run W ops₁).hist a = conf W (run W ops₂).hist a) ∧
      (run W ops₁).hist.map (·.patch) = (run W ops₂).hist.map (·.patch) := by
  let U : Block → Prop := fun b => b ∈ opBlocks ops₁ ++ opBlocks ops₂
  have i1 := run_inv W U ops₁ (fun b hb => List.mem_append.2 (Or.inl hb))
  have i2 := run_inv W U ops₂ (fun b hb => List.mem_append.2 (Or.inr hb))
  have e : (run W ops₁).hist = (run W ops₂).hist := i1.hist_eq (fun b b' hb hb' => hcol b hb b' hb') i2 hchain
  rw [e]
  exact ⟨rfl, fun _ => rfl, fun _ => rfl, rfl⟩

/-- (b′) `ledger_pinned_by_changes_hash`: the role of the changes hash. Two nodes running DIFFERENT VMs (other `exec`,
    other `pack`, other validity checks — another software version, a faulty build) over the same genesis and commit
    function that accepted the same momentum sequence still hold the same ledger, provided the changes hash is
    injective on patches: every accepted momentum passed `hash (own patch) = m.changesHash`. -/
theorem ledger_pinned_by_changes_hash (W₁ W₂ : VM P L) (hinit : W₁.init = W₂.init) (hcommit : W₁.commit = W₂.commit)
    (hhash : W₁.hash = W₂.hash) (hinj : ∀ p q, W₁.hash p = W₁.hash q → p = q) (ops₁ ops₂ : List Op)
    (hchain : (run W₁ ops₁).chain = (run W₂ ops₂).chain) :
    ledger W₁ (run W₁ ops₁).hist = ledger W₂ (run W₂ ops₂).hist :=
  ledger_of_hash hinit hcommit hhash hinj _ _
    (run_inv W₁ (fun _ => True) ops₁ (fun _ _ => trivial)).hash
    (run_inv W₂ (fun _ => True) ops₂ (fun _ _ => trivial)).hash hchain

/-- (c) `honest_momentum_accepted`: a momentum produced on a reachable node (content taken bottom-up from its own
    pool, changes hash computed from the pooled patches — `produce`) and passing the remaining momentum checks there is
    accepted by EVERY reachable node that holds the same chain, whatever gossip, refused deliveries and restarts left in
    that node's pool: blocks it already pooled are recognised, blocks it never saw are executed in their stated
    context, blocks that compete with pooled ones displace them. -/
theorem honest_momentum_accepted (W : VM P L) (opsP opsT : List Op)
    (hcol : NoCollision (opBlocks opsP ++ opBlocks opsT))
    (m0 : Momentum) (d : DM) (hprod : produce W (run W opsP) m0 = some d)
    (hvalid : W.mvalid (ledger W (run W opsP).hist) d.m = true)
    (hchain : (run W opsT).chain = (run W opsP).chain) :
    (deliver W true true (run W opsT) [d]).2 = none ∧
      (known (run W opsT).hist d.m = false →
        (deliver W true true (run W opsT) [d]).1.chain = d.m :: (run W opsP).chain) := by
  let U : Block → Prop := fun b => b ∈ opBlocks opsP ++ opBlocks opsT
  have hinj : ∀ b b', U b → U b' → b.id = b'.id → b = b' := fun b b' hb hb' => hcol b hb b' hb'
  have iP := run_inv W U opsP (fun b hb => List.mem_append.2 (Or.inl hb))
  have iT := run_inv W U opsT (fun b hb => List.mem_append.2 (Or.inr hb))
  have e : (run W opsT).hist = (run W opsP).hist := iT.hist_eq hinj iP hchain
  obtain ⟨txs, hd, hu, c1, c3⟩ := produce_sound iP hprod
  rw [← e] at hd c1 hvalid
  subst hd
  rw [← hchain]
  exact deliver_honest hinj iT hu c1 c3 rfl rfl hvalid

/-! ### (d) negative witnesses: the two places where the mechanism can be lost

A tiny world: patches are numbers, `exec` tags a block with the frontier of the account chain it was run on, the
changes hash is the identity (injective). One account, one honest block `wB`, one rival `wR` at the same height that
the priority rule prefers. -/

def wVM : VM Nat (List Nat) where
  init := []
  commit l _ p := p :: l
  gid := 1
  gconf _ := []
  exec _ view b := some (1000 * lastId view + b.id)
  pack _ txs := txs.foldl (fun acc t => 1000003 * acc + t.2 + 1) 0
  hash p := p
  mvalid _ _ := true
  prio a b := a.id < b.id

def wB : Block := { acct := 7, height := 1, prev := 0, ack := 1, payload := 0, id := 20 }
def wR : Block := { acct := 7, height := 1, prev := 0, ack := 1, payload := 1, id := 10 }

/-- the honest momentum: produced on a node that saw only `wB` -/
def wD : DM :=
  (produce wVM (run wVM [.gossip wB]) { id := 2, height := 2, prev := 0, content := [wB.hdr], changesHash := 0 }).getD default

/-- seeded C02-2 (execute on the pool frontier instead of the stated previous): the real rules accept the honest
    momentum on a node that pooled the rival, on a node with an empty pool and on a node that pooled the block itself;
    the variant accepts it on the latter two but refuses it (changes hash differs: the block ran on top of the rival) on
    the node that pooled the rival. -/
theorem exec_on_pool_frontier_breaks_acceptance :
    (deliver wVM true true (run wVM [.gossip wR]) [wD]).2 = none ∧
    (deliver wVM true true (run wVM []) [wD]).2 = none ∧
    (deliver wVM true true (run wVM [.gossip wB]) [wD]).2 = none ∧
    (deliver wVM false true (run wVM []) [wD]).2 = none ∧
    (deliver wVM false true (run wVM [.gossip wB]) [wD]).2 = none ∧
    (deliver wVM false true (run wVM [.gossip wR]) [wD]).2 = some 0 := by decide

/-- seeded C02-r2-3 (the priority rule instead of force on delivery): the confirmed block loses against the pooled
    rival, the honest momentum is refused — and is accepted by the same node after a restart (the pool is gone). -/
theorem no_force_breaks_acceptance :
    (deliver wVM true true (run wVM [.gossip wR]) [wD]).2 = none ∧
    (deliver wVM true false (run wVM []) [wD]).2 = none ∧
    (deliver wVM true false (run wVM [.gossip wR]) [wD]).2 = some 0 ∧
    (deliver wVM true false (run wVM [.gossip wR, .restart]) [wD]).2 = none := by decide

/-- gossip does obey the priority rule (that is why delivery must not): the rival displaces `wB`, `wB` does not
    displace the rival -/
theorem gossip_obeys_priority :
    ((run wVM [.gossip wB, .gossip wR]).pool 7).map (·.1.id) = [10] ∧
    ((run wVM [.gossip wR, .gossip wB]).pool 7).map (·.1.id) = [10] := by decide

/-! ### the mechanism in the code (AST of the working tree, regenerated on every run) -/

/-- `newBlockContext` (model: `addBlock`, `ctxAtPrev = true`): the momentum store is the one of the ACKNOWLEDGED momentum,
    the account store the one at the block's stated PREVIOUS; these two (and the pillar reader of the acknowledged
    momentum) are what the VM context is built from -/
theorem context_is_the_stated_one :
    Gen.newBlockContextAssigns =
      ["momentumStore := s.chain.GetMomentumStore(block.MomentumAcknowledged)",
       "accountStore := s.chain.GetAccountStore(block.Address, block.Previous())",
       "cache := s.consensus.FixedPillarReader(block.MomentumAcknowledged)"] ∧
    Gen.newBlockContextReturn = "vm_context.NewAccountContext(momentumStore, accountStore, cache)" ∧
    Gen.applyBlockAssigns =
      ["context := s.newBlockContext(block)", "vm := NewVM(context)", "err := vm.applyBlock(block)",
       "transaction, err = s.packBlock(context, block, signFunc)"] :=
  ⟨rfl, rfl, rfl⟩

/-- `InsertChain` (model: `blockLoop` with `force = true`): a block pooled under the same identifier is not executed
    again, any other block is executed and FORCE-added; no other pool insertion is reachable from `InsertChain` -/
theorem delivery_uses_pooled_patch_or_forces :
    Gen.insertChainBlockLoop =
      ["if block.BlockType == nom.BlockTypeContractSend => continue",
       "if patch := c.chain.GetPatch(block.Address, block.Identifier()); patch != nil => continue",
       "call c.supervisor.ApplyBlock(block)", "if err != nil",
       "call c.chain.ForceAddAccountBlockTransaction(insert, transaction)"] ∧
    Gen.insertChainPoolInserts = ["ForceAddAccountBlockTransaction"] :=
  ⟨rfl, rfl⟩

/-- `AddAccountBlocks` (model: `step (.gossip b)`, `force = false`): same test, plain insertion (priority rule) -/
theorem gossip_inserts_without_force :
    Gen.addAccountBlocksLoop =
      ["if patch := c.chain.GetPatch(block.Address, block.Identifier()); patch != nil => continue",
       "if block.BlockType == nom.BlockTypeContractSend => continue",
       "call c.supervisor.ApplyBlock(block)", "if err != nil",
       "call c.chain.AddAccountBlockTransaction(insert, transaction)"] ∧
    Gen.addAccountBlocksPoolInserts = ["AddAccountBlockTransaction"] :=
  ⟨rfl, rfl⟩

/-- the pool: the two insertions differ in the force flag only, and the flag does nothing but switch the priority test off -/
theorem force_only_skips_priority :
    Gen.poolAddReturn = "ap.addAccountBlockTransaction(transaction, false)" ∧
    Gen.poolForceAddReturn = "ap.addAccountBlockTransaction(transaction, true)" ∧
    Gen.poolForceConds = ["err := higherPriority(block, trueBlock); !forceAdd && err != nil"] :=
  ⟨rfl, rfl, rfl⟩

/-- a momentum's patches are the POOLED patches of its content (model: `consume`), and the receiver recomputes the
    changes hash from them and compares (model: `stepMomentum`) -/
theorem momentum_patches_from_pool_hash_compared :
    Gen.applyMomentumLoop =
      ["call momentumStore.AddAccountBlockTransaction(*header, pool.GetPatch(header.Address, header.Identifier()))"] ∧
    Gen.changesHashStmts =
      ["computedHash := db.PatchHash(transaction.Changes)",
       "if computedHash != transaction.Momentum.ChangesHash", "return nil"] :=
  ⟨rfl, rfl⟩

end ZV.C02Node
