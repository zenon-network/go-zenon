import ZenonVerif.Model.JsonRpc
import ZenonVerif.Lemmas.Ascii
/-
C18 — "malformed or hostile JSON-RPC requests, single and batched, produce error responses and never terminate the server":
theorems about the dispatch model `ZV.JsonRpc.respond` (Model/JsonRpc.lean), the function the driver evaluates for every
`rpc-req` line of the rpcserver stream.

Deviations of the code from JSON-RPC 2.0 that the model follows (the theorems are about the code):
  * `hasValidID` refuses only objects and arrays: `true` / `false` are accepted as ids and echoed (2.0: String, Number or
    Null), and so are fractional numbers;
  * the `jsonrpc` member is never looked at (2.0: MUST be exactly "2.0");
  * member names are matched case-insensitively (`"ID"`, `"Method"`, `"reſult"`), a repeated member overwrites;
  * `"method"` of a non-string kind is the same as no method (−32600 with the id, which agrees with 2.0), `"params": null`
    is accepted as no arguments;
  * a message with a valid id, no method, no params and a `result` or a non-null `error` member is taken for a response of
    the peer and dropped without an answer (2.0: not a Request object, hence −32600) — the server is the bidirectional
    client/handler of geth;
  * a call whose id is `null` is answered (with id null) — 2.0 treats it as a request too, but discourages it.
-/
namespace ZV.C18Rpc
open ZV ZV.JsonRpc

theorem splitLastDot_isSome_of_mem (l : List Char) (h : '.' ∈ l) : (splitLastDot l).isSome = true := by
  fun_induction splitLastDot l with
  | case1 => cases h
  | case2 | case3 => rfl
  | case4 c cs hs hc ih =>
    rw [hs] at ih
    exact ih ((List.mem_cons.1 h).resolve_left (Ne.symm hc))

theorem splitLastDot_none_of_not_mem (l : List Char) (hl : '.' ∉ l) : splitLastDot l = none := by
  fun_induction splitLastDot l with
  | case1 | case4 => rfl
  | case2 c cs a b hs ih => rw [ih fun e => hl (List.mem_cons_of_mem _ e)] at hs; cases hs
  | case3 => exact absurd List.mem_cons_self hl

theorem splitLastDot_append (a b : List Char) (hb : '.' ∉ b) : splitLastDot (a ++ '.' :: b) = some (a, b) := by
  have hnone := splitLastDot_none_of_not_mem b hb
  induction a with
  | nil => simp [splitLastDot, hnone]
  | cons c cs ih => simp [splitLastDot, ih]

theorem suffix_has_dot (s suf : String) (hd : '.' ∈ suf.toList) (h : hasSuffix s suf = true) : '.' ∈ s.toList := by
  unfold hasSuffix at h
  exact (List.isSuffixOf_iff_suffix.mp h).subset hd

/-- `msg.namespace()` is only reached when the method ends in ".subscribe", which contains the separator -/
theorem handleSubscribe_ne_panic (reg : Registry) (tr : Transport) (m : Msg) (h : m.isSubscribe = true) :
    handleSubscribe reg tr m ≠ .panic := by
  obtain ⟨⟨ns, nm⟩, hsp⟩ := Option.isSome_iff_exists.1
    (splitLastDot_isSome_of_mem _ (suffix_has_dot m.method ".subscribe" (by decide) h))
  unfold handleSubscribe
  rw [hsp]
  cases tr with
  | http => nofun
  | stream =>
    cases subscriptionName? m.params with
    | none => nofun
    | some name =>
      dsimp only
      split <;> nofun

theorem handleCall_ne_panic (reg : Registry) (tr : Transport) (m : Msg) : handleCall reg tr m ≠ .panic := by
  unfold handleCall
  split
  · exact handleSubscribe_ne_panic reg tr m ‹_›
  · split
    · nofun
    · split <;> nofun

theorem handleCall_out (reg : Registry) (tr : Transport) (m : Msg) : ∃ o, handleCall reg tr m = .out o := by
  cases h : handleCall reg tr m with
  | out o => exact ⟨o, rfl⟩
  | panic => exact absurd h (handleCall_ne_panic reg tr m)

theorem handleCallMsg_ne_panic (reg : Registry) (tr : Transport) (m : Msg) : handleCallMsg reg tr m ≠ .panic := by
  obtain ⟨o, ho⟩ := handleCall_out reg tr m
  unfold handleCallMsg
  rw [ho]
  split
  · simp
  · split
    · simp
    · split <;> simp

/-- after the repair loop of readBatch no message pointer is nil: the first loop of handleBatch dereferences safely -/
theorem derefAll_repaired (items : List Json) :
    derefAll ((items.map decodeMsg).map repairNil) = some (items.map msgOf) := by
  induction items with
  | nil => rfl
  | cons j js ih =>
    have hj : repairNil (decodeMsg j) = some (msgOf j) := by
      unfold msgOf
      cases decodeMsg j <;> rfl
    simp only [List.map_cons, hj, derefAll, ih, Option.map_some]

theorem notification_not_validID (m : Msg) (h : m.isNotification = true) : m.hasValidID = false := by
  unfold Msg.isNotification Msg.idAbsent at h
  unfold Msg.hasValidID
  cases hid : m.id <;> simp [hid] at h ⊢

/-- the classes are mutually exclusive: the order in which the code asks does not matter -/
theorem kinds_exclusive (m : Msg) :
    ¬ (m.isNotification = true ∧ m.isCall = true) ∧ ¬ (m.isNotification = true ∧ m.isResponse = true) ∧
    ¬ (m.isCall = true ∧ m.isResponse = true) := by
  -- a notification has no id, a call and a response have a valid one; a call has a method, a response has none
  unfold Msg.isNotification Msg.isCall Msg.isResponse Msg.idAbsent Msg.hasValidID
  cases m.id <;> simp
  exact fun hne he => absurd he hne

/-- whether a message is due an answer, on the decoded message -/
def dueM (m : Msg) : Bool :=
  match m.kind with
  | .notification => false
  | .response => false
  | _ => true

theorem due_eq (j : Json) : due j = dueM (msgOf j) := rfl

/-- one message of a batch: consumed by handleImmediate or handed to handleCallMsg, it contributes its reply exactly when it
    is due one, with the echoed id and the outcome of the specification -/
theorem element_contribution (reg : Registry) (tr : Transport) (m : Msg) :
    (if handleImmediate m = true then (R.none) else handleCallMsg reg tr m) =
      (if dueM m = true then R.reply m.echoId (outcomeOf reg tr m) else R.none) := by
  obtain ⟨o, ho⟩ := handleCall_out reg tr m
  have hex := kinds_exclusive m
  unfold handleImmediate handleCallMsg dueM Msg.kind outcomeOf
  rw [ho]
  cases hn : m.isNotification <;> cases hc : m.isCall <;> cases hr : m.isResponse <;> simp [hn, hc, hr] at hex ⊢
  · -- invalid: the id decides which branch wrote the reply, both write the echoed id
    cases hv : m.hasValidID
    · simp only [Msg.echoId]
      unfold Msg.hasValidID at hv
      cases hid : m.id <;> simp [hid] at hv ⊢
    · simp

theorem collect_calls (reg : Registry) (tr : Transport) (ms : List Msg) :
    collect ((ms.filter (fun m => !handleImmediate m)).map (handleCallMsg reg tr)) =
      some ((ms.filter dueM).map (fun m => (m.echoId, outcomeOf reg tr m))) := by
  induction ms with
  | nil => rfl
  | cons m rest ih =>
    have hel := element_contribution reg tr m
    cases hi : handleImmediate m <;> cases hd : dueM m <;> simp [hi, hd] at hel
    · simp [hi, hd, hel, collect, ih]
    · simp [hi, hd, hel, collect, ih]
    · simp [hi, hd, ih]

/-- a reply list as it is written: nothing when it is empty, else one array -/
def shapeOf (rs : List (Id × Outcome)) : Response :=
  match rs with
  | [] => .noBody
  | rs => .batch rs

theorem spec_list_eq (reg : Registry) (tr : Transport) (items : List Json) :
    ((items.map msgOf).filter dueM).map (fun m => (m.echoId, outcomeOf reg tr m)) =
      (items.filter due).map (replyOf reg tr) := by
  -- `due` is `dueM ∘ msgOf` and `replyOf` the pair of the decoded message, by definition
  rw [List.filter_map, List.map_map]
  rfl

/-- a non-empty batch, completely: the replies of the elements that are due one, in order; no body when there is none -/
theorem batch_replies (reg : Registry) (tr : Transport) (items : List Json) (h : items ≠ []) :
    respond reg tr (.arr items) = shapeOf ((items.filter due).map (replyOf reg tr)) := by
  have hne : (List.map repairNil (List.map decodeMsg items)).isEmpty = false := by simpa using h
  have hc := collect_calls reg tr (items.map msgOf)
  rw [spec_list_eq] at hc
  unfold respond readBatch parseMessage dispatch
  simp only [if_true]
  unfold handleBatch
  rw [hne, derefAll_repaired]
  simp only [Bool.false_eq_true, if_false]
  split
  · rename_i hemp
    rw [List.isEmpty_iff] at hemp
    rw [hemp] at hc
    simp only [List.map_nil, collect, Option.some.injEq] at hc
    rw [← hc]; rfl
  · rw [hc]
    unfold shapeOf
    cases (items.filter due).map (replyOf reg tr) <;> rfl

theorem empty_batch (reg : Registry) (tr : Transport) :
    respond reg tr (.arr []) = .single .null (.err invalidRequest) := rfl

theorem readBatch_single (j : Json) (h : j.isArr = false) : readBatch j = ([some (msgOf j)], false) := by
  cases j with
  | arr items => cases h
  | _ => rfl

/-- a single message, completely -/
theorem single_reply (reg : Registry) (tr : Transport) (j : Json) (h : j.isArr = false) :
    respond reg tr j = if due j = true then .single (echoId j) (outcomeOf reg tr (msgOf j)) else .noBody := by
  have hel := element_contribution reg tr (msgOf j)
  unfold respond dispatch
  rw [readBatch_single j h]
  simp only [Bool.false_eq_true, if_false]
  unfold handleMsg
  rw [due_eq]
  cases hi : handleImmediate (msgOf j) <;> cases hd : dueM (msgOf j) <;> simp [hi, hd] at hel ⊢
  · rw [hel]
  · rw [hel]; rfl

/-- for every registry, both connection kinds and EVERY JSON value the dispatch reaches none of its
    panic sites — the nil dereference in handleImmediate, `reqs[0]`, `msg.Method[0:-1]`: no request terminates the server
    from the dispatch logic -/
theorem respond_total (reg : Registry) (tr : Transport) (j : Json) : respond reg tr j ≠ .panic := by
  cases j with
  | arr items =>
    cases items with
    | nil => exact nofun
    | cons a b =>
      rw [batch_replies reg tr (a :: b) (List.cons_ne_nil a b)]
      cases (List.filter due (a :: b)).map (replyOf reg tr) <;> exact nofun
  | _ =>
    rw [single_reply reg tr _ rfl]
    split <;> exact nofun

/-- a non-empty batch is answered with exactly one reply per element that is neither a notification
    nor response-shaped, in the order of the elements, each carrying the element's id when it has a valid one and null
    otherwise; a batch none of whose elements is due a reply gets no body at all, every other batch gets one array -/
theorem batch_reply_count (reg : Registry) (tr : Transport) (items : List Json) (h : items ≠ []) :
    (respond reg tr (.arr items)).replies.length = (items.filter due).length ∧
    (respond reg tr (.arr items)).replies.map (·.1) = (items.filter due).map echoId ∧
    (respond reg tr (.arr items) = .noBody ↔ items.filter due = []) ∧
    (items.filter due ≠ [] → respond reg tr (.arr items) = .batch ((items.filter due).map (replyOf reg tr))) := by
  rw [batch_replies reg tr items h]
  unfold shapeOf
  cases hd : items.filter due with
  | nil => simp [Response.replies]
  | cons a b => simp [Response.replies, replyOf]

/-- every JSON value that is not an object — null, booleans, numbers, strings, arrays (as ELEMENTS of a batch) — decodes to
    the zero message: invalid, no id -/
theorem non_object_is_invalid (j : Json) (h : j.isObj = false) : classify j = .invalid ∧ echoId j = .null := by
  have hz : Msg.zero.kind = .invalid ∧ Msg.zero.echoId = .null := by decide
  cases j with
  | obj fs => cases h
  | _ => exact hz

/-- a message without a (non-empty, string) method is invalid unless it is response-shaped -/
theorem no_method_invalid_or_response (m : Msg) (h : m.method = "") : m.kind = .invalid ∨ m.kind = .response := by
  unfold Msg.kind Msg.isNotification Msg.isCall
  simp only [h]
  cases m.isResponse <;> simp

/-- an invalid message is due a reply, and that reply is error −32600 -/
theorem invalid_reply (reg : Registry) (tr : Transport) (j : Json) (h : classify j = .invalid) :
    due j = true ∧ replyOf reg tr j = (echoId j, .err invalidRequest) := by
  refine ⟨by simp [due, h], ?_⟩
  -- were it a call, its kind would be notification or call
  have : (msgOf j).isCall = false := by
    cases hc : (msgOf j).isCall
    · rfl
    · simp [classify, Msg.kind, hc] at h
      split at h <;> cases h
  simp [replyOf, outcomeOf, this]

/-- a single message that is invalid — every JSON value that is not an object,
    and every object without a method that is not response-shaped (and an object with a method whose id is an object or
    array) — is answered by exactly one error object with code −32600 and the echoed id (null when it has no valid one);
    and every such ELEMENT of a batch has that reply in the batch's answer -/
theorem hostile_elements_get_invalid_request (reg : Registry) (tr : Transport) :
    (∀ j : Json, j.isArr = false → classify j = .invalid →
        respond reg tr j = .single (echoId j) (.err invalidRequest)) ∧
    (∀ (items : List Json) (j : Json), j ∈ items → classify j = .invalid →
        (echoId j, Outcome.err invalidRequest) ∈ (respond reg tr (.arr items)).replies) := by
  constructor
  · intro j hb hk
    have hinv := invalid_reply reg tr j hk
    rw [single_reply reg tr j hb, hinv.1, if_pos rfl, (Prod.mk.inj hinv.2).2]
  · intro items j hj hk
    have hinv := invalid_reply reg tr j hk
    have hrep : replyOf reg tr j ∈ (items.filter due).map (replyOf reg tr) :=
      List.mem_map_of_mem (List.mem_filter.2 ⟨hj, hinv.1⟩)
    rw [batch_replies reg tr items (List.ne_nil_of_mem hj), ← hinv.2]
    revert hrep
    cases (items.filter due).map (replyOf reg tr) <;> exact id

/-- hostile elements, the non-object half spelled out: a batch element of any non-object kind is answered −32600, id null -/
theorem non_object_element_reply (reg : Registry) (tr : Transport) (items : List Json) (j : Json) (hj : j ∈ items)
    (h : j.isObj = false) : (Id.null, Outcome.err invalidRequest) ∈ (respond reg tr (.arr items)).replies := by
  have hn := non_object_is_invalid j h
  exact hn.2 ▸ (hostile_elements_get_invalid_request reg tr).2 items j hj hn.1

/-- `hasValidID` as coded — an id is valid iff it is present and not an object or array: strings,
    numbers, null AND booleans (JSON-RPC 2.0 does not allow booleans); a valid id is echoed as it is -/
theorem valid_id_kinds (v : Json) :
    (v.toIdField = .compound ↔ (v.isArr = true ∨ v.isObj = true)) ∧
    (v.toIdField = .scalar .null ↔ v.isNull = true) ∧
    (∀ b, Json.toIdField (.bool b) = .scalar (.bool b)) ∧
    (∀ l, Json.toIdField (.num l) = .scalar (.num l)) ∧
    (∀ s, Json.toIdField (.str s) = .scalar (.str s)) ∧
    v.toIdField ≠ .absent := by
  cases v <;> simp [Json.toIdField, Json.isArr, Json.isObj, Json.isNull]

theorem has_valid_id_iff (m : Msg) : m.hasValidID = true ↔ ∃ i, m.id = .scalar i := by
  unfold Msg.hasValidID
  cases m.id <;> simp

theorem fieldOf_members :
    fieldOf "jsonrpc" = some .version ∧ fieldOf "id" = some .id ∧ fieldOf "method" = some .method ∧
    fieldOf "params" = some .params ∧ fieldOf "error" = some .error ∧ fieldOf "result" = some .result ∧
    fieldOf "ID" = some .id ∧ fieldOf "Method" = some .method ∧ fieldOf "reſult" = some .result ∧
    fieldOf "" = none ∧ fieldOf "idx" = none ∧ fieldOf "method " = none := by decide +kernel

/-- `{"id": v, "method": s}` (any registry, any method string — the empty one counts as no method): exactly one reply
    object, carrying v when v is a scalar and null when v is an object or array (its outcome is left open here; for the
    object / array id it is −32600 by `hostile_elements_get_invalid_request`, the message being invalid) -/
theorem call_echoes_id (reg : Registry) (tr : Transport) (v : Json) (s : String) :
    ∃ o, respond reg tr (.obj [("id", v), ("method", .str s)]) =
      .single (match v.toIdField with | .scalar i => i | _ => .null) o := by
  have hm : msgOf (.obj [("id", v), ("method", .str s)]) = { id := v.toIdField, method := s } := by
    simp [msgOf, decodeMsg, List.foldl, setField, fieldOf_members.2.1, fieldOf_members.2.2.1, Msg.zero]
  -- with an id member the message is no notification, without result and error members it is no response
  have hdue : due (.obj [("id", v), ("method", .str s)]) = true := by
    have hid : Msg.idAbsent { id := v.toIdField, method := s } = false := by cases v <;> rfl
    rw [due_eq, hm, dueM, Msg.kind, Msg.isNotification, hid]
    cases Msg.isCall { id := v.toIdField, method := s } <;> simp [Msg.isResponse]
  refine ⟨outcomeOf reg tr (msgOf (.obj [("id", v), ("method", .str s)])), ?_⟩
  rw [single_reply reg tr _ rfl, hdue, if_pos rfl, echoId, hm]
  rfl

def reg0 : Registry :=
  { methods := [⟨"ledger", "getFrontierMomentum", []⟩, ⟨"ledger", "getMomentumsByPage", [false, false]⟩,
                ⟨"embedded.token", "getAll", [false, false]⟩],
    subscriptions := [⟨"ledger", "momentums", []⟩] }

def call (id : Json) : Json :=
  .obj [("jsonrpc", .str "2.0"), ("id", id), ("method", .str "ledger.getFrontierMomentum"), ("params", .arr [])]

def inv : Outcome := .err invalidRequest

/-- the shapes of the seeded change /verif/seeded/C18-r2-3, with their replies, on both connection kinds -/
theorem null_in_batch :
    respond reg0 .http (.arr [.null]) = .batch [(.null, inv)] ∧
    respond reg0 .http (.arr [call (.num "1"), .null]) = .batch [(.num "1", .app), (.null, inv)] ∧
    respond reg0 .http (.arr [.null, call (.num "1")]) = .batch [(.null, inv), (.num "1", .app)] ∧
    respond reg0 .stream (.arr [.null]) = .batch [(.null, inv)] ∧
    respond reg0 .stream (.arr [call (.num "1"), .null, call (.str "b")]) =
      .batch [(.num "1", .app), (.null, inv), (.str "b", .app)] ∧
    respond reg0 .http .null = .single .null inv := by decide +kernel

/-- the panic outcome is not vacuous: without the nil repair of readBatch exactly these shapes reach the nil dereference,
    while a single null and every other garbage element are still answered -/
theorem unrepaired_panics :
    respondUnrepaired reg0 .http (.arr [.null]) = .panic ∧
    respondUnrepaired reg0 .stream (.arr [call (.num "1"), .null]) = .panic ∧
    respondUnrepaired reg0 .http .null = .single .null inv ∧
    respondUnrepaired reg0 .http (.arr [.num "42", .str "x", .obj [], .arr [], .bool true]) =
      .batch [(.null, inv), (.null, inv), (.null, inv), (.null, inv), (.null, inv)] := by decide +kernel

/-- the other two panic sites are not vacuous either: `namespace()` of a method without separator, `reqs[0]` of nothing -/
theorem other_panic_sites :
    handleSubscribe reg0 .stream { method := "subscribe", params := some (.arr [.str "momentums"]) } = .panic ∧
    dispatch reg0 .http ([], false) = .panic := by decide +kernel

/-- non-vacuity: every class of message and every outcome occurs -/
theorem shapes :
    -- every JSON kind as a single message
    respond reg0 .http (.num "42") = .single .null inv ∧
    respond reg0 .http (.str "x") = .single .null inv ∧
    respond reg0 .http (.bool true) = .single .null inv ∧
    respond reg0 .http (.obj []) = .single .null inv ∧
    respond reg0 .http (.arr []) = .single .null inv ∧
    respond reg0 .http (.arr [.arr []]) = .batch [(.null, inv)] ∧
    -- calls: found, not found (no separator, wrong case, unknown service), wrong number of arguments
    respond reg0 .http (call (.str "a")) = .single (.str "a") .app ∧
    respond reg0 .http (.obj [("id", .num "1"), ("method", .str "nodots")]) = .single (.num "1") (.err methodNotFound) ∧
    respond reg0 .http (.obj [("id", .num "1"), ("method", .str "ledger.GetFrontierMomentum")]) =
      .single (.num "1") (.err methodNotFound) ∧
    respond reg0 .http (.obj [("id", .num "1"), ("method", .str "embedded.token.getAll"), ("params", .arr [.num "0", .num "1"])]) =
      .single (.num "1") .app ∧
    respond reg0 .http (.obj [("id", .num "1"), ("method", .str "embedded.token.getAll"), ("params", .arr [.num "0"])]) =
      .single (.num "1") (.err invalidParams) ∧
    respond reg0 .http (.obj [("id", .num "1"), ("method", .str "ledger.getFrontierMomentum"), ("params", .arr [.num "0"])]) =
      .single (.num "1") (.err invalidParams) ∧
    respond reg0 .http (.obj [("id", .num "1"), ("method", .str "ledger.getFrontierMomentum"), ("params", .obj [])]) =
      .single (.num "1") (.err invalidParams) ∧
    respond reg0 .http (.obj [("id", .num "1"), ("method", .str "ledger.getFrontierMomentum"), ("params", .null)]) =
      .single (.num "1") .app ∧
    -- ids: null and booleans are echoed, objects and arrays are not ids
    respond reg0 .http (call .null) = .single .null .app ∧
    respond reg0 .http (call (.bool true)) = .single (.bool true) .app ∧
    respond reg0 .http (call (.num "1.50e+3")) = .single (.num "1.50e+3") .app ∧
    respond reg0 .http (call (.obj [("a", .num "1")])) = .single .null inv ∧
    respond reg0 .http (call (.arr [.num "1"])) = .single .null inv ∧
    -- no method: −32600 with the id; response-shaped: dropped; "error": null is no error member; params spoil the response
    respond reg0 .http (.obj [("id", .num "1")]) = .single (.num "1") inv ∧
    respond reg0 .http (.obj [("id", .num "1"), ("method", .num "5")]) = .single (.num "1") inv ∧
    respond reg0 .http (.obj [("id", .num "5"), ("result", .num "1")]) = .noBody ∧
    respond reg0 .http (.obj [("id", .num "5"), ("result", .null)]) = .noBody ∧
    respond reg0 .http (.obj [("id", .num "5"), ("error", .num "7")]) = .noBody ∧
    respond reg0 .http (.obj [("id", .num "5"), ("error", .null)]) = .single (.num "5") inv ∧
    respond reg0 .http (.obj [("id", .num "5"), ("result", .num "1"), ("params", .null)]) = .single (.num "5") inv ∧
    -- notifications: never answered, registered or not
    respond reg0 .http (.obj [("method", .str "ledger.getFrontierMomentum")]) = .noBody ∧
    respond reg0 .http (.obj [("method", .str "nosuch")]) = .noBody ∧
    respond reg0 .http (.arr [.obj [("method", .str "a.b")], .obj [("id", .num "5"), ("result", .num "1")]]) = .noBody ∧
    -- member names fold, repeated members overwrite, a non-string method keeps the earlier one
    respond reg0 .http (.obj [("ID", .num "7"), ("Method", .str "ledger.getFrontierMomentum")]) = .single (.num "7") .app ∧
    respond reg0 .http (.obj [("id", .num "1"), ("id", .obj []), ("method", .str "a.b")]) = .single .null inv ∧
    respond reg0 .http (.obj [("id", .num "1"), ("method", .str "ledger.getFrontierMomentum"), ("method", .num "5")]) =
      .single (.num "1") .app ∧
    -- subscriptions: refused over HTTP, resolved on a stream
    respond reg0 .http (.obj [("id", .num "1"), ("method", .str "ledger.subscribe"), ("params", .arr [.str "momentums"])]) =
      .single (.num "1") (.err defaultErrorCode) ∧
    respond reg0 .stream (.obj [("id", .num "1"), ("method", .str "ledger.subscribe"), ("params", .arr [.str "momentums"])]) =
      .single (.num "1") .app ∧
    respond reg0 .stream (.obj [("id", .num "1"), ("method", .str "ledger.subscribe"), ("params", .arr [.str "nosuch"])]) =
      .single (.num "1") (.err methodNotFound) ∧
    respond reg0 .stream (.obj [("id", .num "1"), ("method", .str ".subscribe"), ("params", .arr [])]) =
      .single (.num "1") (.err invalidParams) ∧
    respond reg0 .stream (.obj [("id", .num "1"), ("method", .str "x.unsubscribe")]) = .single (.num "1") (.err invalidParams) ∧
    respond reg0 .stream (.obj [("id", .num "1"), ("method", .str "x.unsubscribe"), ("params", .arr [.str "0x1"])]) =
      .single (.num "1") .app ∧
    respond reg0 .stream (.obj [("method", .str "ledger.subscription"), ("params", .num "5")]) = .noBody := by decide +kernel

/-- the statements `repairNil` / `decodeMsg` / `parseMessage` stand for, as they are in the tree:
    parseMessage decodes a single message into `&msgs[0]` and every batch element into `&msgs[len(msgs)-1]` — a pointer to
    the slice slot, which JSON null sets to nil — and readBatch, after parseMessage and before it returns, replaces EVERY nil
    slot by `new(jsonrpcMessage)`; isBatch looks at the first non-blank byte. There is exactly one nil repair and it is
    the loop over all messages in readBatch. -/
theorem nil_repair_fact :
    Gen.rpcsrvNilRepairs = ["readBatch: range messages / if msg == nil { messages[i] = new(jsonrpcMessage) }"] ∧
    Gen.rpcsrvReadBatchStmts =
      ["var rawmsg json.RawMessage",
       "if err := c.decode(&rawmsg); err != nil { return nil, false, err }",
       "messages, batch = parseMessage(rawmsg)",
       "for i, msg := range messages { if msg == nil { messages[i] = new(jsonrpcMessage) } }",
       "return messages, batch, nil"] ∧
    Gen.rpcsrvParseMessageStmts =
      ["if !isBatch(raw) { msgs := []*jsonrpcMessage{{}} json.Unmarshal(raw, &msgs[0]) return msgs, false }",
       "dec := json.NewDecoder(bytes.NewReader(raw))",
       "dec.Token()",
       "var msgs []*jsonrpcMessage",
       "for dec.More() { msgs = append(msgs, new(jsonrpcMessage)) dec.Decode(&msgs[len(msgs)-1]) }",
       "return msgs, true"] ∧
    Gen.rpcsrvIsBatchStmts =
      ["for _, c := range raw { if c == 0x20 || c == 0x09 || c == 0x0a || c == 0x0d { continue } return c == '[' }",
       "return false"] := ⟨rfl, rfl, rfl, rfl⟩

/-- handleBatch answers the empty batch FIRST (`len(msgs) == 0` ⇒ write, return), then runs
    handleImmediate over every message, returns when no call is left, and hands the rest to one call goroutine;
    serveSingleRequest refuses subscriptions and indexes `reqs[0]` only in the non-batch branch -/
theorem handle_batch_fact :
    Gen.rpcsrvHandleBatchTop =
      ["if len(msgs) == 0 => return",
       "calls := make([]*jsonrpcMessage, 0, len(msgs))",
       "range msgs { if handled := h.handleImmediate(msg); !handled { calls = append(calls, msg) } }",
       "if len(calls) == 0 => return",
       "call h.startCallProc"] ∧
    Gen.rpcsrvHandleBatchTop.head? = some "if len(msgs) == 0 => return" ∧
    Gen.rpcsrvServeSingleRequestFlow =
      ["if atomic.LoadInt32(&s.run) == 0",
       "h := newHandler(ctx, codec, s.idgen, &s.services)",
       "h.allowSubscribe = false",
       "reqs, batch, err := codec.readBatch()",
       "if err != nil",
       "if err != io.EOF",
       "codec.writeJSON(ctx, errorMessage(&invalidMessageError{\"parse error\"}))",
       "if batch",
       "h.handleBatch(reqs)",
       "h.handleMsg(reqs[0])"] := ⟨rfl, rfl, rfl⟩

/-- the predicates `Msg.isNotification / isCall / isResponse / hasValidID / isSubscribe /
    isUnsubscribe` and `splitLastDot` were written for, the suffixes, and the member names of the message -/
theorem classification_fact :
    Gen.rpcsrvPredicates =
      ["isNotification: return msg.ID == nil && msg.Method != \"\"",
       "isCall: return msg.hasValidID() && msg.Method != \"\"",
       "isResponse: return msg.hasValidID() && msg.Method == \"\" && msg.Params == nil && (msg.Result != nil || msg.Error != nil)",
       "hasValidID: return len(msg.ID) > 0 && msg.ID[0] != '{' && msg.ID[0] != '['",
       "isSubscribe: return strings.HasSuffix(msg.Method, subscribeMethodSuffix)",
       "isUnsubscribe: return strings.HasSuffix(msg.Method, unsubscribeMethodSuffix)",
       "namespace: endIndex := strings.LastIndex(msg.Method, serviceMethodSeparator); return msg.Method[0:endIndex]"] ∧
    Gen.rpcsrvNameConsts =
      ["serviceMethodSeparator = \".\"",
       "subscribeMethodSuffix = \".subscribe\"",
       "unsubscribeMethodSuffix = \".unsubscribe\"",
       "notificationMethodSuffix = \".subscription\""] ∧
    Gen.rpcsrvMessageFields =
      ["Version string `json:\"jsonrpc,omitempty\"`",
       "ID json.RawMessage `json:\"id,omitempty\"`",
       "Method string `json:\"method,omitempty\"`",
       "Params json.RawMessage `json:\"params,omitempty\"`",
       "Error *jsonError `json:\"error,omitempty\"`",
       "Result json.RawMessage `json:\"result,omitempty\"`"] := ⟨rfl, rfl, rfl⟩

/-- the switches of handleImmediate and handleCallMsg, the order of the checks in handleCall /
    handleSubscribe (allowSubscribe, subscription name, namespace(), lookup, arguments) and the −1 guard of
    serviceRegistry.callback -/
theorem dispatch_fact :
    Gen.rpcsrvHandleImmediateCases =
      ["msg.isNotification() => return true | return false",
       "msg.isResponse() => return true",
       "default => return false"] ∧
    Gen.rpcsrvHandleCallMsgCases =
      ["msg.isNotification() => return nil",
       "msg.isCall() => return resp",
       "msg.hasValidID() => return msg.errorResponse(&invalidRequestError{\"invalid request\"})",
       "default => return errorMessage(&invalidRequestError{\"invalid request\"})"] ∧
    Gen.rpcsrvHandleCallFlow =
      ["if msg.isSubscribe()",
       "return h.handleSubscribe(cp, msg)",
       "if msg.isUnsubscribe()",
       "callb = h.unsubscribeCb",
       "callb = h.reg.callback(msg.Method)",
       "if callb == nil",
       "return msg.errorResponse(&methodNotFoundError{method: msg.Method})",
       "args, err := parsePositionalArguments(msg.Params, callb.argTypes)",
       "if err != nil",
       "return msg.errorResponse(&invalidParamsError{err.Error()})",
       "if callb != h.unsubscribeCb",
       "if answer.Error != nil",
       "return answer"] ∧
    Gen.rpcsrvHandleSubscribeFlow =
      ["if !h.allowSubscribe",
       "return msg.errorResponse(ErrNotificationsUnsupported)",
       "name, err := parseSubscriptionName(msg.Params)",
       "if err != nil",
       "return msg.errorResponse(&invalidParamsError{err.Error()})",
       "namespace := msg.namespace()",
       "callb := h.reg.subscription(namespace, name)",
       "if callb == nil",
       "return msg.errorResponse(&subscriptionNotFoundError{namespace, name})",
       "args, err := parsePositionalArguments(msg.Params, argTypes)",
       "if err != nil",
       "return msg.errorResponse(&invalidParamsError{err.Error()})",
       "args = args[1:]",
       "return h.runMethod(ctx, msg, callb, args)"] ∧
    Gen.rpcsrvRegistryCallbackFlow =
      ["if endIndex == -1",
       "return nil",
       "return r.services[elem[0]].callbacks[elem[1]]"] := ⟨rfl, rfl, rfl, rfl, rfl⟩

/-- the codes of errors.go are the constants of the model -/
theorem error_codes_fact :
    Gen.rpcsrvErrorCodes =
      ["defaultErrorCode -32000",
       "invalidMessageError -32700",
       "invalidParamsError -32602",
       "invalidRequestError -32600",
       "methodNotFoundError -32601",
       "parseError -32700",
       "subscriptionNotFoundError -32601"] ∧
    parseErrorCode = -32700 ∧ invalidRequest = -32600 ∧ methodNotFound = -32601 ∧ invalidParams = -32602 ∧
    defaultErrorCode = -32000 := ⟨rfl, rfl, rfl, rfl, rfl, rfl⟩

/-- the limits of http.go and the order of validateRequest (PUT / DELETE 405, content length above 5 MiB 413,
    OPTIONS passes, media type not in the accepted list 415) — the structured requests of the stream are POSTs of
    application/json far below the limit, every one must be answered with status 200 -/
theorem http_fact :
    Gen.rpcsrvHttpConsts =
      ["maxRequestContentLength = 1024 * 1024 * 5",
       "contentType = \"application/json\"",
       "acceptedContentTypes = []string{contentType, \"application/json-rpc\", \"application/jsonrequest\"}"] ∧
    Gen.rpcsrvValidateRequestFlow =
      ["if r.Method == http.MethodPut || r.Method == http.MethodDelete",
       "return http.StatusMethodNotAllowed, errors.New(\"method not allowed\")",
       "if r.ContentLength > maxRequestContentLength",
       "return http.StatusRequestEntityTooLarge, err",
       "if r.Method == http.MethodOptions",
       "return 0, nil",
       "if err == nil",
       "if accepted == mt",
       "return 0, nil",
       "return http.StatusUnsupportedMediaType, err"] := ⟨rfl, rfl⟩

/-- a registry whose method names are free of the separator (a service name may contain it: "embedded.token") finds for
    every entry, under "service.method", an entry of that service and name — `serviceRegistry.callback` splits at the LAST
    separator -/
theorem registry_lookup (r : Registry) (h : ∀ c ∈ r.methods, '.' ∉ c.name.toList) (c : Callback) (hc : c ∈ r.methods) :
    ∃ c', r.callbackL (c.service.toList ++ '.' :: c.name.toList) = some c' ∧
      c'.service.toList = c.service.toList ∧ c'.name.toList = c.name.toList := by
  unfold Registry.callbackL
  rw [splitLastDot_append _ _ (h c hc)]
  -- the entry itself passes the test of the search, and what the search returns passes it too
  have hs : (findCallback r.methods c.service.toList c.name.toList).isSome :=
    List.find?_isSome.2 ⟨c, hc, by simp⟩
  obtain ⟨c', hf⟩ := Option.isSome_iff_exists.1 hs
  have := List.find?_some hf
  simp only [Bool.and_eq_true, decide_eq_true_eq] at this
  exact ⟨c', hf, this⟩

/-- `findCallback` compares strings: a character list equals `s.toList` iff `s` is the string of that list -/
private theorem findCallback_eq (l : List Callback) (svc name : List Char) :
    findCallback l svc name = l.find? (fun c => c.service == String.ofList svc && c.name == String.ofList name) := by
  have h : ∀ (s : String) (cs : List Char), decide (s.toList = cs) = (s == String.ofList cs) := fun s cs => by
    rw [Bool.beq_eq_decide_eq, decide_eq_decide, ← String.toList_inj, String.toList_ofList]
  simp only [findCallback, h]

/-- the registry the stream serves (and the driver evaluates `respond` with): no method name contains the
    separator (so `registry_lookup` applies: every entry is found under its qualified name), the calls of the directed
    corpus exist with the arities the model uses, the Go method name (upper-case initial) and a truncated service name do
    not, no subscriptions are registered (the subscribe API needs the node's subscription server) -/
theorem registry_fact :
    (servedRegistry.methods.all (fun c => !c.name.toList.contains '.' && c.name != "" && c.service != "")) = true ∧
    servedRegistry.methods.length = Gen.rpcsrvMethods.length ∧
    servedRegistry.callback "ledger.getFrontierMomentum" = some ⟨"ledger", "getFrontierMomentum", []⟩ ∧
    servedRegistry.callback "ledger.getMomentumsByPage" = some ⟨"ledger", "getMomentumsByPage", [false, false]⟩ ∧
    servedRegistry.callback "embedded.token.getAll" = some ⟨"embedded.token", "getAll", [false, false]⟩ ∧
    servedRegistry.callback "ledger.publishRawTransaction" = some ⟨"ledger", "publishRawTransaction", [true]⟩ ∧
    servedRegistry.callback "rpc.modules" = some ⟨"rpc", "modules", []⟩ ∧
    servedRegistry.callback "ledger.GetFrontierMomentum" = none ∧
    servedRegistry.callback "token.getAll" = none ∧
    servedRegistry.subscriptions = [] := by
  -- the method names and the names asked for are ASCII (Go identifiers) and are read off their bytes; the lookups
  -- compare strings; one evaluation for both, so that the kernel turns each literal of the table into bytes once
  simp (disch := decide +kernel) only [Registry.callback, toList_of_ascii, Registry.callbackL, findCallback_eq]
  refine And.imp_left (fun hn => List.all_eq_true.2 fun c hc => ?_)
    (by decide +kernel : (∀ c ∈ servedRegistry.methods, isAscii c.name = true ∧
      (!(asciiChars c.name).contains '.' && c.name != "" && c.service != "") = true) ∧ _)
  rw [toList_of_ascii _ (hn c hc).1]
  exact (hn c hc).2

end ZV.C18Rpc
