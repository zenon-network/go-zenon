import ZenonVerif.Model.Codec
import ZenonVerif.Gen.Calldata
import ZenonVerif.Lemmas.Codec
import ZenonVerif.Lemmas.CodecPB
import ZenonVerif.Lemmas.CodecPBDec
import ZenonVerif.Lemmas.CodecText
import ZenonVerif.Lemmas.CodecRLP
/-
C13 — a block's hash pins down its stored bytes and its effect: property theorems only.
-/
namespace ZV.C13
open ZV ZV.Codec

/-! ## the model reads the same members, in the same order, through the same encoders as the tree -/

/-- order and encoders of the model's account-block pre-image = the ordered `common.JoinBytes` arguments of
    `(ab *AccountBlock) ComputeHash` in the working tree (generated by `zvh facts` from the AST) -/
theorem ab_hash_fields_match (H : Bytes → Bytes) (b : Block) :
    (abHashParts H b).map (fun p => (p.field, p.enc)) = Gen.abHashFields := by
  rfl

theorem momentum_hash_fields_match (H : Bytes → Bytes) (m : Momentum) :
    (momentumHashParts H m).map (fun p => (p.field, p.enc)) = Gen.momentumHashFields := by
  rfl

theorem hash_height_fields_match (h : HashHeight) :
    (hashHeightParts h).map (fun p => (p.field, p.enc)) = Gen.hashHeightBytesFields := by
  rfl

theorem account_header_fields_match (h : AccountHeader) :
    (accountHeaderParts h).map (fun p => (p.field, p.enc)) = Gen.accountHeaderBytesFields := by
  rfl

/-- every field of `nom.AccountBlock` is in exactly one of: the hash field list, the reviewed list of
    uncovered fields. A field added to the struct without a decision about the hash breaks the build. -/
theorem ab_struct_fields_decided :
    Gen.abStructFields.all (fun f =>
      (Gen.abHashFields.map (fun p => coveredStructField p.1)).contains f != abUncoveredFields.contains f) = true := by
  decide +kernel

/-- … and neither list names a field the struct does not have (no stale entry) -/
theorem ab_field_lists_current :
    ((Gen.abHashFields.map (fun p => coveredStructField p.1)) ++ abUncoveredFields).all
      (fun f => Gen.abStructFields.contains f) = true := by
  decide +kernel

theorem momentum_struct_fields_decided :
    Gen.momentumStructFields.all (fun f =>
      (Gen.momentumHashFields.map (fun p => p.1)).contains f != momentumUncoveredFields.contains f) = true := by
  decide +kernel

theorem momentum_field_lists_current :
    ((Gen.momentumHashFields.map (fun p => p.1)) ++ momentumUncoveredFields).all
      (fun f => Gen.momentumStructFields.contains f) = true := by
  decide +kernel

/-- the helper functions the pre-images go through are the ones the model was written against -/
theorem reviewed_sources_current :
    Gen.src_DescendantBlocksHash = reviewed_DescendantBlocksHash ∧
    Gen.src_MomentumContentBytes = reviewed_MomentumContentBytes ∧
    Gen.src_MomentumContentHash = reviewed_MomentumContentHash ∧
    Gen.src_BigIntToBytes = reviewed_BigIntToBytes ∧
    Gen.src_BytesToBigInt = reviewed_BytesToBigInt ∧
    Gen.src_Uint64ToBytes = reviewed_Uint64ToBytes ∧
    Gen.src_JoinBytes = reviewed_JoinBytes ∧
    Gen.src_StringToBigInt = reviewed_StringToBigInt ∧
    Gen.src_NewHash = reviewed_NewHash :=
  ⟨rfl, rfl, rfl, rfl, rfl, rfl, rfl, rfl, rfl⟩

/-! ## T1 — the pre-image determines every covered field -/

/-- `preimage_injective`: for blocks with a non-negative amount the byte string that is hashed determines
    every directly covered field and the two digests (of `Data` and of the descendants' hashes). All parts
    but the amount have a fixed width (8/32/20/10/40/8 bytes); the amount is the only part of variable width,
    so its width is determined by the total length: NO upper bound on the amount is needed — injectivity is
    not lost for amounts ≥ 2^256 (see `preimage_width`). -/
theorem preimage_injective (H : Bytes → Bytes) (hHlen : ∀ x, (H x).length = Gen.HashSize)
    (b1 b2 : Block) (w1 : b1.body.WF) (w2 : b2.body.WF)
    (a1 : 0 ≤ b1.body.amount) (a2 : 0 ≤ b2.body.amount)
    (h : abPreimage H b1 = abPreimage H b2) :
    ABody.DirectEq b1.body b2.body ∧ H (descSource b1.desc) = H (descSource b2.desc) ∧
      H b1.body.data = H b2.body.data :=
  abPreimage_split H hHlen b1 b2 w1 w2 a1 a2 h

/-- the pre-image has the fixed width 306 exactly for |amount| < 2^256 and is longer above: `LeftPadBytes`
    does not truncate. (The verifier rejects send amounts with `BitLen() > 255`, so accepted blocks are in
    the fixed-width range.) -/
theorem preimage_width (H : Bytes → Bytes) (hHlen : ∀ x, (H x).length = Gen.HashSize) (b : Block) (w : b.body.WF) :
    (b.body.amount.natAbs < 2 ^ 256 → (abPreimage H b).length = abPreimageWidth) ∧
    (2 ^ 256 ≤ b.body.amount.natAbs → abPreimageWidth < (abPreimage H b).length) := by
  have hl := abPreimage_length H hHlen b w
  unfold abPreimageWidth
  exact ⟨fun h => by have := bigIntToBytes_length_fixed _ h; omega,
    fun h => by have := bigIntToBytes_length_var _ h; omega⟩

theorem preimage_width_value : abPreimageWidth = 306 := by decide

/-- the verifier (`amounts()`, read from the AST) rejects negative send amounts and amounts of more than
    `Gen.abAmountMaxBitLen` = 255 bits, which is within the pad width: the two facts from which an accepted amount lies
    in the fixed-width range [0, 2^256) (`accepted_amount_fixed_width`) -/
theorem verifier_amount_bound :
    Gen.abAmountNegativeRejected = true ∧ Gen.abAmountMaxBitLen ≤ 8 * Gen.BigIntPadWidth := by
  decide

/-- … and the pre-image of an accepted block has exactly the fixed width -/
theorem accepted_amount_fixed_width (H : Bytes → Bytes) (hHlen : ∀ x, (H x).length = Gen.HashSize) (b : Block)
    (w : b.body.WF) (hb : b.body.amount.natAbs < 2 ^ Gen.abAmountMaxBitLen) :
    (abPreimage H b).length = abPreimageWidth := by
  apply (preimage_width H hHlen b w).1
  have h : (2 : Nat) ^ Gen.abAmountMaxBitLen ≤ 2 ^ 256 :=
    Nat.pow_le_pow_right (by decide) (by decide)
  omega

/-- negative witness: the sign of the amount is NOT covered — `BigIntToBytes` encodes |amount|. Two blocks
    that differ only in the sign of the amount have the same pre-image, hence the same hash, for every hash
    function. (verifier `amounts()` rejects negative send amounts and non-zero receive amounts, so no such
    pair is accepted; the protobuf form cannot even represent the sign.) -/
theorem preimage_ignores_sign (H : Bytes → Bytes) (body : ABody) (ds : List Block) :
    abPreimage H ⟨{ body with amount := -body.amount }, ds⟩ = abPreimage H ⟨body, ds⟩ := by
  simp [abPreimage_eq, bigIntToBytes]

theorem preimage_sign_collision_witness :
    ∃ b1 b2 : Block, b1.body.WF ∧ b2.body.WF ∧ b1.body.amount ≠ b2.body.amount ∧
      ∀ H, abComputeHash H b1 = abComputeHash H b2 := by
  let body : ABody := { (default : ABody) with
    hash := List.replicate 32 0, previousHash := List.replicate 32 0,
    momentumAcknowledged := ⟨List.replicate 32 0, 0⟩, address := List.replicate 20 0,
    toAddress := List.replicate 20 0, tokenStandard := List.replicate 10 0,
    fromBlockHash := List.replicate 32 0, nonce := List.replicate 8 0, amount := 1 }
  have w : body.WF := by
    constructor <;> first | decide | exact ⟨by decide, by decide⟩
  refine ⟨⟨body, []⟩, ⟨{ body with amount := -1 }, []⟩, w, ?_, by decide, ?_⟩
  · constructor <;> first | decide | exact ⟨by decide, by decide⟩
  · intro H
    simp only [abComputeHash]
    rw [← preimage_ignores_sign H body []]

/-- T1 (hash form, recursive): two blocks whose `Hash` fields — and those of all their descendants — are the
    computed hashes, with Go-typed fields and non-negative amounts at every level, and a hash function
    without collision among the inputs that arise: equal hashes ⇒ equal covered fields, equal `Data`, equal
    descendant lists (recursively equal in all covered fields). `strip` erases exactly the uncovered fields
    `BasePlasma, TotalPlasma, ChangesHash, PublicKey, Signature`. -/
theorem equal_hash_equal_covered (H : Bytes → Bytes) (hHlen : ∀ x, (H x).length = Gen.HashSize)
    (S : Bytes → Prop) (hH : InjOn H S) (b1 b2 : Block)
    (s1 : ∀ x ∈ b1.hashInputs H, S x) (s2 : ∀ x ∈ b2.hashInputs H, S x)
    (w1 : b1.DeepWF) (w2 : b2.DeepWF) (c1 : b1.Consistent H) (c2 : b2.Consistent H)
    (h : b1.body.hash = b2.body.hash) : b1.strip = b2.strip :=
  strip_eq_of_hash_eq H hHlen S hH b1 b2 s1 s2 w1 w2 c1 c2 h

/-- the momentum pre-image (all parts of fixed width) determines every covered field and the two digests -/
theorem momentum_preimage_injective (H : Bytes → Bytes) (hHlen : ∀ x, (H x).length = Gen.HashSize)
    (m1 m2 : Momentum) (w1 : m1.WF) (w2 : m2.WF) (h : momentumPreimage H m1 = momentumPreimage H m2) :
    Momentum.DirectEq m1 m2 ∧ H m1.data = H m2.data ∧ H (contentBytes m1.content) = H (contentBytes m2.content) :=
  momentumPreimage_split H hHlen m1 m2 w1 w2 h

/-- the content list is determined by its byte form (60-byte records) -/
theorem momentum_content_injective (c1 c2 : List AccountHeader) (w1 : ∀ h ∈ c1, h.WF) (w2 : ∀ h ∈ c2, h.WF)
    (h : contentBytes c1 = contentBytes c2) : c1 = c2 :=
  contentBytes_inj c1 c2 w1 w2 h

/-- T1 for momentums: equal hashes ⇒ equal covered fields including the whole content list, `Data` and
    `ChangesHash`; only `PublicKey` and `Signature` may differ. -/
theorem momentum_equal_hash_equal_covered (H : Bytes → Bytes) (hHlen : ∀ x, (H x).length = Gen.HashSize)
    (S : Bytes → Prop) (hH : InjOn H S) (m1 m2 : Momentum)
    (s1 : ∀ x ∈ m1.hashInputs H, S x) (s2 : ∀ x ∈ m2.hashInputs H, S x) (w1 : m1.WF) (w2 : m2.WF)
    (c1 : m1.hash = momentumComputeHash H m1) (c2 : m2.hash = momentumComputeHash H m2)
    (h : m1.hash = m2.hash) : m1.strip = m2.strip := by
  have i1 : ∀ x ∈ [momentumPreimage H m1, m1.data, contentBytes m1.content], S x := s1
  have i2 : ∀ x ∈ [momentumPreimage H m2, m2.data, contentBytes m2.content], S x := s2
  simp only [List.forall_mem_cons] at i1 i2
  obtain ⟨⟨h1, h2, h3, h4, h5, h6⟩, hdata, hcontent⟩ := momentumPreimage_split H hHlen m1 m2 w1 w2
    (hH _ _ i1.1 i2.1 (c1.symm.trans (h.trans c2)))
  have hd := hH _ _ i1.2.1 i2.2.1 hdata
  have hc := contentBytes_inj _ _ w1.content w2.content (hH _ _ i1.2.2.1 i2.2.2.1 hcontent)
  -- every field that `strip` keeps is now known to agree
  clear i1 i2 c1 c2 s1 s2 w1 w2 hdata hcontent
  cases m1; cases m2
  simp only [Momentum.strip] at *
  simp_all

/-! ## T3 — protobuf: schema used by the model = schema of the tree; Proto/DeProto and wire round trips -/

/-- the records the model's encoder emits for a message with every field set carry exactly the field
    numbers and wire kinds of the struct tags of the generated Go types (`Gen.*ProtoSchema`), in order -/
theorem proto_schema_match :
    usedWire (blockFields probeBlockPB) = Gen.abProtoSchema.map schemaWire ∧
    usedWire (momentumFields probeMomentumPB) = Gen.momentumProtoSchema.map schemaWire ∧
    usedWire (bytesMsgFields [1]) = Gen.hashProtoSchema.map schemaWire ∧
    usedWire (bytesMsgFields [1]) = Gen.addressProtoSchema.map schemaWire ∧
    usedWire (hashHeightFields probeHashHeightPB) = Gen.hashHeightProtoSchema.map schemaWire ∧
    usedWire (accountHeaderFields probeAccountHeaderPB) = Gen.accountHeaderProtoSchema.map schemaWire := by
  decide

/-- `Proto()` / `DeProto…()` of the tree assign the fields the model was written against -/
theorem proto_assignments_current :
    Gen.abProtoAssign = reviewed_abProtoAssign ∧ Gen.abDeProtoAssign = reviewed_abDeProtoAssign ∧
    Gen.momentumProtoAssign = reviewed_momentumProtoAssign ∧
    Gen.momentumDeProtoAssign = reviewed_momentumDeProtoAssign :=
  ⟨rfl, rfl, rfl, rfl⟩

/-- T3: `DeProtoAccountBlock(ab.Proto()) = ab` (no panic) for blocks with Go-typed widths and non-negative
    amounts at every level — for every amount ≥ 0, also ≥ 2^256 -/
theorem deProto_proto_block (b : Block) (w : b.PBWF) : b.proto.deProto = some b :=
  Block.deProto_proto b w

/-- the sign of the amount does not survive `Proto()`: the protobuf form of −a is the form of a -/
theorem proto_drops_sign (body : ABody) : ({ body with amount := -body.amount } : ABody).proto = body.proto := by
  simp [ABody.proto, bigIntToBytes]

theorem deProto_proto_momentum (m : Momentum) (w : m.PBWF) : m.proto.deProto = some m :=
  Momentum.deProto_proto m w

/-- hash preserved through the storage form, as a corollary -/
theorem proto_roundtrip_hash_preserved (H : Bytes → Bytes) (b : Block) (w : b.PBWF) :
    ∃ b', b.proto.deProto = some b' ∧ abComputeHash H b' = abComputeHash H b :=
  ⟨b, Block.deProto_proto b w, rfl⟩

/-- T3: varint round trip for every 64-bit value, with any continuation -/
theorem varint_roundtrip (n : Nat) (rest : Bytes) (h : n < two64) :
    decVarint (varint n ++ rest) = some (n, rest) :=
  decVarint_varint n rest h

/-- T3: any sequence of valid wire records (varint, length-delimited, fixed) is parsed back exactly -/
theorem wire_records_roundtrip (fs : List WField) (hv : ∀ f ∈ fs, f.Valid) :
    parseFields (encFields fs) = some fs :=
  parseFields_encFields fs hv

/-- T3: `proto.Unmarshal(proto.Marshal(p)) = p` for every `AccountBlockProto` the Go types can hold (uint64
    fields below 2^64 at every nesting level, encoding shorter than 2^64 bytes): optional sub-messages absent
    or present, empty or not, any number of nested descendants, proto3 default omission -/
theorem decodePB_encodePB_block (p : BlockPB) (hn : p.NatsOK) (hfit : (encBlockPB p).length < two64) :
    decBlockPB (encBlockPB p) = some p :=
  decBlockPB_enc p hn hfit

theorem decodePB_encodePB_momentum (p : MomentumPB) (hn : p.NatsOK) (hfit : (encMomentumPB p).length < two64) :
    decMomentumPB (encMomentumPB p) = some p :=
  decMomentumPB_enc p hn hfit

/-- T3, storage form end to end: `DeserializeAccountBlock(ab.Serialize())` returns `ab` (no error, no panic) -/
theorem deserialize_serialize_block (b : Block) (w : b.PBWF) (hn : b.proto.NatsOK)
    (hfit : b.serialize.length < two64) : deserializeBlock b.serialize = some (some b) := by
  simp only [deserializeBlock, Block.serialize] at *
  rw [decBlockPB_enc b.proto hn hfit]
  simp [Block.deProto_proto b w]

theorem deserialize_serialize_momentum (m : Momentum) (w : m.PBWF) (hn : m.proto.NatsOK)
    (hfit : m.serialize.length < two64) : deserializeMomentum m.serialize = some (some m) := by
  simp only [deserializeMomentum, Momentum.serialize] at *
  rw [decMomentumPB_enc m.proto hn hfit]
  simp [Momentum.deProto_proto m w]

/-! ## T3 — JSON number / string forms -/

/-- amount: `SetString(a.String(), 10)` succeeds and gives `a` back — for every integer, negative ones too
    (JSON, unlike the protobuf form, keeps the sign) -/
theorem amount_json_roundtrip (a : Int) : setString10 (showAmount a) = some a :=
  setString10_showAmount a

theorem amount_json_roundtrip_value (a : Int) : stringToBigInt (showAmount a) = a :=
  stringToBigInt_showAmount a

/-- nonce: `UnmarshalText(hex.EncodeToString(n))` gives the 8 bytes back -/
theorem nonce_json_roundtrip (n : Bytes) (hw : n.WF) (hl : n.length = 8) :
    nonceUnmarshalText (hexChars n) = some n :=
  nonceUnmarshalText_hexChars n ⟨hw, hl⟩

/-- `ToNomMarshalJson` of the tree uses the text forms the model was written against -/
theorem json_assignments_current : Gen.abJsonAssign = reviewed_abJsonAssign := rfl

/-- strings that are not a decimal integer silently become amount 0 (`StringToBigInt`): "", "1_000", "0x10",
    " 5" — the reason the streams compare amount texts with the real code by parsed value, not by spelling (the accepted
    forms: `C13Json.json_amount_forms`) -/
theorem amount_parse_default_witness :
    stringToBigInt "".toList = 0 ∧ stringToBigInt "1_000".toList = 0 ∧ stringToBigInt "0x10".toList = 0 ∧
    stringToBigInt " 5".toList = 0 ∧ stringToBigInt "+5".toList = 5 ∧ stringToBigInt "-0".toList = 0 ∧
    stringToBigInt "007".toList = 7 := by
  decide

/-! ## T3 — RLP (p2p form) -/

/-- `rlp_roundtrip_partial`: every RLP item tree (byte strings and nested lists — the shape of an encoded
    `DetailedMomentum`, account block, nonce struct …) is decoded back from its canonical encoding by the
    decoder model that enforces go-ethereum's canonical-form rules. PARTIAL: this is the generic item layer. The typed
    layer of go-ethereum (reflection over the Go structs: fixed array widths, canonical integers, `rlp:"-"` tags) is
    modelled for encoding by `rlpOfBlock`, `rlpOfMomentum` (byte-equal to `rlp.EncodeToBytes` on the stream) and for
    decoding of `nom.AccountBlock` by `Model/CodecRLPTyped.lean` (`C13Rlp.rlp_typed_roundtrip_block`); the typed decode
    of momentums is covered by the Go-side round-trip monitors only. -/
theorem rlp_roundtrip_partial (x : RItem) (hlen : (rlpEnc x).length < two64) : rlpDec (rlpEnc x) = some x :=
  rlpDec_rlpEnc x hlen

/-- a negative amount has no RLP form (the encoder refuses), so it cannot travel over p2p -/
theorem rlp_refuses_negative_amount (body : ABody) (ds : List Block) (h : body.amount < 0) :
    rlpBlock ⟨body, ds⟩ = none := by
  have : ¬ (0 ≤ body.amount) := by omega
  simp [rlpBlock, Block.amountsNonneg, this]

/-! ## T4 — call data is stored re-packed (AST fact; the ABI itself is not modelled) -/

/-- T4 `calldata_canonical_partial`: every `ValidateSendBlock` in vm/embedded/implementation assigns
    `block.Data` from a `PackMethod` call and has no `return nil` before that assignment, so an accepted
    embedded call carries data in the image of `pack`. PARTIAL: the ABI `pack`/`unpack` functions are not
    modelled in Lean; that the stored bytes are a fixed point of unpack→pack and that every accepted form of
    one argument tuple is stored as the same bytes is evaluated on the real code by the `calldata` stream. -/
theorem calldata_canonical_partial :
    Gen.validateSendRepack.all (fun e => e.2.1 && e.2.2) = true ∧ 0 < Gen.validateSendRepack.length := by
  decide

/-! ### the hypotheses of T1 are satisfiable (and the conclusion is not trivial): two different blocks with
    one hash, a descendant, a toy 32-byte hash that is collision-free on the inputs that arise -/
section NonVacuity
open ZV.Codec.Example

/-- a hash without collision on a list of inputs, whichever of two equal lists an input is taken from -/
private theorem injOn_or_self (H : Bytes → Bytes) (l : List Bytes) (key : ∀ x ∈ l, ∀ y ∈ l, H x = H y → x = y) :
    InjOn H (fun x => x ∈ l ∨ x ∈ l) :=
  fun x y hx hy => key x (hx.elim id id) y (hy.elim id id)

/-- the hash reads none of `Hash`, `Signature`, `TotalPlasma`: the toy blocks are consistent by construction -/
private theorem hash_ignores (H : Bytes → Bytes) (b : ABody) (h s : Bytes) (t : Nat) (ds : List Block) :
    abComputeHash H ⟨{ b with hash := h, signature := s, totalPlasma := t }, ds⟩ = abComputeHash H ⟨b, ds⟩ := rfl

example : (parent [1] 5).Consistent toyH := by
  simp only [parent, child, Block.Consistent, ConsistentList, and_true]
  exact ⟨(hash_ignores ..).symm, (hash_ignores toyH child0 _ child0.signature child0.totalPlasma []).symm⟩

example : (parent [1] 5).DeepWF := by
  simp only [parent, child, Block.DeepWF, DeepWFList, and_true]
  refine ⟨?_, by decide, ?_, by decide⟩ <;>
  · constructor <;> first | decide | exact ⟨by decide, by decide⟩

example : InjOn toyH (fun x => x ∈ (parent [1] 5).hashInputs toyH ∨ x ∈ (parent [2, 2] 6).hashInputs toyH) :=
  injOn_or_self toyH ((parent [1] 5).hashInputs toyH) (by decide +kernel)

example : (parent [1] 5).body.hash = (parent [2, 2] 6).body.hash ∧ parent [1] 5 ≠ parent [2, 2] 6 := by
  constructor
  · rfl
  · intro h
    have := congrArg (fun b => b.body.totalPlasma) h
    simp [parent] at this

example : ∀ x, (toyH x).length = Gen.HashSize := fun _ => leBytes_length 32 _

example : (mom [1]).WF := by
  constructor <;> first | decide | skip
  intro h hh
  simp only [mom, mom0, List.mem_cons, List.not_mem_nil, or_false] at hh
  rcases hh with rfl | rfl <;> exact ⟨by decide, by decide, by decide⟩

example : (mom [1]).hash = momentumComputeHash toyH (mom [1]) ∧ (mom [1]).hash = (mom [2]).hash ∧ mom [1] ≠ mom [2] := by
  have hm : ∀ (m : Momentum) (h s : Bytes),
      momentumComputeHash toyH { m with hash := h, signature := s } = momentumComputeHash toyH m := fun _ _ _ => rfl
  refine ⟨(hm ..).symm, rfl, fun h => ?_⟩
  have := congrArg Momentum.signature h
  simp [mom] at this

example : InjOn toyH (fun x => x ∈ (mom [1]).hashInputs toyH ∨ x ∈ (mom [2]).hashInputs toyH) :=
  injOn_or_self toyH ((mom [1]).hashInputs toyH) (by decide +kernel)

example : (parent [1] 5).PBWF := by
  simp only [parent, child, Block.PBWF, PBWFList, and_true]
  constructor <;> constructor <;> decide

example : (parent [1] 5).proto.NatsOK ∧ (parent [1] 5).serialize.length < two64 := by
  constructor
  · simp only [parent, child, Block.proto, protoList, BlockPB.NatsOK, NatsOKList, and_true, ABodyPB.NatsOK,
      ABody.proto, HashHeight.proto]
    refine ⟨⟨by decide, by decide, by decide, by decide, by decide, by decide, by decide, by decide, ?_⟩,
      ⟨by decide, by decide, by decide, by decide, by decide, by decide, by decide, by decide, ?_⟩⟩ <;>
    · intro m hm
      simp only [Option.some.injEq] at hm
      subst hm
      decide
  · decide +kernel

example : (mom [1]).PBWF ∧ (mom [1]).serialize.length < two64 := by
  refine ⟨⟨by decide, by decide, ?_, by decide⟩, by decide +kernel⟩
  intro h hh
  simp only [mom, mom0, List.mem_cons, List.not_mem_nil, or_false] at hh
  rcases hh with rfl | rfl <;> exact ⟨by decide, by decide⟩

example : (rlpEnc (rlpOfBlock (parent [1] 5))).length < two64 ∧
    rlpDec (rlpEnc (rlpOfBlock (parent [1] 5))) = some (rlpOfBlock (parent [1] 5)) := by
  have h : (rlpEnc (rlpOfBlock (parent [1] 5))).length < two64 := by decide +kernel
  exact ⟨h, rlpDec_rlpEnc _ h⟩

end NonVacuity

end ZV.C13
