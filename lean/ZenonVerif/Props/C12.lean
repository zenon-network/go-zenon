import ZenonVerif.Model.Pow
import ZenonVerif.Lemmas.Spork
/-
C12 — plasma and proof-of-work: the property theorems, together with the characterising lemmas of the model's conversions
they rest on (`geMSB_spec`, `difficulty_plasma_spec`, `fused_plasma_spec`, the inversion of `availablePlasma`).
-/
namespace ZV.C12
open ZV ZV.Pow

/-- T1: for every difficulty a block can carry (2 ≤ d < 2^64) the stored target is
    exactly the statement's threshold 2^64 − ⌊2^64/d⌋ (no wrap-around). -/
theorem pow_target (d : Nat) (h1 : 2 ≤ d) (h2 : d < two64) : target d = two64 - two64 / d := by
  unfold target
  have hd : d ≠ 0 := by omega
  simp only [hd, if_false]
  apply Nat.mod_eq_of_lt
  have hpos : 0 < two64 / d := Nat.div_pos (by omega) (by omega)
  have : 0 < two64 := by decide
  omega

/-- d = 1: 2^64 − 2^64/1 = 0 — every nonce qualifies; d = 0: all-zero target. -/
theorem pow_target_one : target 1 = 0 := by decide
theorem pow_target_zero : target 0 = 0 := by decide

/-- The threshold is at least 2^63 for every d ≥ 2 and grows with d: a larger claimed difficulty never
    has a smaller threshold. -/
theorem pow_target_ge_half (d : Nat) (h1 : 2 ≤ d) (h2 : d < two64) : two63 ≤ target d := by
  rw [pow_target d h1 h2]
  have : two64 / d ≤ two64 / 2 := Nat.div_le_div_left h1 (by decide)
  have : two64 / 2 = two63 := by decide
  have : two64 = 2 * two63 := by decide
  omega

theorem pow_target_mono (d e : Nat) (h1 : 2 ≤ d) (hde : d ≤ e) (h2 : e < two64) :
    target d ≤ target e := by
  rw [pow_target d h1 (by omega), pow_target e (by omega) h2]
  have : two64 / e ≤ two64 / d := Nat.div_le_div_left hde (by omega)
  omega

theorem pow_target_lt (d : Nat) : target d < two64 := by
  unfold target
  split
  · decide
  · exact Nat.mod_lt _ (by decide)

/-- big-endian (most significant first) comparison = comparison of values -/
theorem geMSB_spec : ∀ (x y : Bytes), x.length = y.length → x.WF → y.WF →
    geMSB x y = decide (leVal x.reverse ≥ leVal y.reverse) := by
  intro x
  induction x with
  | nil =>
    intro y hl _ _
    cases y with
    | nil => simp [geMSB]
    | cons b bs => simp at hl
  | cons a as ih =>
    intro y hl hx hy
    cases y with
    | nil => simp at hl
    | cons b bs =>
      have hl' : as.length = bs.length := by simpa using hl
      have hxs : Bytes.WF as := fun z hz => hx z (List.mem_cons_of_mem _ hz)
      have hys : Bytes.WF bs := fun z hz => hy z (List.mem_cons_of_mem _ hz)
      have hA := leVal_lt as.reverse (fun z hz => hxs z (List.mem_reverse.1 hz))
      have hB := leVal_lt bs.reverse (fun z hz => hys z (List.mem_reverse.1 hz))
      rw [List.length_reverse] at hA hB
      rw [← hl'] at hB
      simp only [List.reverse_cons, leVal_append, leVal, Nat.mul_zero, Nat.add_zero, List.length_reverse, ← hl', geMSB,
        ih bs hl' hxs hys]
      generalize 256 ^ as.length = P at *
      -- the first bytes decide unless they are equal: P * (b + 1) ≤ P * a when b < a, and the rests are below P
      rcases Nat.lt_trichotomy a b with h | h | h
      · have := Nat.mul_le_mul_left P h
        rw [Nat.mul_succ] at this
        simp only [gt_iff_lt, Nat.lt_asymm h, h, if_false, if_true, ge_iff_le, false_eq_decide_iff]
        omega
      · subst h
        simp only [gt_iff_lt, Nat.lt_irrefl, if_false, ge_iff_le, decide_eq_decide]
        omega
      · have := Nat.mul_le_mul_left P h
        rw [Nat.mul_succ] at this
        simp only [gt_iff_lt, h, if_true, ge_iff_le, true_eq_decide_iff]
        omega

/-- T2: `greaterDifficulty x y ↔ le64 x ≥ le64 y` for all equally long byte strings
    (8 bytes in the code). -/
theorem pow_compare (x y : Bytes) (hl : x.length = y.length) (hx : x.WF) (hy : y.WF) :
    greaterDifficulty x y = decide (leVal x ≥ leVal y) := by
  unfold greaterDifficulty
  rw [geMSB_spec x.reverse y.reverse (by simpa using hl)
    (fun z hz => hx z (by simpa using hz)) (fun z hz => hy z (by simpa using hz))]
  simp

/-- T2′: a PoW claim of difficulty d (2 ≤ d < 2^64) is honoured iff the 64-bit little-endian value of the
    hash prefix is at least 2^64 − 2^64/d. The hash is a parameter (SHA3 is not modelled). -/
theorem pow_honoured_iff (h8 : Bytes) (d : Nat) (hl : h8.length = 8) (hw : h8.WF)
    (h1 : 2 ≤ d) (h2 : d < two64) :
    checkPoWNonce h8 d = decide (leVal h8 ≥ two64 - two64 / d) := by
  unfold checkPoWNonce targetBytes
  rw [pow_compare h8 _ (by simp [hl, leBytes_length]) hw (leBytes_wf _ _)]
  rw [leVal_leBytes, Nat.mod_eq_of_lt (by have := pow_target_lt d; simpa [two64] using this), pow_target d h1 h2]

/-- T2″: in a session of checks the answer to a query is `checkPoWNonce` of that query alone —
    it does not depend on the queries asked before it (nor on those after it): the same (hash, nonce) asked first with
    difficulty 1 and then with a high difficulty is judged at the high difficulty as if it had never been seen. -/
theorem check_seq_history_free (pre post : List (Bytes × Nat)) (h8 : Bytes) (d : Nat) :
    (checkSeq (pre ++ (h8, d) :: post))[pre.length]? = some (checkPoWNonce h8 d) := by
  unfold checkSeq
  simp

theorem check_seq_length (qs : List (Bytes × Nat)) : (checkSeq qs).length = qs.length := by
  unfold checkSeq
  simp

/-- … and therefore every answer of a session is the statement's comparison, for every d a block can carry. -/
theorem check_seq_honoured_iff (pre post : List (Bytes × Nat)) (h8 : Bytes) (d : Nat)
    (hl : h8.length = 8) (hw : h8.WF) (h1 : 2 ≤ d) (h2 : d < two64) :
    (checkSeq (pre ++ (h8, d) :: post))[pre.length]? = some (decide (leVal h8 ≥ two64 - two64 / d)) := by
  rw [check_seq_history_free, pow_honoured_iff h8 d hl hw h1 h2]

/-- the same query asked twice in a session gets the same answer twice -/
theorem check_seq_repeat (a b c : List (Bytes × Nat)) (h8 : Bytes) (d : Nat) :
    (checkSeq (a ++ (h8, d) :: b ++ (h8, d) :: c))[a.length]? =
    (checkSeq (a ++ (h8, d) :: b ++ (h8, d) :: c))[(a ++ (h8, d) :: b).length]? := by
  have h1 := check_seq_history_free a (b ++ (h8, d) :: c) h8 d
  have h2 := check_seq_history_free (a ++ (h8, d) :: b) c h8 d
  simp only [List.append_assoc, List.cons_append] at h1 h2 ⊢
  rw [h1, h2]

/-- T3 (difficulty → plasma): DifficultyToPlasma = min(⌊d/perPlasma⌋, cap), with the regenerated constants; monotonicity,
    the cap and "never granted for less work than it costs" follow below. -/
theorem difficulty_plasma_spec (d : Nat) :
    difficultyToPlasma d = min (d / Gen.PoWDifficultyPerPlasma) Gen.MaxPoWPlasmaForAccountBlock := by
  unfold difficultyToPlasma
  split
  · subst_vars; decide
  · split <;> simp only [Gen.MaxDifficultyForAccountBlock, Gen.MaxPoWPlasmaForAccountBlock,
      Gen.PoWDifficultyPerPlasma] at * <;> omega

theorem difficulty_plasma_mono (d e : Nat) (h : d ≤ e) : difficultyToPlasma d ≤ difficultyToPlasma e := by
  rw [difficulty_plasma_spec, difficulty_plasma_spec]
  have : d / Gen.PoWDifficultyPerPlasma ≤ e / Gen.PoWDifficultyPerPlasma := Nat.div_le_div_right h
  omega

theorem difficulty_plasma_le_cap (d : Nat) : difficultyToPlasma d ≤ Gen.MaxPoWPlasmaForAccountBlock := by
  rw [difficulty_plasma_spec]; omega

/-- plasma is never granted for less work than it costs: p plasma needs d ≥ p·perPlasma -/
theorem difficulty_plasma_paid (d : Nat) :
    difficultyToPlasma d * Gen.PoWDifficultyPerPlasma ≤ d := by
  rw [difficulty_plasma_spec]
  exact Nat.le_trans (Nat.mul_le_mul_right _ (Nat.min_le_left _ _)) (Nat.div_mul_le_self d _)

/-- FussedAmountToPlasma = min(⌊a/cost⌋·perUnit, cap), with the regenerated constants -/
private theorem fused_plasma_spec (a : Int) :
    fusedAmountToPlasma a =
      min (a.toNat / Gen.CostPerFusionUnit * Gen.PlasmaPerFusionUnit) Gen.MaxFusionPlasmaForAccount := by
  unfold fusedAmountToPlasma
  split
  · rename_i h0
    rw [Int.toNat_of_nonpos h0, Nat.zero_div, Nat.zero_mul, Nat.zero_min]
  · split <;> simp only [Gen.MaxFussedAmountForAccountBig, Gen.MaxFusionPlasmaForAccount,
      Gen.CostPerFusionUnit, Gen.PlasmaPerFusionUnit, two64] at * <;> omega

/-- fused amount → plasma: capped, monotone, never exceeds PlasmaPerFusionUnit per CostPerFusionUnit of QSR. -/
theorem fused_plasma_le_cap (a : Int) : fusedAmountToPlasma a ≤ Gen.MaxFusionPlasmaForAccount := by
  rw [fused_plasma_spec]; exact Nat.min_le_right _ _

theorem fused_plasma_backed (a : Int) (h : 0 ≤ a) :
    (fusedAmountToPlasma a : Int) * Gen.CostPerFusionUnit ≤ a * Gen.PlasmaPerFusionUnit := by
  rw [fused_plasma_spec]
  simp only [Gen.CostPerFusionUnit, Gen.PlasmaPerFusionUnit]
  omega

theorem fused_plasma_mono (a b : Int) (h : a ≤ b) : fusedAmountToPlasma a ≤ fusedAmountToPlasma b := by
  rw [fused_plasma_spec, fused_plasma_spec]
  have : a.toNat / Gen.CostPerFusionUnit * Gen.PlasmaPerFusionUnit ≤
      b.toNat / Gen.CostPerFusionUnit * Gen.PlasmaPerFusionUnit :=
    Nat.mul_le_mul_right _ (Nat.div_le_div_right (Int.toNat_le_toNat h))
  omega

/-- what `availablePlasma` returns is within the fused plasma plus the confirmed minus the chain's counter, and capped -/
private theorem availablePlasma_some (q : Int) (c u a : Nat) (h : availablePlasma q c u = some a) :
    (a : Int) ≤ (fusedAmountToPlasma q : Int) + c - u ∧ a ≤ Gen.MaxFussedAmountForAccount := by
  revert h
  fun_cases availablePlasma q c u
  · nofun
  all_goals
    intro h
    cases h
    simp only [Gen.MaxFussedAmountForAccount, Gen.MaxFussedAmountForAccountBig] at *
    omega

/-- T4: a user block that passes `enoughPlasma` has its fused part within what the fused QSR
    provides after subtracting the plasma already committed to the account's unconfirmed blocks, its total is exactly
    fused + PoW plasma (no uint64 wrap), at least the base cost and at most the per-block cap. -/
theorem enough_plasma_sound (fusedQsr : Int) (committed uncommitted fused difficulty base total : Nat)
    (h : enoughPlasma fusedQsr committed uncommitted fused difficulty base = .ok total) :
    (fused : Int) + uncommitted ≤ (fusedAmountToPlasma fusedQsr : Int) + committed ∧
    total = difficultyToPlasma difficulty + fused ∧ base ≤ total ∧ total ≤ Gen.MaxPlasmaForAccountBlock := by
  revert h
  fun_cases enoughPlasma fusedQsr committed uncommitted fused difficulty base
  case case5 avail ha h1 t h2 h3 =>
    obtain ⟨hav, hav2⟩ := availablePlasma_some _ _ _ _ ha
    have hcap := difficulty_plasma_le_cap difficulty
    -- no wrap: fused ≤ avail ≤ 5·10^11 and the PoW plasma is at most 94500
    have hlt : t = difficultyToPlasma difficulty + fused := Nat.mod_eq_of_lt (by
      simp only [Gen.MaxFussedAmountForAccount, Gen.MaxPoWPlasmaForAccountBlock, two64] at *; omega)
    intro h
    have := PlasmaVerdict.ok.inj h
    omega
  all_goals nofun

/-- T5: along a chain of unconfirmed blocks of one account, each accepted by
    `enoughPlasma` against the same acknowledged ledger state, the fused plasma they spend in total never exceeds what
    the fused QSR provides (each accepted block adds its fused part to the account's chain plasma).
    No induction is needed: acceptance of the LAST block already bounds its fused plasma plus everything before it (the
    hypothesis for the other splits is not used); the disjunct `blocks = []` is there because with no block the bound
    `uncommitted ≤ fused + committed` is not given. -/
theorem no_double_spend_of_plasma (fusedQsr : Int) (committed : Nat) :
    ∀ (blocks : List (Nat × Nat × Nat)) (uncommitted : Nat),   -- (fused, difficulty, base) per block
      (∀ pre b post, blocks = pre ++ b :: post →
        ∃ t, enoughPlasma fusedQsr committed (uncommitted + (pre.map (·.1)).sum) b.1 b.2.1 b.2.2 = .ok t) →
      (blocks.map (·.1)).sum + uncommitted ≤ fusedAmountToPlasma fusedQsr + committed ∨ blocks = [] := by
  intro blocks uncommitted hall
  rcases List.eq_nil_or_concat blocks with h | ⟨pre, b, h⟩
  · exact Or.inr h
  · left
    rw [List.concat_eq_append] at h
    obtain ⟨t, ht⟩ := hall pre b [] h
    have := (enough_plasma_sound fusedQsr committed _ b.1 b.2.1 b.2.2 t ht).1
    subst h
    simp only [List.map_append, List.map_cons, List.map_nil, List.sum_append, List.sum_cons, List.sum_nil]
    generalize (List.map (fun x : Nat × Nat × Nat => x.1) pre).sum = S at this ⊢
    omega

/-- T6: the base cost is 21000 for receives, 21000 + 68 per data byte for plain sends, the method's table
    cost for embedded calls (regenerated constants) -/
theorem base_cost (isReceive : Bool) (mc : Option Nat) (n : Nat) :
    basePlasma isReceive mc n =
      if isReceive then 21000 else match mc with | some c => c | none => 21000 + 68 * n := by
  unfold basePlasma
  simp only [Gen.AccountBlockBasePlasma, Gen.ABByteDataPlasma]
  cases isReceive <;> cases mc <;> simp <;> omega

/-- T6b (the function the driver evaluates for the `plasma-base` lines): whenever the node assigns a
    base cost it is the cost of T6 - 21000 for a receive, the method's cost for an embedded call, 21000 + 68 per data byte
    for every other send, whatever its destination (the destination is not an argument) -, and a plain send is priced iff
    its data fits the limit: there is no shape of send block that is priced like a receive -/
theorem base_cost_checked (isReceive : Bool) (mc : Option Nat) (n : Nat) :
    (∀ v, basePlasmaChecked isReceive mc n = some v →
      v = if isReceive then 21000 else match mc with | some c => c | none => 21000 + 68 * n) ∧
    (basePlasmaChecked isReceive mc n = none ↔ (isReceive = false ∧ mc = none ∧ n > 16384)) := by
  unfold basePlasmaChecked
  constructor
  · intro v h
    rw [← base_cost]
    cases isReceive <;> cases mc <;> simp at h ⊢
    · exact h.2.symm
    · exact h.symm
    · exact h.symm
    · exact h.symm
  · cases isReceive <;> cases mc <;> simp [Gen.MaxDataLength]

/-- a send that carries data costs strictly more than a receive, wherever it goes -/
theorem data_is_paid_for (n : Nat) (v : Nat) (hn : 0 < n) (h : basePlasmaChecked false none n = some v) :
    v ≥ 21000 + 68 ∧ v > basePlasma true none n := by
  have := (base_cost_checked false none n).1 v h
  simp at this
  have hb := base_cost true none n
  simp at hb
  omega

example : enoughPlasma 1000000000 0 0 21000 0 21000 = .ok 21000 := by decide
example : enoughPlasma 1000000000 0 21000 21000 0 21000 = .notEnoughPlasma := by decide

/-! ## base cost of every embedded method (reviewed table of `Model/Pow.lean` vs the regenerated method tables) -/

/-- the plasma table has the statement's values: a simple call costs 2.5, a call answered by one descendant send 3.5, by
    two 4.5 base costs of an account block -/
theorem plasma_table_statement :
    2 * Gen.PT_EmbeddedSimple = 5 * Gen.AccountBlockBasePlasma ∧
    2 * Gen.PT_EmbeddedWWithdraw = 7 * Gen.AccountBlockBasePlasma ∧
    2 * Gen.PT_EmbeddedWDoubleWithdraw = 9 * Gen.AccountBlockBasePlasma ∧
    Gen.PT_TxPlasma = Gen.AccountBlockBasePlasma ∧ Gen.PT_TxDataPlasma = Gen.ABByteDataPlasma := by decide

/-- TOTAL COVERAGE: the reviewed table names exactly the (contract, method) pairs that the real `GetEmbeddedMethod` resolves
    under at least one of the 8 spork regimes (regenerated on every run): a method that is added to a contract later - or
    renamed, or removed - fails this theorem until the table in `Model/Pow.lean` has been reviewed -/
theorem method_costs_every_method_reviewed : reviewedClasses.map (·.1) = Gen.methodNames := rfl

/-- the names are distinct (`Spork.methodNames_nodup`), so the kind of an entry of the reviewed table is found under its name -/
private theorem reviewedClass_of_mem (e : String × PlasmaClass) (he : e ∈ reviewedClasses) :
    reviewedClass e.1 = some e.2 := by
  rw [reviewedClass, Spork.find?_of_mem_nodup Prod.fst _ reviewedClasses
    (method_costs_every_method_reviewed ▸ Spork.methodNames_nodup) e he fun _ => beq_iff_eq]
  rfl

/-- under every spork regime the real `GetPlasma` of every resolved method (regenerated rows) is the cost of the method's
    REVIEWED kind: a withdraw method priced as a simple call (or any other slip of a method's price) fails here -/
theorem method_costs_as_reviewed : Gen.methodTable.all (rowAsReviewed Gen.methodNames) = true := by
  -- one pass over the rows, each priced by the kind at its position in the reviewed table
  have hrows : ∀ row ∈ Gen.methodTable, ∃ e, reviewedClasses[row.2.1]? = some e ∧
      classCost (row.1 != 0) e.2 = row.2.2 := by decide +kernel
  refine List.all_eq_true.2 fun row hrow => ?_
  obtain ⟨e, he, hc⟩ := hrows row hrow
  rw [rowAsReviewed, ← method_costs_every_method_reviewed, List.getElem?_map, he]
  simp only [Option.map_some, reviewedCost, reviewedClass_of_mem e (List.mem_of_getElem? he), hc, beq_self_eq_true]

/-- a method that answers with descendant sends is never cheaper than a simple call + one base cost per answer -/
theorem class_cost_by_answers (acc : Bool) :
    classCost acc .withdraw = classCost acc .simple + Gen.AccountBlockBasePlasma ∧
    classCost acc .doubleWithdraw = classCost acc .simple + 2 * Gen.AccountBlockBasePlasma ∧
    classCost acc .simple ≤ classCost acc .reward ∧ classCost acc .withdraw ≤ classCost acc .twoSimple := by
  cases acc <;> decide

/-- a call is paid iff its total plasma reaches the reviewed cost (what the driver answers on `plasma-call` lines) -/
theorem method_call_paid_iff (regime : Nat) (name : String) (total c : Nat) (h : reviewedCost regime name = some c) :
    methodCallPaid regime name total = some (decide (c ≤ total)) := by
  simp [methodCallPaid, h]

/-- the methods that pay something back or out (the family the seeded price changes of /verif/seeded touch) — the ten
    names below: cancel / revoke / withdraw / reclaim / unlock, and the two token methods that send tokens — are withdraw
    methods under every regime -/
theorem withdraw_methods (regime : Nat) :
    ∀ n ∈ ["plasma.CancelFuse", "stake.Cancel", "pillar.Revoke", "pillar.WithdrawQsr", "sentinel.WithdrawQsr",
           "htlc.Reclaim", "htlc.Unlock", "liquidity.CancelLiquidityStake", "token.Mint", "token.IssueToken"],
      reviewedCost regime n = some Gen.PT_EmbeddedWWithdraw := by
  intro n hn
  -- the kind is read off the reviewed table; a withdraw method costs the same under every regime
  have hw : reviewedClass n = some .withdraw := by
    revert n
    decide +kernel
  rw [reviewedCost, hw]
  rfl

end ZV.C12
