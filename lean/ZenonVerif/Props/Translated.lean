import ZenonVerif.Gen.Translated
import ZenonVerif.Lemmas.GoSem
import ZenonVerif.Model.Rpc
import ZenonVerif.Model.Pool
import ZenonVerif.Model.Pow
import ZenonVerif.Model.Proto
import ZenonVerif.Model.Consensus
import ZenonVerif.Model.Rewards
import ZenonVerif.Model.RewardEpoch
import ZenonVerif.Model.EpochCursor
import ZenonVerif.Model.Sync
import ZenonVerif.Model.Verify
import ZenonVerif.Props.C18
import ZenonVerif.Props.C14
import ZenonVerif.Props.C12
/-
L12 — the TRANSLATED definitions (Gen/Translated.lean, regenerated from the Go text of /repo on every run by
harness/cmd/zvh/f_translate.go) refine the hand-written models. Every `…_translation_refines_model` theorem is re-checked
against what the code says NOW: an edit of the Go function that changes its input/output behaviour breaks the theorem, a
behaviour-preserving rewrite inside the subset does not have to. A function that leaves the translated subset turns into
`<name>_UNTRANSLATABLE` and the theorem about `<name>` no longer elaborates.
The `…_translated_…` corollaries restate key property clauses directly on the code's own text.
Where a proof ends in `(repeat' split) <;> simp_all <;> omega`, the cases of the Go if-chain are the cases of the model's,
and inside each case the two sides are the same arithmetic once the dictionary of Lemmas/GoSem.lean has been applied.
-/
namespace ZV.Translated
open ZV ZV.Gen ZV.Go

/-- nothing was refused by the translator -/
theorem all_translated : Translated.untranslatableNames = [] := rfl

/-! ### C18 — `api.GetRange` -/

theorem GetRange_translation_refines_model (i c n : BitVec 32) :
    ((Translated.GetRange i c n).1.toNat, (Translated.GetRange i c n).2.toNat)
      = Rpc.getRange i.toNat c.toNat n.toNat := by
  have hm := mul32_lt i.toNat c.toNat i.isLt c.isLt
  have hc := c.isLt
  have hn := n.isLt
  have hP : (BitVec.setWidth 64 i * BitVec.setWidth 64 c).toNat = i.toNat * c.toNat := by
    rw [BitVec.toNat_mul, toNat_zext32, toNat_zext32]; exact Nat.mod_eq_of_lt (by omega)
  have hE : (BitVec.setWidth 64 i * BitVec.setWidth 64 c + BitVec.setWidth 64 c).toNat = i.toNat * c.toNat + c.toNat := by
    rw [BitVec.toNat_add, hP, toNat_zext32]; exact Nat.mod_eq_of_lt (by omega)
  simp only [Translated.GetRange, Rpc.getRange, ge_iff_le, BitVec.le_def, decide_eq_true_eq, hP, hE, toNat_zext32]
  generalize i.toNat * c.toNat = p at *
  -- where `start` (and `end`) are cut to 32 bits they are below `listLen`
  split
  · rfl
  · split <;> simp only [BitVec.toNat_setWidth, hP, hE, Prod.mk.injEq, and_true] <;> omega

/-! ### C14 — `chain.higherPriority` -/

/-- embedding of the model's outcome type into the translated `error` -/
def prioErr : Pool.Prio → Option String
  | .ok => none | .ratioWorse => some "ErrPlasmaRatioIsWorse" | .hashTieBreak => some "ErrHashTieBreak"

theorem higherPriority_translation_refines_model (a b : Pool.Blk)
    (ha : a.total < two64) (hab : a.base < two64) (hb : b.total < two64) (hbb : b.base < two64) :
    Translated.higherPriority (BitVec.ofNat 64 a.base) a.hash (BitVec.ofNat 64 a.total)
        (BitVec.ofNat 64 b.base) b.hash (BitVec.ofNat 64 b.total)
      = prioErr (Pool.higherPriority a b) := by
  unfold Translated.higherPriority Pool.higherPriority
  simp only [two64] at *
  simp only [bytesCompare_gt_m1, BitVec.lt_def, BitVec.toNat_mul, BitVec.toNat_ofNat, beq_iff_eq, ← BitVec.toNat_inj,
    decide_eq_true_eq, Bool.and_eq_true, Nat.reducePow, Nat.mod_eq_of_lt ha, Nat.mod_eq_of_lt hab, Nat.mod_eq_of_lt hb,
    Nat.mod_eq_of_lt hbb]
  -- both sides now test the same three things: ratio smaller, ratios equal, hash smaller
  by_cases h1 : a.total * b.base % 18446744073709551616 < b.total * a.base % 18446744073709551616 <;>
  by_cases h2 : a.total * b.base % 18446744073709551616 = b.total * a.base % 18446744073709551616 <;>
  cases hlt : bytesLt a.hash b.hash <;> simp [h1, h2, prioErr] <;> omega

example : ∃ a b : Pool.Blk, a.total < two64 ∧ a.base < two64 ∧ b.total < two64 ∧ b.base < two64 :=
  ⟨⟨1, [1], [0], 5, 7, 0⟩, ⟨1, [2], [0], 5, 7, 0⟩, by decide⟩

/-! ### C12 — plasma arithmetic -/

theorem DifficultyToPlasma_translation_refines_model (d : BitVec 64) :
    (Translated.DifficultyToPlasma d).toNat = Pow.difficultyToPlasma d.toNat := by
  unfold Translated.DifficultyToPlasma Pow.difficultyToPlasma
  simp only [Gen.MaxDifficultyForAccountBlock, Gen.MaxPoWPlasmaForAccountBlock, Gen.PoWDifficultyPerPlasma,
    beq_iff_eq, decide_eq_true_eq, gt_iff_lt, BitVec.lt_def, BitVec.toNat_eq, BitVec.toNat_ofNat]
  (repeat' split) <;> simp_all [BitVec.toNat_udiv] <;> omega

theorem GetDifficultyForPlasma_translation_refines_model (p : BitVec 64) :
    Translated.GetDifficultyForPlasma p = (match Pow.difficultyForPlasma p.toNat with
      | none => (0#64, some "ErrForbiddenParam")
      | some v => (BitVec.ofNat 64 v, none)) := by
  unfold Translated.GetDifficultyForPlasma Pow.difficultyForPlasma
  simp only [Gen.MaxPoWPlasmaForAccountBlock, Gen.PoWDifficultyPerPlasma, two64,
    beq_iff_eq, decide_eq_true_eq, gt_iff_lt, BitVec.lt_def, BitVec.toNat_eq, BitVec.toNat_ofNat]
  (repeat' split) <;> simp_all <;> (try omega)
  all_goals (apply BitVec.eq_of_toNat_eq; simp [BitVec.toNat_mul]; omega)

theorem FussedAmountToPlasma_translation_refines_model (a : Int) :
    Translated.FussedAmountToPlasma (some a) = .ok (BitVec.ofNat 64 (Pow.fusedAmountToPlasma a)) := by
  have key : Translated.FussedAmountToPlasma (some a) = if a ≤ 0 then .ok 0#64
      else if 500000000000 ≤ a then .ok 10500000#64 else .ok (bigUint64 a / 100000000#64 * 2100#64) := by
    unfold Translated.FussedAmountToPlasma
    simp only [Option.isNone_some, Option.getD_some, Bool.not_false, Bool.and_false, Bool.false_or, Bool.false_eq_true,
      if_false, bigSign_le0, bigCmp_ge0, decide_eq_true_eq, Translated.vm_constants_MaxFussedAmountForAccountBig_init]
  have hM : ((Gen.MaxFussedAmountForAccountBig : Nat) : Int) = 500000000000 := by decide
  rw [key]; unfold Pow.fusedAmountToPlasma
  by_cases h1 : a ≤ 0
  · rw [if_pos h1, if_pos h1]
  · rw [if_neg h1, if_neg h1]
    by_cases h2 : (500000000000 : Int) ≤ a
    · rw [if_pos h2, if_pos (by omega)]; simp [Gen.MaxFusionPlasmaForAccount]
    · rw [if_neg h2, if_neg (by omega)]
      refine congrArg Res.ok (BitVec.eq_of_toNat_eq ?_)
      have hn : a.natAbs = a.toNat := by omega
      simp only [bigUint64, hn, BitVec.toNat_mul, BitVec.toNat_udiv, BitVec.toNat_ofNat, Nat.reducePow, Nat.reduceMod,
        Gen.CostPerFusionUnit, Gen.PlasmaPerFusionUnit, two64]

theorem FussedAmountToPlasma_nil : Translated.FussedAmountToPlasma none = .ok 0#64 := by decide

/-! ### C15 — the hash handlers of the protocol manager -/

theorem getHashes_cap_translation_refines_model (amount : BitVec 64) :
    Translated.getHashes_cap amount = .ok (BitVec.ofNat 64 (Proto.capHash amount.toNat)) := by
  unfold Translated.getHashes_cap Proto.capHash
  simp only [Translated.protocol_downloader_MaxHashFetch_init, Gen.MaxHashFetch, gt_iff_lt, BitVec.lt_def,
    decide_eq_true_eq, BitVec.toNat_ofNat]
  (repeat' split) <;> simp_all <;> omega

/-- the same clamp, in the `GetBlockHashesFromNumberMsg` case of the handler -/
theorem fromNumber_cap_translation_refines_model (amount : BitVec 64) :
    Translated.fromNumber_cap amount = .ok (BitVec.ofNat 64 (Proto.capHash amount.toNat)) :=
  getHashes_cap_translation_refines_model amount

theorem fromNumber_lastNumber_translation_refines_model (number amount : BitVec 64) :
    (Translated.fromNumber_lastNumber number amount).toNat
      = Proto.sub64 (Proto.u64 (number.toNat + amount.toNat)) 1 := by
  rw [Translated.fromNumber_lastNumber, toNat_sub_sub64, toNat_add_u64]; rfl

theorem fromNumber_available_translation_refines_model (lastHeight number amount : BitVec 64) :
    Translated.fromNumber_available lastHeight number amount
      = .ok (BitVec.ofNat 64 (let available := Proto.u64 (Proto.sub64 lastHeight.toNat number.toNat + 1)
                               if available < amount.toNat then available else amount.toNat)) := by
  have e : (lastHeight - number + 1#64).toNat = Proto.u64 (Proto.sub64 lastHeight.toNat number.toNat + 1) := by
    rw [toNat_add_u64, toNat_sub_sub64]; rfl
  simp only [Translated.fromNumber_available, BitVec.lt_def, decide_eq_true_eq, ← e]
  split <;> rw [BitVec.ofNat_toNat, BitVec.setWidth_eq]

theorem fromNumber_beyond_translation_refines_model (lastHeight number : BitVec 64) :
    Translated.fromNumber_beyond lastHeight number
      = if lastHeight.toNat < number.toNat then .exit 0 else .ok () := by
  unfold Translated.fromNumber_beyond
  simp only [BitVec.lt_def, decide_eq_true_eq]

/-! ### C12 — the PoW target -/

theorem getTargetByDifficulty_translation_refines_model (d : BitVec 64) :
    Translated.getTargetByDifficulty d = .ok (Pow.targetBytes d.toNat) := by
  unfold Translated.getTargetByDifficulty Pow.targetBytes
  by_cases h0 : d = 0#64
  · subst h0; simp [zero8_eq, Pow.target]
  · have hne : d.toNat ≠ 0 := fun h => h0 (BitVec.eq_of_toNat_eq h)
    have hz : (Go.bigOfU64 d == 0) = false := by simp [bigOfU64]; omega
    simp only [beq_iff_eq, h0, if_false, hz, Bool.false_eq_true, le8_eq]
    rw [show Translated.common_Big2_init = 2 from rfl, show Translated.common_Big64_init = 64 from rfl, bigOfU64,
      threshold_eq _ hne]
    simp only [BitVec.toNat_ofNat, Pow.target, hne, if_false, two64, Nat.reducePow, Nat.mod_mod]

theorem GetThresholdByDifficulty_translation_refines_model (d : Nat) (hd : 0 < d) :
    Translated.GetThresholdByDifficulty (some (d : Int)) = .ok (BitVec.ofNat 64 (Pow.target d)) := by
  have hz : (((d : Int)) == 0) = false := by simp; omega
  simp only [Translated.GetThresholdByDifficulty, Option.isNone_some, Option.getD_some, Bool.not_false, if_true,
    Bool.false_or, hz, Bool.false_eq_true, if_false, threshold_eq d (by omega)]

theorem GetThresholdByDifficulty_panics : Translated.GetThresholdByDifficulty none = .panic ∧
    Translated.GetThresholdByDifficulty (some 0) = .panic := by decide

/-! ### C05, C11 — ticker, stake and sentinel weights -/

/-- `ticker.ToTick`, integer part: the two float→integer conversions are inputs -/
theorem ToTick_translation_refines_model (subSec iv : BitVec 64) :
    Translated.ToTick subSec iv = (if iv.toNat = 0 then .panic else .ok (BitVec.ofNat 64 (subSec.toNat / iv.toNat))) := by
  unfold Translated.ToTick
  by_cases h : iv = 0#64
  · subst h; simp
  · have : iv.toNat ≠ 0 := fun hh => h (BitVec.eq_of_toNat_eq (by simpa using hh))
    simp only [beq_iff_eq, h, if_false, this]
    refine congrArg Res.ok (BitVec.eq_of_toNat_eq ?_)
    have := Nat.div_le_self subSec.toNat iv.toNat
    have hs := subSec.isLt
    have hlt : subSec.toNat / iv.toNat < 2 ^ 64 := by omega
    simp only [BitVec.toNat_udiv, BitVec.toNat_ofNat, Nat.mod_eq_of_lt hlt]

theorem MinInt64_translation_refines_model (x y : BitVec 64) :
    (Translated.MinInt64 x y).toInt = min x.toInt y.toInt := by
  unfold Translated.MinInt64; simp only [decide_eq_true_eq]; split <;> omega

theorem MaxInt64_translation_refines_model (x y : BitVec 64) :
    (Translated.MaxInt64 x y).toInt = max x.toInt y.toInt := by
  unfold Translated.MaxInt64; simp only [decide_eq_true_eq]; split <;> omega

theorem getWeightedStake_translation_refines_model (revoke start : BitVec 64) (w : Int) (s e : BitVec 64) :
    Translated.getWeightedStake revoke start w s e
      = Rewards.weightedStake start.toInt revoke.toInt w s.toInt e.toInt := by
  unfold Translated.getWeightedStake Rewards.weightedStake
  simp only [bne_zero_iff, decide_eq_true_eq, bigOfI64, toInt_sub_wrap, MinInt64_translation_refines_model,
    MaxInt64_translation_refines_model, ge_iff_le]
  (repeat' split) <;> simp_all <;> omega

theorem getWeightedSentinel_translation_refines_model (reg revoke s e : BitVec 64) :
    Translated.getWeightedSentinel reg revoke s e
      = Rewards.weightedSentinel reg.toInt revoke.toInt s.toInt e.toInt := by
  unfold Translated.getWeightedSentinel Rewards.weightedSentinel
  simp only [bne_zero_iff, decide_eq_true_eq, toInt_sub_wrap, toInt_mul_wrap, show (90#64).toInt = 90 from rfl,
    show (100#64).toInt = 100 from rfl, MinInt64_translation_refines_model,
    MaxInt64_translation_refines_model, ge_iff_le, Translated.common_Big0_init, Translated.common_Big1_init]
  (repeat' split) <;> simp_all <;> omega

/-! ### clauses of the properties on the code's own text -/

/-- C18 on the code's own text: the slice `GetRange` answers lies inside the list, whatever the 32-bit inputs -/
theorem getRange_translated_bounds (i c n : BitVec 32) :
    (Translated.GetRange i c n).1.toNat ≤ (Translated.GetRange i c n).2.toNat ∧
    (Translated.GetRange i c n).2.toNat ≤ n.toNat := by
  have hb := C18.get_range_bounds i.toNat c.toNat n.toNat
  rw [← GetRange_translation_refines_model] at hb
  exact ⟨hb.1, hb.2.1⟩

/-- C14 on the code's own text: two blocks cannot each have the higher priority -/
theorem higherPriority_translated_antisymm (a b : Pool.Blk)
    (ha : a.total < two64) (hab : a.base < two64) (hb : b.total < two64) (hbb : b.base < two64)
    (h : Translated.higherPriority (BitVec.ofNat 64 a.base) a.hash (BitVec.ofNat 64 a.total)
        (BitVec.ofNat 64 b.base) b.hash (BitVec.ofNat 64 b.total) = none) :
    Translated.higherPriority (BitVec.ofNat 64 b.base) b.hash (BitVec.ofNat 64 b.total)
        (BitVec.ofNat 64 a.base) a.hash (BitVec.ofNat 64 a.total) ≠ none := by
  rw [higherPriority_translation_refines_model a b ha hab hb hbb] at h
  rw [higherPriority_translation_refines_model b a hb hbb ha hab]
  have h1 : Pool.higherPriority a b = .ok := by
    cases hh : Pool.higherPriority a b <;> simp [hh, prioErr] at h ⊢
  have h2 := C14.priority_antisymm a b h1
  cases hh : Pool.higherPriority b a <;> simp_all [prioErr]

/-- C15 on the code's own text: the amount the hash handlers pass on never exceeds MaxHashFetch -/
theorem caps_translated_le (amount : BitVec 64) :
    ∃ v, Translated.getHashes_cap amount = .ok v ∧ Translated.fromNumber_cap amount = .ok v ∧ v.toNat ≤ Gen.MaxHashFetch := by
  refine ⟨_, getHashes_cap_translation_refines_model amount, fromNumber_cap_translation_refines_model amount, ?_⟩
  have := amount.isLt
  unfold Proto.capHash; simp only [BitVec.toNat_ofNat]
  by_cases h : amount.toNat > Gen.MaxHashFetch
  · rw [if_pos h]; simp [Gen.MaxHashFetch]
  · rw [if_neg h]; simp only [Gen.MaxHashFetch] at h ⊢; omega

/-- C15: the `available` clamp only ever reduces the (already capped) amount -/
theorem fromNumber_available_translated_le (lastHeight number amount : BitVec 64) :
    ∃ v, Translated.fromNumber_available lastHeight number amount = .ok v ∧ v.toNat ≤ amount.toNat := by
  refine ⟨_, fromNumber_available_translation_refines_model lastHeight number amount, ?_⟩
  simp only [BitVec.toNat_ofNat]; split <;> omega

/-- C12 on the code's own text: PoW plasma never exceeds the per-block maximum -/
theorem DifficultyToPlasma_translated_le (d : BitVec 64) :
    (Translated.DifficultyToPlasma d).toNat ≤ Gen.MaxPoWPlasmaForAccountBlock := by
  rw [DifficultyToPlasma_translation_refines_model]
  exact C12.difficulty_plasma_le_cap _

/-! ### C18 — the page request of the ledger API -/

/-- embedding of the model's answer (`none` = the empty page is answered directly = first `return` of the fragment) -/
def pageEmb : Option (Nat × Nat) → Res (BitVec 64 × BitVec 64)
  | none => .exit 0
  | some (s, n) => .ok (BitVec.ofNat 64 s, BitVec.ofNat 64 n)

theorem accountBlocksPage_translation_refines_model (H : BitVec 64) (i c : BitVec 32)
    (hH : H.toNat < two63) (hc : c.toNat ≤ Gen.RpcMaxPageSize) :
    Translated.accountBlocksPage H i c = pageEmb (Rpc.pageRequest H.toNat i.toNat c.toNat) := by
  -- every machine value is the image under `BitVec.ofInt 64` of the model's integer, and each integer that is
  -- compared lies in the int64 range (`start` itself need not: it is 2^63 for H = 2^63 - 1 and an empty product)
  have hi : (i + 1#32).toNat = (i.toNat + 1) % two32 := by simp [BitVec.toNat_add, two32]
  have hq : (i.toNat + 1) % two32 ≤ 4294967296 := Nat.le_of_lt (Nat.mod_lt _ (by decide))
  have hp : (((i.toNat + 1) % two32 : Nat) : Int) * (c.toNat : Int) ≤ 4294967296 * 1024 := by
    rw [← Int.natCast_mul]; exact Int.ofNat_le.2 (Nat.mul_le_mul hq hc)
  have hp0 : 0 ≤ (((i.toNat + 1) % two32 : Nat) : Int) * (c.toNat : Int) :=
    Int.mul_nonneg (Int.natCast_nonneg _) (Int.natCast_nonneg _)
  have eH : H = BitVec.ofInt 64 (H.toNat : Int) := by rw [BitVec.ofInt_natCast, BitVec.ofNat_toNat, BitVec.setWidth_eq]
  have hh : (H.toNat : Int) < 2 ^ 63 := Int.ofNat_lt.2 hH
  have hk : (c.toNat : Int) < 2 ^ 32 := Int.ofNat_lt.2 c.isLt
  simp only [Translated.accountBlocksPage, Rpc.pageRequest, zext_eq_ofInt, hi, ← BitVec.ofInt_mul]
  generalize (((i.toNat + 1) % two32 : Nat) : Int) * (c.toNat : Int) = p at *
  generalize hk0 : (c.toNat : Int) = k at *
  generalize hh0 : (H.toNat : Int) = h at *
  subst eH
  have e1 : 1#64 = BitVec.ofInt 64 1 := rfl
  have hT : (BitVec.ofInt 64 (1 - (h - p + 1))).toInt = 1 - (h - p + 1) := toInt_ofInt_of_range (by omega) (by omega)
  have hC : (BitVec.ofInt 64 k).toInt = k := toInt_ofInt_of_range (by omega) (by omega)
  simp only [e1, ← ofInt_sub, ← BitVec.ofInt_add, hT, hC, decide_eq_true_eq, show (0#64).toInt = 0 from rfl,
    toInt_ofInt_of_range (x := 1) (by decide) (by decide)]
  by_cases hpos : 1 - (h - p + 1) > 0
  · have hK : (BitVec.ofInt 64 (k - (1 - (h - p + 1)))).toInt = k - (1 - (h - p + 1)) :=
      toInt_ofInt_of_range (by omega) (by omega)
    simp only [hpos, if_true, hK]
    split
    · rfl
    · rw [pageEmb, ofNat_toNat_of_nonneg (by omega), ofNat_toNat_of_nonneg (by omega)]
  · simp only [hpos, if_false]
    split
    · rfl
    · rw [pageEmb, ofNat_toNat_of_nonneg (by omega), ofNat_toNat_of_nonneg (by omega)]

example : ∃ (H : BitVec 64) (c : BitVec 32), H.toNat < two63 ∧ c.toNat ≤ Gen.RpcMaxPageSize ∧
    Translated.accountBlocksPage H 2#32 c = .ok (71#64, 10#64) := ⟨100#64, 10#32, by decide⟩

/-- the page-size guard that precedes the fragment (`pageSize > RpcMaxPageSize` → error) is needed for the equality with
    the unbounded-integer model: for huge sizes the int64 product wraps and the code hands on a positive range where the
    model answers the empty page -/
theorem accountBlocksPage_needs_page_size_guard :
    Translated.accountBlocksPage 0#64 4294967294#32 4294967295#32
      ≠ pageEmb (Rpc.pageRequest 0 4294967294 4294967295) := by decide

theorem momentumsPage_eq_accountBlocksPage : Translated.momentumsPage = Translated.accountBlocksPage := rfl

theorem momentumsPage_translation_refines_model (H : BitVec 64) (i c : BitVec 32)
    (hH : H.toNat < two63) (hc : c.toNat ≤ Gen.RpcMaxPageSize) :
    Translated.momentumsPage H i c = pageEmb (Rpc.pageRequest H.toNat i.toNat c.toNat) := by
  rw [momentumsPage_eq_accountBlocksPage]; exact accountBlocksPage_translation_refines_model H i c hH hc

/-! ### C11, C05 — stake amount, ticker times, reward history -/

/-- `getWeightedStakeAmount` = the hand model `RewardEpoch.stakeWeightedAmount` at the live `StakeTimeUnitSec`
    (int64 quotient and sum with wrap-around, big.Int product, `Div` by 10) -/
theorem getWeightedStakeAmount_translation_refines_model (amount : Nat) (t : BitVec 64) :
    Translated.getWeightedStakeAmount (amount : Int) t
      = (match RewardEpoch.stakeWeightedAmount Gen.StakeTimeUnitSec amount t.toInt with
         | none => .panic | some v => .ok v) := by
  unfold Translated.getWeightedStakeAmount RewardEpoch.stakeWeightedAmount Rewards.div64
  have hU : (Translated.vm_constants_StakeTimeUnitSec_init).toInt = Gen.StakeTimeUnitSec := by decide
  have h9 : (9#64).toInt = 9 := by decide
  simp only [bigOfI64, bigDiv, toInt_add_wrap, toInt_sdiv_wrap, hU, h9]
  simp [Translated.vm_constants_StakeTimeUnitSec_init, Gen.StakeTimeUnitSec]
  rfl

/-- the two `interval * time.Duration(tick)` products of `ticker.ToTime` added to the start instant = `Ticker.toTime` -/
theorem ToTime_offsets_translation_refines_model (iv tick : BitVec 64) (start : Int) (h1 : tick.toNat + 1 < two64) :
    (start + (Translated.ToTime_startOffset iv tick).toInt, start + (Translated.ToTime_endOffset iv tick).toInt)
      = Consensus.Ticker.toTime ⟨start, iv.toInt⟩ tick.toNat := by
  unfold Translated.ToTime_startOffset Translated.ToTime_endOffset Consensus.Ticker.toTime
  have e : (tick + 1#64).toNat = tick.toNat + 1 := by simp only [two64] at h1; bv_omega
  simp only [toInt_mul_wrap, consensus_wrap64_eq, toInt64_toNat, Rewards.mul64, ← e]

theorem rewardHistoryFirstEpoch_translation_refines_model (last : BitVec 64) (i c : BitVec 32) :
    (Translated.rewardHistoryFirstEpoch last i c).toInt = Rewards.rewardHistoryFirstEpoch last.toInt i.toNat c.toNat := by
  unfold Translated.rewardHistoryFirstEpoch Rewards.rewardHistoryFirstEpoch
  simp only [toInt_sub_wrap, toInt_mul_wrap, toInt_zext32]

/-- `TickMultiplier`, after the four instants are read = `Consensus.tickMultiplier` on the two wrapped differences:
    the multiplier is reported only when the bigger duration is a whole multiple of the smaller one; a zero callee
    duration panics (integer divide by zero) -/
theorem TickMultiplier_tail_translation_refines_model (cE cS bE bS : BitVec 64) :
    Translated.TickMultiplier_tail cE cS bE bS =
      (match Consensus.tickMultiplier (Consensus.wrap64 (cE.toInt - cS.toInt)) (Consensus.wrap64 (bE.toInt - bS.toInt)) with
       | none => .panic
       | some none => .ok (0#64, some "errorf")
       | some (some m) => .ok (BitVec.ofInt 64 m, none)) := by
  unfold Translated.TickMultiplier_tail Consensus.tickMultiplier
  simp only [consensus_wrap64_eq, ← toInt_sub_wrap]
  generalize cE - cS = c
  generalize bE - bS = b
  simp only [beq_zero_iff, bne_zero_iff, BitVec.toInt_srem, decide_eq_true_eq, ← toInt_sdiv_wrap]
  by_cases g1 : c.toInt > b.toInt
  · simp only [g1, if_true]
  by_cases g2 : c.toInt = 0
  · simp only [g2, show ¬ (0 > b.toInt) from g2 ▸ g1, if_true, if_false]
  by_cases g3 : Int.tmod b.toInt c.toInt = 0
  · simp only [g1, g2, g3, ne_eq, not_true_eq_false, if_false, BitVec.ofInt_toInt]
  · simp only [g1, g2, g3, ne_eq, not_false_eq_true, if_true, if_false]
/-! ### loops and tables -/

/-- C12: `pow.greaterDifficulty` (loop from byte 7 down to byte 0) on two 8-byte slices = the hand model -/
theorem greaterDifficulty_translation_refines_model (x y : List Nat) (hx : x.length = 8) (hy : y.length = 8) :
    Translated.greaterDifficulty x y = .ok (Pow.greaterDifficulty x y) := by
  have hidx : Go.downS 7#64 18446744073709551615#64 = (List.range 8).reverse.map (BitVec.ofNat 64) := by decide
  rw [Translated.greaterDifficulty, hidx, forIn_geMSB x y _ 8 (by omega) (by omega), Pow.greaterDifficulty,
    List.take_of_length_le (by omega), List.take_of_length_le (by omega)]
  intro k hk
  have hkN : (BitVec.ofNat 64 k).toNat = k := Nat.mod_eq_of_lt (by omega)
  have ho : ∀ l : List Nat, l.length = 8 → oobS l (BitVec.ofNat 64 k) = false := by
    intro l hl
    simp only [oobS, toInt_of_lt (v := BitVec.ofNat 64 k) (by omega), hkN, hl, Bool.or_eq_false_iff,
      decide_eq_false_iff_not]
    omega
  simp only [ho x hx, ho y hy, Bool.or_self, Bool.false_eq_true, if_false, atB, hkN, decide_eq_true_eq, ite_self]

example : Translated.greaterDifficulty [0,0,0,0,0,0,0,1] [255,255,255,255,255,255,255,0] = .ok true := by decide

/-- …and it panics (index out of range) when a slice is shorter than 8 bytes -/
theorem greaterDifficulty_short_panics (x y : List Nat) (h : x.length < 8 ∨ y.length < 8) :
    Translated.greaterDifficulty x y = .panic := by
  have hidx : Go.downS 7#64 18446744073709551615#64 = 7#64 :: Go.downS 6#64 18446744073709551615#64 := by decide
  have hb : (Go.oobS x 7#64 || Go.oobS y 7#64) = true := by
    simp only [Go.oobS, show (7#64).toNat = 7 from rfl, Bool.or_eq_true, decide_eq_true_eq]; omega
  simp only [Translated.greaterDifficulty, hidx, Go.forIn, hb, if_true, Go.loopThen]

/-- embedding of the reward model's answer (`none` = run-time panic) -/
def rewardEmb : Option Int → Res (BitVec 64)
  | none => .panic
  | some v => .ok (BitVec.ofInt 64 v)

/-- both reward functions are one table lookup: `tbl[min(epoch / 30, len - 1)]`, on a table of int64 words that is the
    image of the model's table of integers. The left side is the generated body of Gen/Translated.lean with the table
    abstracted: it has to match the generator's layout of `if` / `let` up to unfolding, and breaks when that changes -/
private theorem rewardPerEpoch_refines (tbl : List Int) (h0 : 0 < tbl.length) (hlen : tbl.length < 2 ^ 63) (e : BitVec 64) :
    (let T := tbl.map (BitVec.ofInt 64)
     if ((30#64 == 0#64)) then Go.Res.panic else
     let tick : BitVec 64 := (e / 30#64);
     if (decide (BitVec.toInt tick ≥ BitVec.toInt (Go.len T))) then (
       if (((Go.oobS T ((Go.len T) - 1#64)))) then Go.Res.panic else
       Go.Res.ok (Go.atW T ((Go.len T) - 1#64))
     ) else (
       if (((Go.oobS T tick))) then Go.Res.panic else
       Go.Res.ok (Go.atW T tick)
     )) = rewardEmb (Rewards.networkRewardPerEpoch tbl e.toNat) := by
  have he := e.isLt
  -- an index `k` below the table length is in bounds and reads the image of the model's entry
  have hread : ∀ (i : BitVec 64) (k : Nat), i.toNat = k → k < tbl.length →
      (if oobS (tbl.map (BitVec.ofInt 64)) i then Res.panic else Res.ok (atW (tbl.map (BitVec.ofInt 64)) i))
        = rewardEmb tbl[k]? := by
    intro i k hi hk
    have : oobS (tbl.map (BitVec.ofInt 64)) i = false := by
      simp only [oobS, toInt_of_lt (v := i) (by omega), hi, List.length_map, Bool.or_eq_false_iff, decide_eq_false_iff_not]
      omega
    simp only [this, Bool.false_eq_true, if_false, atW, hi, List.getD_eq_getElem?_getD, List.getElem?_map,
      List.getElem?_eq_getElem hk, Option.map_some, Option.getD_some, rewardEmb]
  have hq : (e / 30#64).toNat = e.toNat / 30 := BitVec.toNat_udiv
  have hqi : (e / 30#64).toInt = ((e.toNat / 30 : Nat) : Int) := by rw [toInt_of_lt (by omega), hq]
  have hlen' : (tbl.map (BitVec.ofInt 64)).length < 2 ^ 63 := by rw [List.length_map]; exact hlen
  have hL : (len (tbl.map (BitVec.ofInt 64))).toNat = tbl.length := by rw [toNat_len _ hlen', List.length_map]
  have hLi : (len (tbl.map (BitVec.ofInt 64))).toInt = (tbl.length : Int) := by rw [toInt_len _ hlen', List.length_map]
  have hL1 : (len (tbl.map (BitVec.ofInt 64)) - 1#64).toNat = tbl.length - 1 := by
    rw [toNat_sub_sub64, hL, Proto.sub64, if_pos (show (1#64).toNat ≤ tbl.length from h0)]; rfl
  simp only [Rewards.networkRewardPerEpoch, Gen.RewardTickDurationInEpochs, show (30#64 == 0#64) = false from rfl,
    Bool.false_eq_true, if_false, two64, two63, Nat.mod_eq_of_lt he, hqi, hLi, decide_eq_true_eq,
    show ¬ (e.toNat / 30 ≥ 9223372036854775808) by omega, show (30 = 0) = False by decide]
  split
  · rw [hread _ _ hL1 (by omega), List.getLast?_eq_getElem?]
  · rw [hread _ _ hq (by omega), if_neg (by omega), Int.toNat_natCast]
theorem NetworkZnnRewardPerEpoch_translation_refines_model (e : BitVec 64) :
    Translated.NetworkZnnRewardPerEpoch e = rewardEmb (Rewards.networkZnnRewardPerEpoch e.toNat) := by
  have hT : Translated.vm_constants_NetworkZnnRewardConfig_init = Gen.NetworkZnnRewardConfig.map (BitVec.ofInt 64) := by
    decide
  rw [Translated.NetworkZnnRewardPerEpoch, hT, show Translated.vm_constants_RewardTickDurationInEpochs_init = 30#64 from rfl]
  exact rewardPerEpoch_refines _ (by decide) (by decide) e

theorem NetworkQsrRewardPerEpoch_translation_refines_model (e : BitVec 64) :
    Translated.NetworkQsrRewardPerEpoch e = rewardEmb (Rewards.networkQsrRewardPerEpoch e.toNat) := by
  have hT : Translated.vm_constants_NetworkQsrRewardConfig_init = Gen.NetworkQsrRewardConfig.map (BitVec.ofInt 64) := by
    decide
  rw [Translated.NetworkQsrRewardPerEpoch, hT, show Translated.vm_constants_RewardTickDurationInEpochs_init = 30#64 from rfl]
  exact rewardPerEpoch_refines _ (by decide) (by decide) e

/-! ### C11 — the epoch cursor -/

theorem epochUpdate_nextEpoch_translation_refines_model (last : BitVec 64) :
    (Translated.epochUpdate_nextEpoch last).toInt = Rewards.wrap64 (last.toInt + 1) ∧
    Translated.epochUpdate_advance last = .ok (Translated.epochUpdate_nextEpoch last) := by
  exact ⟨by rw [Translated.epochUpdate_nextEpoch, toInt_add_wrap]; rfl, rfl⟩

/-- the test of `CanPerformEpochUpdate` is `EpochCursor.tooRecent` when `epochEnd` is the end of epoch `cursor + 1` and the
    int64 sum `end + RewardTimeLimit` does not overflow -/
theorem epochUpdate_tooRecent_translation_refines_model (c : EpochCursor.Cfg) (cursor : Int) (ts e : BitVec 64)
    (hr : c.rtl = Gen.RewardTimeLimit) (he : e.toInt = EpochCursor.epochEnd c (cursor + 1))
    (hno : e.toInt + Gen.RewardTimeLimit < (two63 : Int)) :
    Translated.epochUpdate_tooRecent ts e = if EpochCursor.tooRecent c cursor ts.toInt then .exit 0 else .ok () := by
  unfold Translated.epochUpdate_tooRecent EpochCursor.tooRecent
  have hR : (Translated.vm_constants_RewardTimeLimit_init).toInt = Gen.RewardTimeLimit := by decide
  have hlo : -(9223372036854775808 : Int) ≤ e.toInt := by have := e.isLt; rw [toInt_eq]; split <;> omega
  rw [toInt_add_wrap, hR, hr, ← he]
  rw [wrap64_of_range (by simp only [Gen.RewardTimeLimit]; omega) (by simp only [two63] at hno; omega)]

example : ∃ (c : EpochCursor.Cfg) (cursor : Int) (e : BitVec 64), c.rtl = Gen.RewardTimeLimit ∧
    e.toInt = EpochCursor.epochEnd c (cursor + 1) ∧ e.toInt + Gen.RewardTimeLimit < (two63 : Int) :=
  ⟨{ genesis := 0, epochSec := 86400, rtl := 3600, updMin := 0, maxBlocks := 0, epochSec_pos := by decide }, 0, 172800#64,
    by decide⟩

/-! ### C12 — base cost of a plain send, the three inequalities of `enoughPlasma` -/

theorem basePlasma_plainSend_translation_refines_model (d : BitVec 64) (hd : d.toNat < two63) :
    Translated.basePlasma_plainSend d = (match Pow.basePlasmaChecked false none d.toNat with
      | none => (0#64, some "ErrABDataTooBig")
      | some v => (BitVec.ofNat 64 v, none)) := by
  unfold Translated.basePlasma_plainSend Pow.basePlasmaChecked Pow.basePlasma
  simp only [toInt_of_lt (show d.toNat < 2 ^ 63 from hd), show (16384#64).toInt = 16384 from rfl, Gen.MaxDataLength,
    Gen.ABByteDataPlasma, Gen.AccountBlockBasePlasma, decide_eq_true_eq, Bool.false_eq_true, if_false]
  by_cases h : (d.toNat : Int) > 16384
  · simp only [h, show d.toNat > 16384 by omega, if_true]
  · simp only [h, show ¬ d.toNat > 16384 by omega, if_false]
    rw [BitVec.ofNat_add, BitVec.ofNat_mul, BitVec.ofNat_toNat, BitVec.setWidth_eq]

/-- the three fragments of `vm.enoughPlasma`, run one after the other, are `Pow.enoughPlasma` once `AvailablePlasma` answered
    (`junk`: the incoming value of the fragment's output variable `total`, overwritten at once) -/
theorem enoughPlasma_translation_refines_model (q : Int) (cm uc : Nat) (avail fused diff base : BitVec 64) (junk : BitVec 64)
    (ha : Pow.availablePlasma q cm uc = some avail.toNat) :
    (match Translated.enoughPlasma_fused avail fused with
     | .ok () => (match Translated.enoughPlasma_total diff fused junk with
        | .ok total => (match Translated.enoughPlasma_base total base with
            | .ok () => Pow.PlasmaVerdict.ok total.toNat
            | _ => .notEnoughTotal)
        | _ => .limitReached)
     | _ => .notEnoughPlasma) = Pow.enoughPlasma q cm uc fused.toNat diff.toNat base.toNat := by
  obtain ⟨T, hTd⟩ : ∃ T, T = Translated.DifficultyToPlasma diff + fused := ⟨_, rfl⟩
  have hT : T.toNat = (Pow.difficultyToPlasma diff.toNat + fused.toNat) % two64 := by
    rw [hTd, BitVec.toNat_add, DifficultyToPlasma_translation_refines_model]; rfl
  have htot : Translated.enoughPlasma_total diff fused junk = if 10500000 < T.toNat then .exit 0 else .ok T := by
    unfold Translated.enoughPlasma_total
    simp only [← hTd, BitVec.lt_def, gt_iff_lt, decide_eq_true_eq]; rfl
  rw [htot]
  unfold Pow.enoughPlasma Translated.enoughPlasma_fused Translated.enoughPlasma_base
  rw [ha]
  simp only [BitVec.lt_def, gt_iff_lt, decide_eq_true_eq, ← hT, Gen.MaxPlasmaForAccountBlock]
  by_cases h1 : avail.toNat < fused.toNat
  · simp [h1]
  · by_cases h2 : 10500000 < T.toNat
    · simp [h1, h2]
    · by_cases h3 : T.toNat < base.toNat
      · simp [h1, h2, h3]
      · simp [h1, h2, h3]

example : ∃ (q : Int) (cm uc : Nat) (avail : BitVec 64), Pow.availablePlasma q cm uc = some avail.toNat :=
  ⟨0, 5, 0, 5#64, by decide⟩

/-! ### C05 / C03 — comparisons of the verifiers -/

theorem momentum_timestamp_translation_refines_model (ts prevTs tsU : BitVec 64) :
    Translated.momentum_timestampMissing ts = (if ts.toInt = 0 then .exit 0 else .ok ()) ∧
    Translated.momentum_timestampNotIncreasing prevTs tsU = (if prevTs.toNat ≥ tsU.toNat then .exit 0 else .ok ()) := by
  unfold Translated.momentum_timestampMissing Translated.momentum_timestampNotIncreasing
  simp only [beq_zero_iff, BitVec.le_def, ge_iff_le, decide_eq_true_eq, and_self]

/-- C05: `electionAlgorithm.findSeed` = `int64(height)` -/
theorem findSeed_translation_refines_model (h : BitVec 64) :
    (Translated.findSeed h).toInt = Consensus.findSeed h.toNat := by
  unfold Translated.findSeed Consensus.findSeed; rw [toInt64_toNat]

theorem accountBlock_heightChecks_translation_refines_model (b : Verify.Blk) (hh : b.h < two64) :
    Translated.accountBlock_heightChecks (BitVec.ofNat 64 b.h) b.phz
      = (match Verify.firstErr (Verify.heightChecks b) with
         | .error .abMHeightMissing => .exit 0
         | .error .abPrevHashMustBeZero => .exit 1
         | .error .abPrevHashMissing => .exit 2
         | _ => .ok ()) := by
  have e : ∀ m, m < 2 → (BitVec.ofNat 64 b.h == BitVec.ofNat 64 m) = (b.h == m) := by
    intro m hm
    rw [Bool.eq_iff_iff, beq_iff_eq, beq_iff_eq, ← BitVec.toNat_inj, BitVec.toNat_ofNat, BitVec.toNat_ofNat,
      Nat.mod_eq_of_lt (show b.h < 2 ^ 64 from hh), Nat.mod_eq_of_lt (show m < 2 ^ 64 by omega)]
  simp only [Translated.accountBlock_heightChecks, Verify.heightChecks, bne, e 0 (by decide), e 1 (by decide)]
  cases (b.h == 0) <;> cases (b.h == 1) <;> cases b.phz <;> rfl

theorem insertChain_window_translation_refines_model (fr tg tl : BitVec 64) :
    Translated.insertChain_window fr tg tl =
      (if Proto.sub64 fr.toNat tg.toNat > Gen.InsertChainWindow then .exit 0
       else if tl.toNat ≤ fr.toNat then .exit 1 else .ok ()) ∧
    (∀ h : BitVec 64, (Translated.insertChain_targetHeight h).toNat = Sync.pred64 h.toNat) := by
  constructor
  · simp only [Translated.insertChain_window, BitVec.lt_def, BitVec.le_def, gt_iff_lt, decide_eq_true_eq, toNat_sub_sub64]
    rfl
  · intro h
    rw [Translated.insertChain_targetHeight, toNat_sub_sub64]
    simp only [Proto.sub64, Sync.pred64, two64, show (1#64).toNat = 1 from rfl]
    split <;> split <;> omega

/-- the two amount bounds of `accountBlockVerifier.amounts` (`Sign() == -1`, `BitLen() > 255`) for a non-nil amount whose
    bit length fits an `int` (it always does in a running process) -/
theorem accountBlock_amountBounds_translation_refines_model (a : Int) (hfit : Nat.log2 a.natAbs + 1 < two63) :
    Translated.accountBlock_amountBounds a
      = if a < 0 then .exit 0 else if Verify.amountTooBig a then .exit 1 else .ok () := by
  unfold Translated.accountBlock_amountBounds Verify.amountTooBig
  have hs : (Go.bigSign a == 18446744073709551615#64) = decide (a < 0) := by
    unfold Go.bigSign Go.bigCmp
    by_cases h1 : a < 0
    · simp [h1]
    · by_cases h2 : a = 0
      · simp [h2]
      · simp [h1, h2]
  have h255 : (255#64).toInt = 255 := by decide
  have hb : (Go.bigBitLen a).toInt > 255 ↔ a.natAbs ≥ 2 ^ 255 := by
    unfold Go.bigBitLen
    simp only [two63] at hfit
    by_cases h0 : a = 0
    · subst h0; simp
    · have hn : a.natAbs ≠ 0 := by omega
      have hl := Nat.log2_lt (n := a.natAbs) (k := 255) hn
      simp only [h0, if_false]
      rw [toInt_eq]
      simp only [BitVec.toNat_ofNat]
      have : (Nat.log2 a.natAbs + 1) % 2 ^ 64 = Nat.log2 a.natAbs + 1 := by omega
      rw [this]
      split <;> omega
  simp [hs, h255, hb, Gen.AmountMaxBitLen]

example : ∃ a : Int, Nat.log2 a.natAbs + 1 < two63 ∧ Translated.accountBlock_amountBounds a = .exit 1 :=
  ⟨2 ^ 255, by decide, by decide⟩

/-- shape of a page-size guard with bound `m`: `if pageSize > m { return … }` -/
def guardSpec (m : BitVec 32) : BitVec 32 → Res Unit := fun c => if decide (c > m) then .exit 0 else .ok ()

/-- C18: EVERY paged getter of rpc/api and rpc/api/embedded (27 functions with a `pageSize uint32` parameter) contains a
    guard `if pageSize > m { return … }` with `m ≤ RpcMaxPageSize` (`m = RpcMaxPageSize`, or the stricter
    `unreceivedMaxPageSize = 50` of `GetUnreceivedBlocksByAddress`): whatever passes it is at most `RpcMaxPageSize` -/
theorem pageGuards_translation_refines_model :
    Translated.unguardedPagedGetters = [] ∧
    ∀ g ∈ Translated.pageGuards, ∃ m : BitVec 32, m.toNat ≤ Gen.RpcMaxPageSize ∧
      ∀ c : BitVec 32, g.2 c = if c.toNat > m.toNat then .exit 0 else .ok () := by
  refine ⟨by decide, ?_⟩
  have key : ∀ m c : BitVec 32, guardSpec m c = if c.toNat > m.toNat then .exit 0 else .ok () := by
    intro m c; unfold guardSpec
    simp only [BitVec.lt_def, gt_iff_lt, decide_eq_true_eq]
  have all : ∀ g ∈ Translated.pageGuards, g.2 = guardSpec 1024#32 ∨ g.2 = guardSpec 50#32 := by
    simp only [Translated.pageGuards, List.forall_mem_cons]
    repeat (refine ⟨by first | exact Or.inl rfl | exact Or.inr rfl, ?_⟩)
    intro g hg; cases hg
  intro g hg
  rcases all g hg with h | h
  · exact ⟨1024#32, by decide, fun c => by rw [h]; exact key _ c⟩
  · exact ⟨50#32, by decide, fun c => by rw [h]; exact key _ c⟩

example : Translated.pageGuards.length = 27 := by decide

/-- C14: `accountPool.filterBlocksToCommit` on the list of block types (the slice of block pointers projected to the one
    field the function reads) is the hand model's loop `Pool.filterGo` -/
theorem filterBlocksToCommit_translation_refines_model (blocks : List (BitVec 64)) (hl : blocks.length < two63) :
    Translated.filterBlocksToCommit blocks
      = .ok (Pool.filterGo (fun b : BitVec 64 => Pool.isContractSend b.toNat) Gen.MaxAccountBlocksInMomentum blocks [] []) := by
  have hl' : blocks.length < 2 ^ 63 := hl
  have hlen := toInt_len blocks hl'
  have hM : Translated.chain_MaxAccountBlocksInMomentum_init.toInt = (Gen.MaxAccountBlocksInMomentum : Int) := by decide
  unfold Translated.filterBlocksToCommit
  have g1 : decide ((Go.len blocks).toInt < 0) = false := by rw [hlen]; simp
  have g2 : decide (Translated.chain_MaxAccountBlocksInMomentum_init.toInt < 0) = false := by decide
  simp only [g1, g2, Bool.false_eq_true, if_false]
  rw [upS_len_eq blocks hl']
  have key : ∀ body : BitVec 64 → LL → Step LL (List (BitVec 64)),
      (∀ (k : Nat) (b : BitVec 64) (batch tc : List (BitVec 64)), blocks[k]? = some b → batch.length + tc.length ≤ k →
        body (0#64 + BitVec.ofNat 64 k) (batch, tc) =
          if (fun b : BitVec 64 => Pool.isContractSend b.toNat) b then .next (batch ++ [b], tc)
          else if tc.length + (batch ++ [b]).length > Gen.MaxAccountBlocksInMomentum then .brk (batch ++ [b], tc)
          else .next ([], tc ++ (batch ++ [b]))) →
      loopThen (Go.forIn (idxFrom 0 blocks.length) ([], []) body) (fun s__ => Res.ok s__.snd)
        = .ok (Pool.filterGo (fun b : BitVec 64 => Pool.isContractSend b.toNat) Gen.MaxAccountBlocksInMomentum blocks [] []) := by
    intro body hb
    obtain ⟨b', h | h⟩ := filterLoop_spec _ _ blocks body hb blocks [] [] [] (by simp) (by simp) <;>
      (simp only [List.length_nil] at h; rw [h]; rfl)
  apply key
  intro k b batch tc hk hinv
  obtain ⟨hkl, -⟩ := List.getElem?_eq_some_iff.1 hk
  have hi : (0#64 + BitVec.ofNat 64 k).toNat = k := by
    rw [BitVec.zero_add]; exact Nat.mod_eq_of_lt (by omega)
  have hii : (0#64 + BitVec.ofNat 64 k).toInt = (k : Int) := by rw [toInt_of_lt (by omega), hi]
  have hoob : oobS blocks (0#64 + BitVec.ofNat 64 k) = false := by
    simp only [oobS, hi, hii, Bool.or_eq_false_iff, decide_eq_false_iff_not]; omega
  have hat : atW blocks (0#64 + BitVec.ofNat 64 k) = b := by
    simp only [atW, hi, List.getD, hk, Option.getD_some]
  have hsum : (Go.len tc + Go.len (batch ++ [b])).toInt = ((tc.length + (batch ++ [b]).length : Nat) : Int) := by
    have hle : tc.length + (batch ++ [b]).length < 2 ^ 63 := by simp; omega
    have hn : (Go.len tc + Go.len (batch ++ [b])).toNat = tc.length + (batch ++ [b]).length := by
      rw [BitVec.toNat_add, toNat_len _ (by omega), toNat_len _ (by omega)]; exact Nat.mod_eq_of_lt (by omega)
    rw [toInt_of_lt (by omega), hn]
  have hcs : (b != 4#64) = !(Pool.isContractSend b.toNat) := by
    unfold Pool.isContractSend
    simp only [Gen.BlockTypeContractSend, bne, Bool.not_eq_eq_eq_not, Bool.not_not]
    rw [Bool.eq_iff_iff]; simp only [beq_iff_eq, ← BitVec.toNat_inj]; rfl
  have hgt : ∀ n : Nat, ((n : Int) > (Gen.MaxAccountBlocksInMomentum : Int)) ↔ n > Gen.MaxAccountBlocksInMomentum := by
    intro n; omega
  simp only [hoob, hat, hsum, hM, hcs, hgt, Bool.false_eq_true, if_false, decide_eq_true_eq]
  all_goals (by_cases h1 : Pool.isContractSend b.toNat = true <;> simp [h1])

example : Translated.filterBlocksToCommit [2#64, 4#64, 4#64, 3#64, 4#64] = .ok [2#64, 4#64, 4#64, 3#64] := by decide

end ZV.Translated
