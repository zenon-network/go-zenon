import ZenonVerif.Model.EpochCursor
/-
C11 — assertions about the regenerated facts Gen/RewardsNode.lean (AST of vm/embedded/implementation, live constants):
the epoch-cursor model names every function that moves the cursor or touches a reward deposit, and its three loop
variants have the shape of the source. A new cursor mover, a new deposit writer or a re-shaped loop changes the generated
value and breaks the theorem here: the model (and T4/T5) must then be revisited.
-/
namespace ZV.C11NodeGen
open ZV

/-- `LastEpochUpdate.LastEpoch` is assigned in exactly one function: the cursor moves only by the `+= 1` of
    `checkAndPerformUpdateEpoch` (Model: `EpochCursor.checkAndPerformUpdateEpoch`). -/
theorem cursor_single_writer : Gen.CursorAssigners = ["checkAndPerformUpdateEpoch"] := rfl

/-- the cursor is read and advanced by exactly the five `update*Rewards` functions the model's variants stand for -/
theorem cursor_movers :
    Gen.CallersOf_checkAndPerformUpdateEpoch =
      ["updateLiquidityRewards", "updateLiquidityStakeRewards", "updatePillarRewards", "updateSentinelRewards", "updateStakeRewards"] ∧
    Gen.CallersOf_GetLastEpochUpdate = Gen.CallersOf_checkAndPerformUpdateEpoch := ⟨rfl, rfl⟩

/-- each of them issues the rewards of an epoch through its own `compute…` function, which nobody else calls: an epoch is
    rewarded only from inside a cursor loop -/
theorem reward_computations_only_in_cursor_loops :
    Gen.CallersOf_computeDetailedPillarReward = ["updatePillarRewards"] ∧
    Gen.CallersOf_computeStakeRewardsForEpoch = ["updateStakeRewards"] ∧
    Gen.CallersOf_computeSentinelRewardsForEpoch = ["updateSentinelRewards"] ∧
    Gen.CallersOf_computeLiquidityRewardsForEpoch = ["updateLiquidityRewards"] ∧
    Gen.CallersOf_computeLiquidityStakeRewardsForEpoch = ["updateLiquidityStakeRewards"] := ⟨rfl, rfl, rfl, rfl, rfl⟩

/-- rewards are credited only by those computations (Model: `credit`), and RewardDeposit entries are touched only by
    `addReward` and `CollectRewardMethod.ReceiveBlock` (Model: `credit`, `collect`) -/
theorem deposit_writers :
    Gen.CallersOf_addReward =
      ["computeDetailedPillarReward", "computeLiquidityStakeRewardsForEpoch", "computeSentinelRewardsForEpoch", "computeStakeRewardsForEpoch"] ∧
    Gen.CallersOf_GetRewardDeposit = ["CollectRewardMethod.ReceiveBlock", "addReward"] ∧
    Gen.CallersOf_GetRewardDepositHistory = ["addReward"] := ⟨rfl, rfl, rfl⟩

/-- shape of the five functions: three bare `for {}` loops leaving only on ErrEpochUpdateTooRecent (Model: `catchUp`), the
    single step of the post-spork liquidity method (`liqOne`), and the origin liquidity loop whose exit condition
    `err == ErrEpochUpdateTooRecent || len(result) >= MaxEpochsPerUpdate` belongs to the `if` whose init statement
    `err := checkAndPerformUpdateEpoch(context, lastEpoch)` has already advanced the cursor (`liqOrigin`, finding F14) -/
theorem loop_shapes :
    Gen.UpdateRewardsShapes =
      ["updateLiquidityRewards:loop:err == constants.ErrEpochUpdateTooRecent || len(result) >= constants.MaxEpochsPerUpdate",
       "updateLiquidityStakeRewards:once:err == constants.ErrEpochUpdateTooRecent",
       "updatePillarRewards:loop:err == constants.ErrEpochUpdateTooRecent",
       "updateSentinelRewards:loop:err == constants.ErrEpochUpdateTooRecent",
       "updateStakeRewards:loop:err == constants.ErrEpochUpdateTooRecent"] ∧
    Gen.LiqOriginIfInit = "err := checkAndPerformUpdateEpoch(context, lastEpoch)" ∧
    Gen.LiqOriginIfCond = "err == constants.ErrEpochUpdateTooRecent || len(result) >= constants.MaxEpochsPerUpdate" := ⟨rfl, rfl, rfl⟩

/-- the live epoch is a whole number of election ticks and spans at least two of them (with exactly one tick per epoch
    `consensus.points` starts at `lastCompletedEpoch = -2` and asks for epoch 2^64-1: the node panics on its first momentum),
    and an Update is possible more often than once per epoch -/
theorem live_epoch_configuration :
    Gen.EpochDurationSec % Gen.ElectionTickSec = 0 ∧ 2 ≤ Gen.EpochDurationSec / Gen.ElectionTickSec ∧
    (Gen.UpdateMinNumMomentums : Int) < Gen.MomentumsPerEpoch ∧ 0 ≤ Gen.RewardTimeLimit ∧
    (EpochCursor.Cfg.live 0).maxBlocks = Gen.MaxEpochsPerUpdate := by decide

end ZV.C11NodeGen
