import ZenonVerif.Lemmas.EpochCursor
/-
C11 — the part of the property that speaks about a running chain: "each contract rewards each epoch exactly once and
in increasing epoch order, and a credited reward can be collected exactly once, minting exactly the credited amount".
Property theorems only, over Model/EpochCursor.lean (the epoch cursor shared by the pillar / stake / sentinel /
liquidity contracts, the three catch-up loops, RewardDeposit / CollectReward).

`consecutive cur n` is the list of epochs cur+1, …, cur+n. F14 is finding F14 of the findings table at the end of
DESIGN.md (known_findings.json): the origin-table liquidity loop skips an epoch.
-/
namespace ZV.C11Node
open ZV ZV.EpochCursor

/-! ### T4 — one Update call -/

/-- T4 (pillar, stake, sentinel: `update…Rewards` loops): one call moves the cursor through consecutive
    epochs `cursor+1 … cursor+n`, rewards exactly those, each of them ended at least `RewardTimeLimit` before the frontier
    momentum, and it stops only at an epoch that is not yet due. -/
theorem epoch_cursor (c : Cfg) (ts cursor : Int) :
    ∃ n : Nat, catchUp c ts cursor = (cursor + n, consecutive cursor n) ∧
      (∀ e ∈ consecutive cursor n, epochEnd c e + c.rtl ≤ ts) ∧
      ts < epochEnd c (cursor + n + 1) + c.rtl :=
  catchUp_spec c ts cursor

/-- liveness of one call (loop variant): every epoch after the cursor that is due at the frontier momentum is rewarded
    by this very call, and nothing else is. -/
theorem epoch_cursor_rewards_exactly_the_due (c : Cfg) (ts cursor e : Int) :
    e ∈ (catchUp c ts cursor).2 ↔ cursor < e ∧ epochEnd c e + c.rtl ≤ ts := by
  obtain ⟨n, hn, hdue, hstop⟩ := catchUp_spec c ts cursor
  rw [hn]
  refine ⟨fun he => ⟨(mem_consecutive.mp he).1, hdue e he⟩,
    fun ⟨h1, h2⟩ => mem_consecutive.mpr ⟨h1, Int.not_lt.mp fun hlt => ?_⟩⟩
  have := epochEnd_mono c (show cursor + n + 1 ≤ e by omega)
  omega

/-- T4 for the post-spork liquidity method (`updateLiquidityStakeRewards`): nothing when the next epoch is not due,
    otherwise exactly that epoch. -/
theorem epoch_cursor_liq_one (c : Cfg) (ts cursor : Int) :
    (ts < epochEnd c (cursor + 1) + c.rtl ∧ liqOne c ts cursor = (cursor, [])) ∨
    (epochEnd c (cursor + 1) + c.rtl ≤ ts ∧ liqOne c ts cursor = (cursor + 1, [cursor + 1])) :=
  liqOne_spec c ts cursor

/-- T4 for the origin-table liquidity method (`updateLiquidityRewards`), as far as it holds: the rewarded epochs are
    consecutive from the cursor, all due, at most ⌈MaxEpochsPerUpdate/2⌉ of them, and the cursor ends on the last rewarded
    epoch — OR one past it (second alternative). What is missing for the full T4: "the cursor moves only over rewarded
    epochs"; it is false, see `liq_origin_skips_epoch`. -/
theorem epoch_cursor_liq_origin_partial (c : Cfg) (ts cursor : Int) :
    ∃ n : Nat, (liqOrigin c ts cursor 0).2 = consecutive cursor n ∧
      (∀ e ∈ consecutive cursor n, epochEnd c e + c.rtl ≤ ts) ∧
      2 * n ≤ c.maxBlocks + 1 ∧
      (((liqOrigin c ts cursor 0).1 = cursor + n ∧ ts < epochEnd c (cursor + n + 1) + c.rtl) ∨
       ((liqOrigin c ts cursor 0).1 = cursor + n + 1 ∧ epochEnd c (cursor + n + 1) + c.rtl ≤ ts ∧ c.maxBlocks ≤ 2 * n)) := by
  obtain ⟨n, h1, h2, h3, h4⟩ := liqOrigin_spec c ts cursor 0
  refine ⟨n, h1, h2, ?_, ?_⟩
  · rcases h3 with rfl | h3 <;> omega
  · rcases h4 with h | ⟨a, b, d⟩
    · exact Or.inl h
    · exact Or.inr ⟨a, b, by omega⟩

private theorem le_of_cap {M n k : Nat} (hn : n = 0 ∨ 2 * (n - 1) < M) (hk : M ≤ 2 * k) : n ≤ k := by omega

/-- NEGATIVE WITNESS (finding F14), for every configuration: when the origin-table liquidity contract is called with
    k+1 or more due epochs, k = ⌈MaxEpochsPerUpdate/2⌉ (10 with the generated constant), it rewards k epochs and moves
    the cursor over k+1: epoch cursor+k+1 is consumed without reward, and since the cursor never goes back it is never
    rewarded. -/
theorem liq_origin_skips_epoch (c : Cfg) (ts cursor : Int) (k : Nat) (hk : c.maxBlocks ≤ 2 * k) (hk' : k = 0 ∨ 2 * (k - 1) < c.maxBlocks)
    (hdue : epochEnd c (cursor + k + 1) + c.rtl ≤ ts) :
    liqOrigin c ts cursor 0 = (cursor + k + 1, consecutive cursor k) ∧ cursor + k + 1 ∉ consecutive cursor k := by
  -- `liqOrigin_spec` leaves two ways to stop; with epoch cursor+k+1 due only the cap can have stopped the loop, after
  -- exactly k epochs
  obtain ⟨n, h1, _, h3, h4⟩ := liqOrigin_spec c ts cursor 0
  rw [Nat.zero_add] at h3 h4
  have hnk : n ≤ k := le_of_cap h3 hk
  rcases h4 with ⟨_, hlt⟩ | ⟨hcur, _, hcap⟩
  · have := epochEnd_mono c (Int.add_le_add_right (Int.add_le_add_left (Int.ofNat_le.mpr hnk) cursor) 1)
    exact absurd (Int.lt_of_lt_of_le hlt (Int.add_le_add_right this _)) (Int.not_lt.mpr hdue)
  · obtain rfl : n = k := Nat.le_antisymm hnk (le_of_cap hk' hcap)
    refine ⟨Prod.ext hcur h1, fun h => ?_⟩
    have := (mem_consecutive.mp h).2
    omega

/-- the witness with the generated constants (epoch duration, RewardTimeLimit and MaxEpochsPerUpdate as in the tree): a
    contract that was never updated, called when 11 epochs are due — the cursor ends at epoch 10, epochs 0…9 are rewarded. -/
theorem liq_origin_skips_epoch_live :
    liqOrigin (Cfg.live 0) (Gen.EpochDurationSec * 11 + Gen.RewardTimeLimit) (-1) 0 = (10, consecutive (-1) 10) ∧
      (10 : Int) ∉ consecutive (-1) 10 := by
  have h := liq_origin_skips_epoch (Cfg.live 0) (Gen.EpochDurationSec * 11 + Gen.RewardTimeLimit) (-1) 10 (by decide) (by decide) (by decide)
  simpa using h

/-! ### T4′ — termination / cost of the loops -/

/-- T4′. Termination itself is not stated here: it is the `termination_by` of `catchUp` (Model/EpochCursor.lean, measure
    `overdue`, `overdue_decreases`), without which the kernel would not accept the definition. What is stated is the
    bound on the number of iterations by the elapsed time: n rewarded epochs need n whole epochs (+ RewardTimeLimit)
    between the end of the cursor's epoch and the frontier momentum. -/
theorem update_terminates (c : Cfg) (ts cursor : Int) :
    let n := (catchUp c ts cursor).2.length
    n = 0 ∨ epochEnd c cursor + n * c.epochSec + c.rtl ≤ ts := by
  intro n
  obtain ⟨m, hm, hdue, _⟩ := catchUp_spec c ts cursor
  have hn : n = m := by simp [n, hm, consecutive_length]
  rw [hn]
  rcases Nat.eq_zero_or_pos m with h0 | hpos
  · exact Or.inl h0
  · right
    have h := hdue _ (mem_consecutive.mpr ⟨by omega, Int.le_refl (cursor + m)⟩)
    rwa [epochEnd_add] at h

/-- the origin liquidity loop additionally stops after ⌈MaxEpochsPerUpdate/2⌉ rewarded epochs -/
theorem liq_origin_bounded (c : Cfg) (ts cursor : Int) : 2 * (liqOrigin c ts cursor 0).2.length ≤ c.maxBlocks + 1 := by
  obtain ⟨n, h1, _, h3, _⟩ := epoch_cursor_liq_origin_partial c ts cursor
  rw [h1, consecutive_length]
  exact h3

/-! ### T4 — the Update method and sequences of calls -/

/-- every variant: the rewarded epochs of one call are consecutive from the old cursor, each was due, and the new cursor is
    the last rewarded epoch — except for the origin liquidity variant, where it may be one further (F14). -/
theorem advance_spec (c : Cfg) (v : Variant) (ts cursor : Int) :
    ∃ n : Nat, (advance c v ts cursor).2 = consecutive cursor n ∧
      (∀ e ∈ consecutive cursor n, epochEnd c e + c.rtl ≤ ts) ∧
      cursor + n ≤ (advance c v ts cursor).1 ∧ (advance c v ts cursor).1 ≤ cursor + n + 1 ∧
      (v ≠ .liqOrigin → (advance c v ts cursor).1 = cursor + n) :=
  advance_consecutive c v ts cursor

/-- the Update method: refused exactly when the last successful Update is less than UpdateMinNumMomentums momentums
    ago (and then nothing changes — `step` keeps the state); otherwise the height is recorded, deposits are untouched, the
    cursor does not go back and every rewarded epoch had ended RewardTimeLimit before the frontier momentum. -/
theorem update_spec (c : Cfg) (v : Variant) (s : CState) (h : Nat) (ts : Int) :
    (update c v s h ts = none ↔ h < s.lastUpdate + c.updMin) ∧
    (∀ s' es, update c v s h ts = some (s', es) →
      s'.lastUpdate = h ∧ s'.dep = s.dep ∧ s.cursor ≤ s'.cursor ∧
      (∀ e ∈ es, s.cursor < e ∧ e ≤ s'.cursor ∧ epochEnd c e + c.rtl ≤ ts)) := by
  refine ⟨by unfold update; split <;> simp <;> omega, fun s' es hu => ?_⟩
  obtain ⟨rfl, rfl⟩ := update_eq_some hu
  obtain ⟨n, h1, h2, h3, _, _⟩ := advance_consecutive c v ts s.cursor
  refine ⟨rfl, rfl, by simp only; omega, fun e he => ?_⟩
  rw [h1] at he
  have := mem_consecutive.mp he
  exact ⟨this.1, by simp only; omega, h2 e he⟩

/-- T4, sequences: over ANY sequence of calls (Update at any heights and times, credits, collects, in any order) to a
    contract of any variant, the epochs rewarded are strictly increasing — so no epoch is rewarded twice and the order is
    the epoch order — all lie after the initial and at or before the final cursor, and the cursor never goes back. -/
theorem rewarded_once_in_order (c : Cfg) (v : Variant) (s : CState) (ops : List Op) :
    (rewardedOf (run c v s ops).2).Pairwise (· < ·) ∧
    (∀ e ∈ rewardedOf (run c v s ops).2, s.cursor < e ∧ e ≤ (run c v s ops).1.cursor) ∧
    s.cursor ≤ (run c v s ops).1.cursor := by
  induction ops generalizing s with
  | nil => exact ⟨List.Pairwise.nil, List.forall_mem_nil _, Int.le_refl _⟩
  | cons o os ih =>
    obtain ⟨n, h1, h2, _⟩ := step_rewarded c v s o
    obtain ⟨ih1, ih2, ih3⟩ := ih (step c v s o).1
    simp only [run_cons]
    rw [rewardedOf_cons, h1]
    refine ⟨List.pairwise_append.mpr ⟨consecutive_pairwise _ _, ih1, fun a ha b hb => ?_⟩, fun e he => ?_, by omega⟩
    · have := (mem_consecutive.mp ha).2
      have := (ih2 b hb).1
      omega
    · rcases List.mem_append.mp he with he | he
      · have := mem_consecutive.mp he
        omega
      · have := ih2 e he
        omega

/-- T4, exactly once: for the loop variant and the post-spork liquidity variant the epochs rewarded along any sequence
    of calls are EXACTLY the epochs between the initial and the final cursor, each once, in order: every epoch the cursor
    has passed has been rewarded. (False for the origin liquidity variant: `liq_origin_skips_epoch`.) -/
theorem rewarded_exactly_once (c : Cfg) (v : Variant) (hv : v ≠ .liqOrigin) (s : CState) (ops : List Op) :
    ∃ n : Nat, (run c v s ops).1.cursor = s.cursor + n ∧ rewardedOf (run c v s ops).2 = consecutive s.cursor n := by
  induction ops generalizing s with
  | nil => exact ⟨0, (Int.add_zero _).symm, rfl⟩
  | cons o os ih =>
    obtain ⟨n, h1, _, h3⟩ := step_rewarded c v s o
    obtain ⟨m, hm1, hm2⟩ := ih (step c v s o).1
    simp only [run_cons]
    refine ⟨n + m, by rw [hm1, h3 hv]; omega, ?_⟩
    rw [rewardedOf_cons, h1, hm2, h3 hv, consecutive_append]

/-- the cursor of a contract that started at −1 (no `lastEpochUpdate` key) never drops below −1, so the conversion
    `uint64(LastEpoch + 1)` in `CanPerformEpochUpdate` is the identity -/
theorem cursor_ge_neg_one (c : Cfg) (v : Variant) (ops : List Op) : -1 ≤ (run c v CState.init ops).1.cursor :=
  (rewarded_once_in_order c v CState.init ops).2.2

/-- liveness, loop variant: a successful Update at a frontier momentum with timestamp `ts` leaves no epoch unrewarded
    that was due at `ts` -/
theorem update_rewards_all_due (c : Cfg) (s s' : CState) (es : List Int) (h : Nat) (ts : Int)
    (hu : update c .loop s h ts = some (s', es)) (e : Int) (he : s.cursor < e) (hd : epochEnd c e + c.rtl ≤ ts) : e ∈ es := by
  obtain ⟨_, rfl⟩ := update_eq_some hu
  exact (epoch_cursor_rewards_exactly_the_due c ts s.cursor e).mpr ⟨he, hd⟩

/-- liveness, post-spork liquidity variant: each call whose next epoch is due advances by one, so k calls at a time when
    epoch cursor+k is due reach it: if Update keeps being called every elapsed epoch is eventually rewarded -/
theorem liq_one_eventually (c : Cfg) (ts : Int) (k : Nat) (cursor : Int) (hd : epochEnd c (cursor + k) + c.rtl ≤ ts) :
    Nat.repeat (fun cur => (liqOne c ts cur).1) k cursor = cursor + k := by
  induction k with
  | zero => simp [Nat.repeat]
  | succ k ih =>
    have hk : epochEnd c (cursor + k) + c.rtl ≤ ts := by
      have := epochEnd_mono c (show cursor + (k : Int) ≤ cursor + ((k + 1 : Nat) : Int) by omega)
      omega
    simp only [Nat.repeat, ih hk]
    rcases liqOne_spec c ts (cursor + k) with ⟨hlt, _⟩ | ⟨_, h⟩
    · have e : cursor + ((k + 1 : Nat) : Int) = cursor + k + 1 := by omega
      rw [e] at hd
      omega
    · rw [h]; simp only; omega

/-! ### T5 — collect once -/

/-- T5: a successful CollectReward requests mints to the caller only, each for a positive amount, that
    add up to exactly the caller's deposit per coin; it zeroes that deposit, leaves every other deposit and the cursor
    alone — and a second CollectReward right after it is refused. -/
theorem collect_once (s s' : CState) (a : Addr) (ms : List Mint) (h : collect s a = some (ms, s')) :
    paid ms a = s.dep a ∧ (∀ m ∈ ms, m.to = a ∧ 0 < m.amount) ∧ ms.length ≤ 2 ∧
    s'.dep a = Coins.zero ∧ (∀ b, b ≠ a → s'.dep b = s.dep b) ∧ s'.cursor = s.cursor ∧ s'.lastUpdate = s.lastUpdate ∧
    collect s' a = none := by
  have hp := paid_collect h a
  obtain ⟨hne, rfl, rfl⟩ := collect_eq_some h
  refine ⟨by rw [hp, if_pos rfl], ?_, ?_, by simp, fun b hb => by simp [hb], rfl, rfl, by simp [collect, Coins.zero]⟩
  · -- the requests are `[znn coin if positive] ++ [qsr coin if positive]`: four cases
    intro m hm
    by_cases hz : 0 < (s.dep a).znn <;> by_cases hq : 0 < (s.dep a).qsr <;> simp [hz, hq] at hm
    · rcases hm with rfl | rfl <;> exact ⟨rfl, by assumption⟩
    · subst hm; exact ⟨rfl, hz⟩
    · subst hm; exact ⟨rfl, hq⟩
  · split <;> split <;> simp

/-- CollectReward is refused (ErrNothingToWithdraw) exactly when the caller's deposit is zero in both coins -/
theorem collect_refused_iff_empty (s : CState) (a : Addr) : collect s a = none ↔ s.dep a = Coins.zero := by
  unfold collect
  simp only
  constructor
  · intro h
    split at h
    · rename_i hz; exact Coins.ext' hz.1 hz.2
    · cases h
  · intro h
    simp [h, Coins.zero]

/-- `addReward` only adds: the credited address gains exactly the credited amount, nobody else changes -/
theorem credit_grows (s : CState) (a : Addr) (x : Coins) :
    (credit s a x).dep a = s.dep a + x ∧ (∀ b, b ≠ a → (credit s a x).dep b = s.dep b) ∧ (credit s a x).cursor = s.cursor :=
  ⟨by simp [credit], fun b hb => by simp [credit, hb], rfl⟩

/-- T5, conservation over any sequence of calls to a contract (any variant): what was minted to an address plus what it
    can still collect equals what it could collect at the start plus everything credited to it since. A credited reward
    is paid out once, in full, and nothing else is ever paid. -/
theorem deposit_conservation (c : Cfg) (v : Variant) (s : CState) (ops : List Op) (a : Addr) :
    mintedOf a (run c v s ops).2 + (run c v s ops).1.dep a = s.dep a + creditedOf a ops := by
  induction ops generalizing s with
  | nil => exact Coins.zero_add' _
  | cons o os ih =>
    simp only [run_cons]
    rw [mintedOf_cons, creditedOf_cons, Coins.add_assoc', ih, ← Coins.add_assoc', step_deposit, Coins.add_assoc']

/-! ### the hypotheses are satisfiable / the statements are not vacuous -/

/-- a deposit of (5 ZNN-units, 7 QSR-units) is paid by two mint requests; an empty one is refused -/
example : (collect (credit CState.init "z1a" ⟨5, 7⟩) "z1a").map (·.1) = some [⟨false, 5, "z1a"⟩, ⟨true, 7, "z1a"⟩] := by decide
example : (collect CState.init "z1a").isNone = true := by decide

/-- one Update of a never-updated pillar contract three days and one hour after genesis rewards epochs 0, 1, 2 -/
example : (update (Cfg.live 0) .loop CState.init 300 (86400 * 3 + 3600)).map (fun r => (r.1.cursor, r.1.lastUpdate, r.2))
    = some (2, 300, [0, 1, 2]) := by
  have h0 : tooRecent (Cfg.live 0) (-1) (86400 * 3 + 3600) = false := by decide
  have h1 : tooRecent (Cfg.live 0) (-1 + 1) (86400 * 3 + 3600) = false := by decide
  have h2 : tooRecent (Cfg.live 0) (-1 + 1 + 1) (86400 * 3 + 3600) = false := by decide
  have h3 : tooRecent (Cfg.live 0) (-1 + 1 + 1 + 1) (86400 * 3 + 3600) = true := by decide
  unfold update
  simp only [CState.init, advance]
  rw [catchUp_step _ _ _ h0, catchUp_step _ _ _ h1, catchUp_step _ _ _ h2, catchUp_stop _ _ _ h3]
  decide

end ZV.C11Node
