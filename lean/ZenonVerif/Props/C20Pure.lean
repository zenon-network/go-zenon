import ZenonVerif.Model.Genesis
import ZenonVerif.Gen.GenesisAmbient
/-
C20, clause "the genesis momentum — hash, content and full initial state — is a PURE FUNCTION of the genesis
configuration, independent of … process": the header of the genesis momentum is a function of the three scalar members
of the configuration for ALL their values (boundary values and members left out of the file included), and the code
that builds the genesis refers to nothing a process can read besides its argument.

Tie: `Gen/GenesisAmbient.lean` (AST of chain/genesis, chain/account_pool.go, chain/nom) compared below with the reviewed lists;
`gen-header` lines of the `genesis` stream (s_genesis_pure.go: the real `NewGenesis` under swapped clocks, time zones,
GOMAXPROCS, working directories, environments, math/rand states and in child processes) replayed through
`genesisHeader` by Driver/Genesis.lean.
-/
namespace ZV.C20Pure
open ZV ZV.Genesis

/-! ### the header is the configuration's -/

/-- `TimestampUnix` of the genesis momentum is `GenesisTimestampSec` of the configuration — for every int64 value:
    itself when non-negative (0 included: nothing is substituted for a zero / omitted member), the two's complement
    `uint64(s)` when negative. -/
theorem genesis_timestamp_is_config (c : HeaderCfg)
    (hlo : -(two63 : Int) ≤ c.genesisTimestampSec) (hhi : c.genesisTimestampSec < (two63 : Int)) :
    ((genesisHeader c).timestampUnix : Int) =
      if 0 ≤ c.genesisTimestampSec then c.genesisTimestampSec else c.genesisTimestampSec + (two64 : Int) := by
  simp only [genesisHeader, toUint64, two63, two64] at *
  omega

/-- the boundary value: a zero / omitted `GenesisTimestampSec` gives the timestamp 0 -/
theorem genesis_timestamp_zero (c : HeaderCfg) (h : c.genesisTimestampSec = 0) : (genesisHeader c).timestampUnix = 0 := by
  simp [genesisHeader, toUint64, h]

/-- all header fields: constants and the configuration's members, nothing else -/
theorem genesis_header_is_config (c : HeaderCfg) :
    (genesisHeader c).version = 1 ∧ (genesisHeader c).height = 1 ∧
      (genesisHeader c).chainIdentifier = c.chainIdentifier ∧ (genesisHeader c).data = c.extraData ∧
      (genesisHeader c).timestampUnix = toUint64 c.genesisTimestampSec := by
  simp [genesisHeader]

/-- no two int64 timestamps share a header: the timestamp member is never ignored (a start with an edited
    `GenesisTimestampSec` on the own database is refused — the `startup-field:*` scenarios of the stream) -/
theorem genesis_header_timestamp_injective (c d : HeaderCfg)
    (hc : -(two63 : Int) ≤ c.genesisTimestampSec ∧ c.genesisTimestampSec < (two63 : Int))
    (hd : -(two63 : Int) ≤ d.genesisTimestampSec ∧ d.genesisTimestampSec < (two63 : Int))
    (h : genesisHeader c = genesisHeader d) : c = d := by
  -- the timestamps agree because their images, as `genesis_timestamp_is_config` gives them, do
  have ht := congrArg (fun x => (x.timestampUnix : Int)) h
  rw [genesis_timestamp_is_config c hc.1 hc.2, genesis_timestamp_is_config d hd.1 hd.2] at ht
  cases c with | mk ci ce ct => cases d with | mk di de dt =>
  simp only [genesisHeader, MomentumHeader.mk.injEq, true_and, two63, two64] at h ht hc hd
  obtain ⟨rfl, -, rfl⟩ := h
  congr
  omega

/-- negative witness for the excluded shape: a header that substitutes an ambient reading for the zero value is NOT a
    function of the configuration (two clock readings, one configuration, two headers) — and agrees with the real
    header on every other timestamp, which is why pinned hashes of configurations with a non-zero timestamp cannot see it -/
theorem ambient_fallback_not_pure :
    genesisHeaderAmbient 1700000000 {} ≠ genesisHeaderAmbient 1700040000 {} ∧
      ∀ amb c, c.genesisTimestampSec ≠ 0 → genesisHeaderAmbient amb c = genesisHeader c := by
  refine ⟨by decide, ?_⟩
  intro amb c h
  simp [genesisHeaderAmbient, h, genesisHeader]

example : (genesisHeader { chainIdentifier := 321, extraData := [115], genesisTimestampSec := 0 }).timestampUnix = 0 := by decide
example : (genesisHeader { genesisTimestampSec := -1 }).timestampUnix = 18446744073709551615 := by decide
example : (genesisHeader { genesisTimestampSec := 9223372036854775807 }).timestampUnix = 9223372036854775807 := by decide

/-! ### the code the model stands for (facts regenerated from the tree on every run) -/

/-- the header literal of `newGenesisMomentum` is the one `genesisHeader` transcribes: the timestamp comes from
    `time.Unix(genesisConfig.GenesisTimestampSec, 0)` directly, every other field from the configuration or a constant -/
theorem genesis_header_literal_fact : Gen.gnHeaderLiteral =
    ["timestamp := time.Unix(genesisConfig.GenesisTimestampSec, 0)",
     "blocks := pool.GetAllUncommittedAccountBlocks()",
     "Version: 1", "ChainIdentifier: genesisConfig.ChainIdentifier", "Height: 1",
     "TimestampUnix: uint64(timestamp.Unix())", "Data: []byte(genesisConfig.ExtraData)",
     "Content: nom.NewMomentumContent(blocks)"] := rfl

/-- every reference of the genesis-building code into `time`, `os`, `runtime`, `math/rand`, `crypto/rand`, `net`,
    `syscall` and to a process-wide `Clock`: the reviewed list — the conversion `time.Unix` (twice), the type
    `time.Time`, and `os.Open` of the genesis FILE (an argument). No `time.Now`, no `common.Clock`, no `os.Getenv`,
    no `os.Hostname`, no random numbers. -/
theorem genesis_ambient_refs_fact : Gen.gnAmbientRefs =
    ["chain/genesis/config.go:ReadGenesisConfigFromFile:os.Open",
     "chain/genesis/momentum.go:newGenesisMomentum:time.Unix",
     "chain/nom/momentum.go:(package level):time.Time",
     "chain/nom/momentum.go:Momentum.EnsureCache:time.Unix"] := rfl

/-- every range over a Go map in the genesis-building code: the reviewed list. `wrap` writes one balance key per map
    entry and `genesisPlasmaContractConfig` one fused-amount key per beneficiary — distinct keys, so the order does not
    reach the patch (`C20.writes_canonical`); `GetAllUncommittedAccountBlocks` collects the blocks that
    `NewMomentumContent` sorts (`C20.content_canonical`); `rebuild` is not on the genesis path. -/
theorem genesis_map_ranges_fact : Gen.gnMapRanges =
    ["chain/account_pool.go:accountPool.GetAllUncommittedAccountBlocks:range ap.managers",
     "chain/account_pool.go:accountPool.rebuild:range ap.managers",
     "chain/genesis/account_block.go:genesisPlasmaContractConfig:range fusedAmount",
     "chain/genesis/account_block.go:wrap:range block.BalanceList"] := rfl

end ZV.C20Pure
