import ZenonVerif.Lemmas.Contracts
/-
C10, clause "never earlier than its lock allows" against the ADMINISTRATION of the liquidity contract: the lock of a
liquidity stake entry does not depend on the administrator-managed configuration. Whatever history of receives happens
before the entry's expiration time — token tuples replaced (the staked token removed, re-added, re-weighted, minimum
raised; all tuples removed), unlocks of OTHER tokens, unlock calls by non-administrators, BurnZnn, other stakes and
cancels, the owner's own cancel attempts — the entry is still there, with its amount and its expiration time, and the
owner's cancel is refused. The ONE exception is the administrator's UnlockLiquidityStakeEntries carrying the entry's
token (`unlock_is_the_only_early_release`). Tie: the contract stream replays LiquidityStake / CancelLiquidityStake /
UnlockLiquidityStakeEntries receives and the K-liq-tuples configuration through these very methods (Driver/Contracts)
in the lock-vs-administration scenario of every liquidity history (harness/cmd/zvh/s_contract_admin.go).
-/
namespace ZV.C10LockConfig
open ZV.Contracts

/-- one receive of the liquidity contract, administration included -/
inductive LiqEv where
  | stake (duration : Int)
  | cancel (id : Hash)
  | setTuples (isAdmin : Bool) (ts : List (Tok × Nat))
  | unlock (isAdmin : Bool)
  | burn (amount : Nat) (isSpork : Bool)

def LiqEv.method (P : Params) : LiqEv → Method Liquidity
  | .stake d => liquidityStake P d
  | .cancel id => cancelLiquidityStake id
  | .setTuples a ts => setLiquidityTuples a ts
  | .unlock a => unlockLiquidityStakeEntries a
  | .burn x sp => liquidityBurnZnn x sp

/-- the receive is the administrator's unlock of token `tok` -/
def unlocks (tok : Tok) : LiqEv × Ctx → Prop
  | (.unlock true, c) => c.token = tok
  | _ => False

/-- the receive is a LiquidityStake stored under key `k` (an entry's id is the hash of its send block: it never is the
    id of an existing entry) -/
def restakes (k : Addr × Hash) : LiqEv × Ctx → Prop
  | (.stake _, c) => (c.sender, c.hash) = k
  | _ => False

theorem lookup_map_val {κ ν : Type} [DecidableEq κ] (g : ν → ν) (k : κ) (l : List (κ × ν)) :
    lookup k (l.map fun ke => (ke.1, g ke.2)) = (lookup k l).map g := by
  induction l with
  | nil => rfl
  | cons x r ih =>
    obtain ⟨k', v⟩ := x
    by_cases h : k' = k
    · simp [lookup, h]
    · simp [lookup, h, ih]

/-- one receive before the expiration time, other than the administrator's unlock of the entry's token: the method,
    if it applies at all, leaves the entry as it is -/
theorem method_keeps_lock (P : Params) (ev : LiqEv) (c : Ctx) (s s' : Liquidity) (ps : List Payout)
    (k : Addr × Hash) (e : LStakeE) (he : lookup k s.entries = some e)
    (hu : ¬ unlocks e.tok (ev, c)) (hr : ¬ restakes k (ev, c)) (hearly : c.now < e.expiration)
    (h : ev.method P s c = some (s', ps)) : lookup k s'.entries = some e := by
  cases ev with
  | stake d =>
    obtain ⟨_, _, _, _, _, _, rfl, _⟩ := liquidityStake_spec.1 h
    exact (lookup_put_ne (fun x => hr x.symm) _ _).trans he
  | cancel id =>
    obtain ⟨_, e2, he2, hexp, rfl, _⟩ := cancelLiquidityStake_spec.1 h
    by_cases hk : k = (c.sender, id)
    · subst hk
      rw [he] at he2; cases he2
      omega
    · exact (lookup_put_ne hk _ _).trans he
  | setTuples a ts =>
    obtain ⟨_, _, rfl, _⟩ := setLiquidityTuples_spec.1 h
    exact he
  | unlock a =>
    obtain ⟨_, rfl, rfl, _⟩ := unlockLiquidityStakeEntries_spec.1 h
    have htok : ¬ e.tok = c.token := fun x => hu x.symm
    show lookup k (s.entries.map _) = _
    rw [lookup_map_val, he]
    simp [unlockEntry, htok]
  | burn x sp =>
    obtain ⟨_, rfl, _⟩ := (liquidityBurnZnn_spec (c := c)).1 h
    exact he

/-- the same through the VM skeleton (applied, refused, or refunded for lack of funds) -/
theorem vmStep_keeps_lock (P : Params) (ev : LiqEv) (c : Ctx) (s : Liquidity) (bal : Bal)
    (k : Addr × Hash) (e : LStakeE) (he : lookup k s.entries = some e)
    (hu : ¬ unlocks e.tok (ev, c)) (hr : ¬ restakes k (ev, c)) (hearly : c.now < e.expiration) :
    lookup k (vmStep (ev.method P) s bal c).st.entries = some e := by
  rcases vmStep_st_cases (ev.method P) s bal c with e' | ⟨ps, e'⟩
  · rw [e']; exact he
  · exact method_keeps_lock P ev c s _ ps k e he hu hr hearly e'

/-- C10 (liquidity, lock vs administration): for EVERY history of receives before the expiration time of an entry that
    contains neither the administrator's unlock of the entry's token nor a LiquidityStake stored under the entry's own
    key (`restakes`: the key holds the send-block hash, so this never happens) — every token-tuple configuration
    history included — the entry is untouched: same amount, same expiration time, still stored. -/
theorem liquidity_lock_independent_of_configuration (P : Params) (evs : List (LiqEv × Ctx)) (s : Liquidity) (bal : Bal)
    (k : Addr × Hash) (e : LStakeE) (he : lookup k s.entries = some e)
    (hcfg : ∀ ev ∈ evs, ¬ unlocks e.tok ev ∧ ¬ restakes k ev)
    (hearly : ∀ ev ∈ evs, ev.2.now < e.expiration) :
    lookup k (run (LiqEv.method P) (s, bal) evs).1.entries = some e := by
  induction evs generalizing s bal with
  | nil => exact he
  | cons ev r ih =>
    rw [List.forall_mem_cons] at hcfg hearly
    exact ih _ _ (vmStep_keeps_lock P ev.1 ev.2 s bal k e he hcfg.1.1 hcfg.1.2 hearly.1) hcfg.2 hearly.2

/-- … hence the owner's cancel before the expiration time is refused after every such history: nothing is paid, the
    state is unchanged -/
theorem early_cancel_refused_whatever_the_configuration (P : Params) (evs : List (LiqEv × Ctx)) (s : Liquidity) (bal : Bal)
    (k : Addr × Hash) (e : LStakeE) (he : lookup k s.entries = some e)
    (hcfg : ∀ ev ∈ evs, ¬ unlocks e.tok ev ∧ ¬ restakes k ev)
    (hearly : ∀ ev ∈ evs, ev.2.now < e.expiration)
    (c : Ctx) (hc : c.now < e.expiration) (hs : c.sender = k.1) :
    cancelLiquidityStake k.2 (run (LiqEv.method P) (s, bal) evs).1 c = none := by
  have h := liquidity_lock_independent_of_configuration P evs s bal k e he hcfg hearly
  refine Option.eq_none_iff_forall_ne_some.2 fun r h2 => ?_
  obtain ⟨_, e2, he2, hexp, _⟩ := cancelLiquidityStake_spec.1 h2
  rw [hs, h] at he2; cases he2
  omega

/-- the one legitimate early release (that there is no other is the two theorems above): after the administrator's unlock of the entry's token at time t the entry's
    expiration time is t (if it was later), and the owner's cancel from t on pays the locked amount to the owner -/
theorem unlock_is_the_only_early_release (s s' : Liquidity) (c : Ctx) (ps : List Payout)
    (k : Addr × Hash) (e : LStakeE) (he : lookup k s.entries = some e) (htok : c.token = e.tok) (hlocked : c.now < e.expiration)
    (h : unlockLiquidityStakeEntries true s c = some (s', ps)) :
    ps = [] ∧ lookup k s'.entries = some { e with expiration := c.now } ∧
    ∀ c2 : Ctx, c2.sender = k.1 → c2.amount = 0 → c.now ≤ c2.now →
      ∃ s'', cancelLiquidityStake k.2 s' c2 = some (s'', [⟨k.1, e.tok, e.amount, .none⟩]) := by
  obtain ⟨_, _, rfl, rfl⟩ := unlockLiquidityStakeEntries_spec.1 h
  have hl : lookup k (s.entries.map fun ke => (ke.1, unlockEntry c ke.2)) = some { e with expiration := c.now } := by
    rw [lookup_map_val, he]
    simp [unlockEntry, htok, hlocked]
  refine ⟨rfl, hl, fun c2 hs ha hn => ⟨_, cancelLiquidityStake_spec.2 ⟨ha, { e with expiration := c.now }, ?_, hn, rfl, ?_⟩⟩⟩
  · rw [hs]; exact hl
  · rw [hs]

/-- non-vacuity: stake, the administrator removes every tuple, a non-administrator's unlock, the administrator's unlock
    of another token — the early cancel is refused; after the administrator's unlock of the token it is paid -/
example :
    let P : Params := { Params.production with stakeTimeUnit := 100, stakeTimeMin := 100, stakeTimeMax := 1200 }
    let s0 : Liquidity := { tuples := [(znnTok, 1)] }
    let r1 := vmStep (liquidityStake P 300) s0 [] ⟨1000, 1, 16, 5, znnTok, 7⟩
    let evs : List (LiqEv × Ctx) := [(.setTuples true [], ⟨1010, 2, 99, 0, znnTok, 8⟩), (.unlock false, ⟨1020, 3, 16, 0, znnTok, 9⟩),
      (.unlock true, ⟨1030, 4, 99, 0, qsrTok, 10⟩), (.cancel 7, ⟨1040, 5, 16, 0, znnTok, 11⟩)]
    let r2 := run (LiqEv.method P) (r1.st, r1.bal) evs
    r1.status = 1 ∧ (lookup (16, 7) r2.1.entries).map (·.expiration) = some 1300 ∧ r2.1.tuples = [] ∧
    (vmStep (cancelLiquidityStake 7) r2.1 r2.2 ⟨1050, 6, 16, 0, znnTok, 12⟩).status = 2 ∧
    (let r3 := vmStep (unlockLiquidityStakeEntries true) r2.1 r2.2 ⟨1060, 7, 99, 0, znnTok, 13⟩
     (vmStep (cancelLiquidityStake 7) r3.st r3.bal ⟨1070, 8, 16, 0, znnTok, 14⟩).descs.map (fun p => (p.dst, p.amt)) = [(16, 5)]) := by
  decide

end ZV.C10LockConfig
