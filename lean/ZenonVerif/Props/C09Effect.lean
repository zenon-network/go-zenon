import ZenonVerif.Lemmas.ContractsJoint
import ZenonVerif.Props.C09
/-
C09, per-method effect — "either applies the call or returns exactly the sent amount", with APPLIES spelled out per
method: when the receive of a modelled method is answered "applied", the contract's storage afterwards contains
exactly the entry the call asked for — amount, owner, beneficiary, expiry / lock time, hash lock, field by field, under
the key derived from the call — every other entry is as it was, and the contract's balance moved by exactly the sent
amount minus what the method pays out; when it is answered "refused", the storage is as it was and the refund is
exactly the sent amount.
Props/C10.lean states of the same methods WHEN they release (who may call, from when on, never twice); this file
states WHAT an applied call leaves behind. Both are read off the equivalences `f_spec` of Lemmas/Contracts.lean, which
are the statements to build on.

  `X.Asked op s c s' ps`   what a call of method `op` of contract X asks for: relation between the storage before,
                           the call, the storage after and the descendant sends
  `vmStep`                 generateEmbeddedReceive (Model/Contracts.lean); status 1 = applied, 2 = refused and refunded
-/
namespace ZV.C09Effect
open ZV.Contracts ZV.ContractsJoint

/-- undo the guards of a method definition applied to `h : method … = some (s', ps)` -/
local macro "unwind " h:ident : tactic => `(tactic| repeat' (first | cases $h:ident | split at $h:ident))

/-! ## the generic half: applied with the method's effect, or refused with the exact refund -/

/-- For ANY method whose successful outcomes satisfy `Asked`: the receive is either APPLIED — the storage and the
    descendant sends satisfy `Asked`, and the balance of every real token is the old balance + the sent amount − what
    the descendants carry — or REFUSED — storage unchanged, the descendants are exactly the refund of the sent amount
    to the sender (nothing when the amount is 0), the balance of every real token as before. -/
theorem applied_call_has_asked_effect {σ : Type} (m : Method σ) (Asked : σ → Ctx → σ → List Payout → Prop)
    (hm : ∀ s c s' ps, m s c = some (s', ps) → Asked s c s' ps) (s : σ) (bal : Bal) (c : Ctx) :
    ((vmStep m s bal c).status = 1 ∧ Asked s c (vmStep m s bal c).st (vmStep m s bal c).descs ∧
        ∀ tok, tok ≠ zeroTok → (vmStep m s bal c).bal.get tok + payTotal tok (vmStep m s bal c).descs
            = bal.get tok + (if tok = c.token then c.amount else 0)) ∨
    ((vmStep m s bal c).status = 2 ∧ (vmStep m s bal c).st = s ∧ (vmStep m s bal c).descs = refundOf c ∧
        ∀ tok, tok ≠ zeroTok → (vmStep m s bal c).bal.get tok = bal.get tok) :=
  (vmStep_outcome m s bal c).imp (fun h => ⟨h.1, hm _ _ _ _ h.2.1, h.2.2⟩)
    (fun h => ⟨h.1, h.2.1, h.2.2.1, fun tok _ => h.2.2.2 tok⟩)

/-- `applied_call_has_asked_effect` composed with the ledger skeleton (`C09.complete_or_refund`): on the abstract ledger an accepted receive with
    status 2 emits exactly the refund and restores the contract's balances; the per-contract machine's refused branch
    says the same of its storage. The two refunds are the same list. -/
theorem refusal_is_the_ledger_refund (L L' : ZV.Ledger.State) (a : ZV.Ledger.Addr) (h : ZV.Ledger.Hash)
    (ds : List ZV.Ledger.Desc) (hok : ZV.Ledger.crecv L a h 2 ds = .ok L') :
    ∃ snd, ZV.Ledger.checkFrom L a h = .ok snd ∧ ZV.Ledger.descShape ds = ZV.Ledger.refundOf snd ∧
      (∀ (c : Ctx), c.sender = snd.src → c.token = snd.tok → c.amount = snd.amt →
        (refundOf c).map (fun p => (p.dst, p.tok, p.amt)) = ZV.Ledger.refundOf snd) := by
  obtain ⟨snd, h1, h2⟩ := ZV.C09.complete_or_refund L L' a h 2 ds hok
  rcases h2 with h2 | ⟨_, h3, _, _⟩
  · cases h2
  · refine ⟨snd, h1, h3, fun c e1 e2 e3 => ?_⟩
    simp only [refundOf, ZV.Ledger.refundOf, e1, e2, e3]
    split <;> simp

/-! ## plasma -/

/-- what a plasma call asks for -/
def PlasmaAsked (P : Params) : PlasmaOp → Plasma → Ctx → Plasma → List Payout → Prop
  | .fuse b, s, c, s', ps =>
    -- a fusion entry under (sender, send hash): the sent amount, expiring fuseExpiration momentums after the frontier,
    -- for the named beneficiary, whose fused total grows by the amount; nothing else moves; nothing is paid
    ps = [] ∧ c.token = qsrTok ∧
    lookup (c.sender, c.hash) s'.fusions = some ⟨c.amount, c.height + P.fuseExpiration, b⟩ ∧
    (∀ k, k ≠ (c.sender, c.hash) → lookup k s'.fusions = lookup k s.fusions) ∧
    s'.fusedOf b = s.fusedOf b + c.amount ∧ (∀ b', b' ≠ b → s'.fusedOf b' = s.fusedOf b')
  | .cancelFuse id, s, c, s', ps =>
    -- the caller's own entry `id`, matured: deleted, its amount paid to the caller in QSR; no other entry moves
    c.amount = 0 ∧ ∃ f, lookup (c.sender, id) s.fusions = some f ∧ f.expH ≤ c.height ∧
      ps = [⟨c.sender, qsrTok, f.amount, .none⟩] ∧ lookup (c.sender, id) s'.fusions = none ∧
      (∀ k, k ≠ (c.sender, id) → lookup k s'.fusions = lookup k s.fusions) ∧
      (∀ b', b' ≠ f.beneficiary → s'.fusedOf b' = s.fusedOf b')

/-- plasma: every successful outcome of Fuse / CancelFuse is what the call asked for -/
theorem plasma_method_effect (P : Params) (op : PlasmaOp) (s : Plasma) (c : Ctx) (s' : Plasma) (ps : List Payout)
    (h : op.method P s c = some (s', ps)) : PlasmaAsked P op s c s' ps := by
  cases op with
  | fuse b =>
    obtain ⟨ht, _, _, rfl, rfl⟩ := fuse_spec.1 h
    exact ⟨rfl, ht, lookup_put_self _ _ _, fun k hk => lookup_put_ne hk _ _, getD_put_self ..,
      fun b' hb => getD_put_ne _ hb _⟩
  | cancelFuse id =>
    obtain ⟨h0, f, hf, hexp, rfl, rfl⟩ := cancelFuse_spec.1 h
    refine ⟨h0, f, hf, hexp, rfl, lookup_erase_self _ _, fun k hk => lookup_erase_ne hk _, fun b' hb => ?_⟩
    show (lookup b' (if _ then _ else _)).getD 0 = _
    split
    · exact getD_erase_ne _ hb
    · exact getD_put_ne _ hb _

/-- plasma, whole receive -/
theorem plasma_applied_call_has_asked_effect (P : Params) (op : PlasmaOp) (s : Plasma) (bal : Bal) (c : Ctx) :
    let r := vmStep (op.method P) s bal c
    (r.status = 1 ∧ PlasmaAsked P op s c r.st r.descs ∧
        ∀ tok, tok ≠ zeroTok → r.bal.get tok + payTotal tok r.descs = bal.get tok + (if tok = c.token then c.amount else 0)) ∨
    (r.status = 2 ∧ r.st = s ∧ r.descs = refundOf c ∧ ∀ tok, tok ≠ zeroTok → r.bal.get tok = bal.get tok) :=
  applied_call_has_asked_effect (op.method P) (PlasmaAsked P op) (plasma_method_effect P op) s bal c

/-! ## stake -/

def StakeAsked (P : Params) : StakeOp → Stake → Ctx → Stake → List Payout → Prop
  | .stake d, s, c, s', ps =>
    ps = [] ∧ c.token = znnTok ∧
    lookup (c.sender, c.hash) s'.entries = some ⟨c.amount, weightedStake P c.amount d, c.now, 0, c.now + d⟩ ∧
    (∀ k, k ≠ (c.sender, c.hash) → lookup k s'.entries = lookup k s.entries)
  | .cancel id, s, c, s', ps =>
    c.amount = 0 ∧ ∃ e, lookup (c.sender, id) s.entries = some e ∧ e.expiration ≤ c.now ∧
      ps = [⟨c.sender, znnTok, e.amount, .none⟩] ∧
      lookup (c.sender, id) s'.entries = some { e with revoke := c.now, amount := 0 } ∧
      (∀ k, k ≠ (c.sender, id) → lookup k s'.entries = lookup k s.entries)

/-- stake: every successful outcome of Stake / Cancel is what the call asked for -/
theorem stake_method_effect (P : Params) (op : StakeOp) (s : Stake) (c : Ctx) (s' : Stake) (ps : List Payout)
    (h : op.method P s c = some (s', ps)) : StakeAsked P op s c s' ps := by
  cases op with
  | stake d =>
    obtain ⟨_, ht, _, _, _, rfl, rfl⟩ := stake_spec.1 h
    exact ⟨rfl, ht, lookup_put ..⟩
  | cancel id =>
    obtain ⟨h0, e, he, hexp, rfl, rfl⟩ := cancelStake_spec.1 h
    exact ⟨h0, e, he, hexp, rfl, lookup_put ..⟩

theorem stake_applied_call_has_asked_effect (P : Params) (op : StakeOp) (s : Stake) (bal : Bal) (c : Ctx) :
    let r := vmStep (op.method P) s bal c
    (r.status = 1 ∧ StakeAsked P op s c r.st r.descs ∧
        ∀ tok, tok ≠ zeroTok → r.bal.get tok + payTotal tok r.descs = bal.get tok + (if tok = c.token then c.amount else 0)) ∨
    (r.status = 2 ∧ r.st = s ∧ r.descs = refundOf c ∧ ∀ tok, tok ≠ zeroTok → r.bal.get tok = bal.get tok) :=
  applied_call_has_asked_effect (op.method P) (StakeAsked P op) (stake_method_effect P op) s bal c

/-! ## htlc -/

def HtlcAsked (H : HashFn) : HtlcOp → Htlc → Ctx → Htlc → List Payout → Prop
  | .create hashLocked expiration hashType keyMax hashLock, s, c, s', ps =>
    ps = [] ∧ s'.proxy = s.proxy ∧
    lookup c.hash s'.entries = some ⟨c.sender, hashLocked, c.token, c.amount, expiration, hashType, keyMax, hashLock⟩ ∧
    (∀ k, k ≠ c.hash → lookup k s'.entries = lookup k s.entries)
  | .reclaim id, s, c, s', ps =>
    s'.proxy = s.proxy ∧ ∃ e, lookup id s.entries = some e ∧ e.timeLocked = c.sender ∧ e.expiration ≤ c.now ∧
      ps = [⟨e.timeLocked, e.tok, e.amount, .none⟩] ∧ lookup id s'.entries = none ∧
      (∀ k, k ≠ id → lookup k s'.entries = lookup k s.entries)
  | .unlock id pre, s, c, s', ps =>
    s'.proxy = s.proxy ∧ ∃ e, lookup id s.entries = some e ∧ c.now < e.expiration ∧ H e.hashType pre = e.hashLock ∧
      ps = [⟨e.hashLocked, e.tok, e.amount, .none⟩] ∧ lookup id s'.entries = none ∧
      (∀ k, k ≠ id → lookup k s'.entries = lookup k s.entries)
  | .deny, s, c, s', ps =>
    ps = [] ∧ s'.entries = s.entries ∧ lookup c.sender s'.proxy = some false ∧ (∀ a, a ≠ c.sender → lookup a s'.proxy = lookup a s.proxy)
  | .allow, s, c, s', ps =>
    ps = [] ∧ s'.entries = s.entries ∧ lookup c.sender s'.proxy = some true ∧ (∀ a, a ≠ c.sender → lookup a s'.proxy = lookup a s.proxy)

/-- htlc: every successful outcome of Create / Reclaim / Unlock / Deny / AllowProxyUnlock is what the call asked for -/
theorem htlc_method_effect (H : HashFn) (op : HtlcOp) (s : Htlc) (c : Ctx) (s' : Htlc) (ps : List Payout)
    (h : op.method H s c = some (s', ps)) : HtlcAsked H op s c s' ps := by
  cases op with
  | create a ex ty km hl =>
    obtain ⟨_, _, _, rfl, rfl⟩ := createHtlc_spec.1 h
    exact ⟨rfl, rfl, lookup_put ..⟩
  | reclaim id =>
    obtain ⟨_, e, he, howner, hexp, rfl, rfl⟩ := reclaimHtlc_spec.1 h
    exact ⟨rfl, e, he, howner, hexp, rfl, lookup_erase_self _ _, fun k hk => lookup_erase_ne hk _⟩
  | unlock id pre =>
    obtain ⟨_, e, he, _, hexp, _, hhash, rfl, rfl⟩ := unlockHtlc_spec.1 h
    exact ⟨rfl, e, he, hexp, hhash, rfl, lookup_erase_self _ _, fun k hk => lookup_erase_ne hk _⟩
  | deny | allow =>
    obtain ⟨_, rfl, rfl⟩ := setProxyUnlock_spec.1 h
    exact ⟨rfl, rfl, lookup_put ..⟩

theorem htlc_applied_call_has_asked_effect (H : HashFn) (op : HtlcOp) (s : Htlc) (bal : Bal) (c : Ctx) :
    let r := vmStep (op.method H) s bal c
    (r.status = 1 ∧ HtlcAsked H op s c r.st r.descs ∧
        ∀ tok, tok ≠ zeroTok → r.bal.get tok + payTotal tok r.descs = bal.get tok + (if tok = c.token then c.amount else 0)) ∨
    (r.status = 2 ∧ r.st = s ∧ r.descs = refundOf c ∧ ∀ tok, tok ≠ zeroTok → r.bal.get tok = bal.get tok) :=
  applied_call_has_asked_effect (op.method H) (HtlcAsked H op) (htlc_method_effect H op) s bal c

/-! ## liquidity stakes -/

def LiquidityAsked (P : Params) : LiquidityOp → Liquidity → Ctx → Liquidity → List Payout → Prop
  | .stake d, s, c, s', ps =>
    ps = [] ∧ s'.tuples = s.tuples ∧
    lookup (c.sender, c.hash) s'.entries = some ⟨c.amount, c.token, weightedLiquidityStake P c.amount d, c.now, 0, c.now + d⟩ ∧
    (∀ k, k ≠ (c.sender, c.hash) → lookup k s'.entries = lookup k s.entries)
  | .cancel id, s, c, s', ps =>
    s'.tuples = s.tuples ∧ ∃ e, lookup (c.sender, id) s.entries = some e ∧ e.expiration ≤ c.now ∧
      ps = [⟨c.sender, e.tok, e.amount, .none⟩] ∧
      lookup (c.sender, id) s'.entries = some { e with revoke := c.now, amount := 0 } ∧
      (∀ k, k ≠ (c.sender, id) → lookup k s'.entries = lookup k s.entries)

/-- liquidity: every successful outcome of LiquidityStake / CancelLiquidityStake is what the call asked for -/
theorem liquidity_method_effect (P : Params) (op : LiquidityOp) (s : Liquidity) (c : Ctx) (s' : Liquidity) (ps : List Payout)
    (h : op.method P s c = some (s', ps)) : LiquidityAsked P op s c s' ps := by
  cases op with
  | stake d =>
    obtain ⟨_, _, _, _, _, _, rfl, rfl⟩ := liquidityStake_spec.1 h
    exact ⟨rfl, rfl, lookup_put ..⟩
  | cancel id =>
    obtain ⟨_, e, he, hexp, rfl, rfl⟩ := cancelLiquidityStake_spec.1 h
    exact ⟨rfl, e, he, hexp, rfl, lookup_put ..⟩

theorem liquidity_applied_call_has_asked_effect (P : Params) (op : LiquidityOp) (s : Liquidity) (bal : Bal) (c : Ctx) :
    let r := vmStep (op.method P) s bal c
    (r.status = 1 ∧ LiquidityAsked P op s c r.st r.descs ∧
        ∀ tok, tok ≠ zeroTok → r.bal.get tok + payTotal tok r.descs = bal.get tok + (if tok = c.token then c.amount else 0)) ∨
    (r.status = 2 ∧ r.st = s ∧ r.descs = refundOf c ∧ ∀ tok, tok ≠ zeroTok → r.bal.get tok = bal.get tok) :=
  applied_call_has_asked_effect (op.method P) (LiquidityAsked P op) (liquidity_method_effect P op) s bal c

/-! ## QSR deposits, pillar, sentinel -/

/-- what checkAndConsumeQsr does to the deposits: exactly `required` less for the owner, nobody else's moves -/
theorem consumeQsr_exact (d d' : Deposits) (owner : Addr) (required : Nat) (h : consumeQsr d owner required = some d') :
    depositOf d' owner + required = depositOf d owner ∧ ∀ a, a ≠ owner → depositOf d' a = depositOf d a := by
  obtain ⟨hle, ⟨he, rfl⟩ | rfl⟩ := consumeQsr_spec h
  · exact ⟨by unfold depositOf at *; rw [getD_erase_self, he, Nat.zero_add], fun a ha => getD_erase_ne _ ha⟩
  · exact ⟨by unfold depositOf at *; rw [getD_put_self]; omega, fun a ha => getD_put_ne _ ha _⟩

/-- the effect of DepositQsr / WithdrawQsr on a deposit table -/
def DepositAsked (d : Deposits) (c : Ctx) (d' : Deposits) (ps : List Payout) : Prop :=
  ps = [] ∧ c.token = qsrTok ∧ depositOf d' c.sender = depositOf d c.sender + c.amount ∧ ∀ a, a ≠ c.sender → depositOf d' a = depositOf d a

def WithdrawAsked (d : Deposits) (c : Ctx) (d' : Deposits) (ps : List Payout) : Prop :=
  c.amount = 0 ∧ ps = [⟨c.sender, qsrTok, depositOf d c.sender, .none⟩] ∧ depositOf d' c.sender = 0 ∧
    ∀ a, a ≠ c.sender → depositOf d' a = depositOf d a

theorem depositQsr_effect (d d' : Deposits) (c : Ctx) (h : depositQsr d c = some d') : DepositAsked d c d' [] := by
  obtain ⟨ht, _, rfl⟩ := depositQsr_spec.1 h
  exact ⟨rfl, ht, getD_put_self .., fun a ha => getD_put_ne _ ha _⟩

theorem withdrawQsr_effect (d d' : Deposits) (c : Ctx) (ps : List Payout) (h : withdrawQsr d c = some (d', ps)) :
    WithdrawAsked d c d' ps := by
  obtain ⟨h1, _, rfl, rfl⟩ := withdrawQsr_spec.1 h
  exact ⟨h1, rfl, getD_erase_self _ _, fun a ha => getD_erase_ne _ ha⟩

def PillarAsked (P : Params) : PillarOp → Pillar → Ctx → Pillar → List Payout → Prop
  | .register name producer reward pb pd _, s, c, s', ps =>
    -- the pillar entry under the name: owner = sender, the constant collateral, registered at the frontier time, active,
    -- producer / reward address / percentages of the call; the QSR cost taken from the sender's deposit and burned
    ps = [⟨tokenContract, qsrTok, pillarQsrCost P s, .burn⟩] ∧ c.token = znnTok ∧ c.amount = P.pillarStakeAmount ∧
    lookup name s.pillars = none ∧
    lookup name s'.pillars = some ⟨c.sender, P.pillarStakeAmount, c.now, 0, producer, reward, ZV.Gen.NormalPillarType, pb, pd⟩ ∧
    (∀ k, k ≠ name → lookup k s'.pillars = lookup k s.pillars) ∧
    lookup producer s'.producing = some name ∧ s'.delegations = s.delegations ∧
    depositOf s'.deposits c.sender + pillarQsrCost P s = depositOf s.deposits c.sender ∧
    (∀ a, a ≠ c.sender → depositOf s'.deposits a = depositOf s.deposits a)
  | .revoke name _, s, c, s', ps =>
    c.amount = 0 ∧ ∃ p, lookup name s.pillars = some p ∧ p.revokeTime = 0 ∧ p.stakeAddr = c.sender ∧
      ps = [⟨p.stakeAddr, znnTok, P.pillarStakeAmount, .none⟩] ∧
      lookup name s'.pillars = some { p with revokeTime := c.now, amount := 0 } ∧
      (∀ k, k ≠ name → lookup k s'.pillars = lookup k s.pillars) ∧
      s'.deposits = s.deposits ∧ s'.delegations = s.delegations ∧ s'.producing = s.producing
  | .update name producer reward pb pd _, s, c, s', ps =>
    ps = [] ∧ ∃ p, lookup name s.pillars = some p ∧ p.stakeAddr = c.sender ∧ p.revokeTime = 0 ∧
      lookup name s'.pillars = some { p with producer := producer, reward := reward, pctBlock := pb, pctDelegate := pd } ∧
      (∀ k, k ≠ name → lookup k s'.pillars = lookup k s.pillars) ∧
      s'.deposits = s.deposits ∧ s'.delegations = s.delegations
  | .delegate name _, s, c, s', ps =>
    ps = [] ∧ lookup c.sender s'.delegations = some name ∧ (∀ a, a ≠ c.sender → lookup a s'.delegations = lookup a s.delegations) ∧
      s'.pillars = s.pillars ∧ s'.deposits = s.deposits ∧ s'.producing = s.producing
  | .undelegate, s, c, s', ps =>
    ps = [] ∧ lookup c.sender s'.delegations = none ∧ (∀ a, a ≠ c.sender → lookup a s'.delegations = lookup a s.delegations) ∧
      s'.pillars = s.pillars ∧ s'.deposits = s.deposits ∧ s'.producing = s.producing
  | .deposit, s, c, s', ps =>
    DepositAsked s.deposits c s'.deposits ps ∧ s'.pillars = s.pillars ∧ s'.delegations = s.delegations ∧ s'.producing = s.producing
  | .withdraw, s, c, s', ps =>
    WithdrawAsked s.deposits c s'.deposits ps ∧ s'.pillars = s.pillars ∧ s'.delegations = s.delegations ∧ s'.producing = s.producing

/-- pillar: every successful outcome of Register / Revoke / UpdatePillar / Delegate / Undelegate / DepositQsr /
    WithdrawQsr is what the call asked for -/
theorem pillar_method_effect (P : Params) (op : PillarOp) (s : Pillar) (c : Ctx) (s' : Pillar) (ps : List Payout)
    (h : op.method P s c = some (s', ps)) : PillarAsked P op s c s' ps := by
  cases op with
  | register name producer reward pb pd ok =>
    obtain ⟨_, _, _, ht, ha, hn, _, d', hd, rfl, rfl⟩ := registerPillar_spec.1 h
    obtain ⟨e1, e2⟩ := consumeQsr_exact _ _ _ _ hd
    exact ⟨rfl, ht, ha, hn, lookup_put_self _ _ _, fun k hk => lookup_put_ne hk _ _, lookup_put_self _ _ _, rfl, e1, e2⟩
  | revoke name ok =>
    obtain ⟨_, ha, p, hp, hrev, howner, _, rfl, rfl⟩ := revokePillar_spec.1 h
    exact ⟨ha, p, hp, hrev, howner, rfl, lookup_put_self _ _ _, fun k hk => lookup_put_ne hk _ _, rfl, rfl, rfl⟩
  | update name producer reward pb pd ok =>
    obtain ⟨_, _, _, _, p, hp, howner, hrev, _, rfl, rfl⟩ := updatePillar_spec.1 h
    exact ⟨rfl, p, hp, howner, hrev, lookup_put_self _ _ _, fun k hk => lookup_put_ne hk _ _, rfl, rfl⟩
  | delegate name ok =>
    obtain ⟨_, _, _, _, _, rfl, rfl⟩ := delegate_spec.1 h
    exact ⟨rfl, lookup_put_self _ _ _, fun a ha => lookup_put_ne ha _ _, rfl, rfl, rfl⟩
  | undelegate =>
    obtain ⟨_, _, _, rfl, rfl⟩ := undelegate_spec.1 h
    exact ⟨rfl, lookup_erase_self _ _, fun a ha => lookup_erase_ne ha _, rfl, rfl, rfl⟩
  | deposit =>
    obtain ⟨d, hd, rfl, rfl⟩ := pillarDeposit_spec.1 h
    exact ⟨depositQsr_effect _ _ _ hd, rfl, rfl, rfl⟩
  | withdraw =>
    obtain ⟨⟨d, q⟩, hd, rfl, rfl⟩ := pillarWithdraw_spec.1 h
    exact ⟨withdrawQsr_effect _ _ _ _ hd, rfl, rfl, rfl⟩

theorem pillar_applied_call_has_asked_effect (P : Params) (op : PillarOp) (s : Pillar) (bal : Bal) (c : Ctx) :
    let r := vmStep (op.method P) s bal c
    (r.status = 1 ∧ PillarAsked P op s c r.st r.descs ∧
        ∀ tok, tok ≠ zeroTok → r.bal.get tok + payTotal tok r.descs = bal.get tok + (if tok = c.token then c.amount else 0)) ∨
    (r.status = 2 ∧ r.st = s ∧ r.descs = refundOf c ∧ ∀ tok, tok ≠ zeroTok → r.bal.get tok = bal.get tok) :=
  applied_call_has_asked_effect (op.method P) (PillarAsked P op) (pillar_method_effect P op) s bal c

/-- pillar, legacy registration: the entry of the call, of the legacy type; the QSR taken from the caller's
    deposit and burned is the constant base amount -/
theorem registerLegacyPillar_effect (P : Params) (name : Hash) (producer reward : Addr) (pb pd : Nat) (ok slot : Bool)
    (s s' : Pillar) (c : Ctx) (ps : List Payout)
    (h : registerLegacyPillar P name producer reward pb pd ok slot s c = some (s', ps)) :
    ps = [⟨tokenContract, qsrTok, P.pillarQsrBase, .burn⟩] ∧ c.token = znnTok ∧ c.amount = P.pillarStakeAmount ∧ slot = true ∧
    lookup name s.pillars = none ∧
    lookup name s'.pillars = some ⟨c.sender, P.pillarStakeAmount, c.now, 0, producer, reward, ZV.Gen.LegacyPillarType, pb, pd⟩ ∧
    (∀ k, k ≠ name → lookup k s'.pillars = lookup k s.pillars) ∧ s'.delegations = s.delegations ∧
    depositOf s'.deposits c.sender + P.pillarQsrBase = depositOf s.deposits c.sender ∧
    (∀ a, a ≠ c.sender → depositOf s'.deposits a = depositOf s.deposits a) := by
  obtain ⟨_, _, _, ht, ha, hslot, hn, _, d', hd, rfl, rfl⟩ := registerLegacyPillar_spec.1 h
  obtain ⟨e1, e2⟩ := consumeQsr_exact _ _ _ _ hd
  exact ⟨rfl, ht, ha, hslot, hn, lookup_put_self _ _ _, fun k hk => lookup_put_ne hk _ _, rfl, e1, e2⟩

def SentinelAsked (P : Params) : SentinelOp → Sentinel → Ctx → Sentinel → List Payout → Prop
  | .register, s, c, s', ps =>
    ps = [] ∧ c.token = znnTok ∧ c.amount = P.sentinelZnn ∧ lookup c.sender s.entries = none ∧
    lookup c.sender s'.entries = some ⟨c.now, 0, P.sentinelZnn, P.sentinelQsr⟩ ∧
    (∀ k, k ≠ c.sender → lookup k s'.entries = lookup k s.entries) ∧
    depositOf s'.deposits c.sender + P.sentinelQsr = depositOf s.deposits c.sender ∧
    (∀ a, a ≠ c.sender → depositOf s'.deposits a = depositOf s.deposits a)
  | .revoke, s, c, s', ps =>
    c.amount = 0 ∧ ∃ e, lookup c.sender s.entries = some e ∧ e.revokeTime = 0 ∧
      ps = [⟨c.sender, znnTok, e.znn, .none⟩, ⟨c.sender, qsrTok, e.qsr, .none⟩] ∧
      lookup c.sender s'.entries = some { e with revokeTime := c.now, znn := 0, qsr := 0 } ∧
      (∀ k, k ≠ c.sender → lookup k s'.entries = lookup k s.entries) ∧ s'.deposits = s.deposits
  | .deposit, s, c, s', ps => DepositAsked s.deposits c s'.deposits ps ∧ s'.entries = s.entries
  | .withdraw, s, c, s', ps => WithdrawAsked s.deposits c s'.deposits ps ∧ s'.entries = s.entries

/-- sentinel: every successful outcome of Register / Revoke / DepositQsr / WithdrawQsr is what the call asked for -/
theorem sentinel_method_effect (P : Params) (op : SentinelOp) (s : Sentinel) (c : Ctx) (s' : Sentinel) (ps : List Payout)
    (h : op.method P s c = some (s', ps)) : SentinelAsked P op s c s' ps := by
  cases op with
  | register =>
    obtain ⟨ht, ha, hn, d', hd, rfl, rfl⟩ := registerSentinel_spec.1 h
    obtain ⟨e1, e2⟩ := consumeQsr_exact _ _ _ _ hd
    exact ⟨rfl, ht, ha, hn, lookup_put_self _ _ _, fun k hk => lookup_put_ne hk _ _, e1, e2⟩
  | revoke =>
    obtain ⟨ha, e, he, hrev, _, rfl, rfl⟩ := revokeSentinel_spec.1 h
    exact ⟨ha, e, he, hrev, rfl, lookup_put_self _ _ _, fun k hk => lookup_put_ne hk _ _, rfl⟩
  | deposit =>
    obtain ⟨d, hd, rfl, rfl⟩ := sentinelDeposit_spec.1 h
    exact ⟨depositQsr_effect _ _ _ hd, rfl⟩
  | withdraw =>
    obtain ⟨⟨d, q⟩, hd, rfl, rfl⟩ := sentinelWithdraw_spec.1 h
    exact ⟨withdrawQsr_effect _ _ _ _ hd, rfl⟩

theorem sentinel_applied_call_has_asked_effect (P : Params) (op : SentinelOp) (s : Sentinel) (bal : Bal) (c : Ctx) :
    let r := vmStep (op.method P) s bal c
    (r.status = 1 ∧ SentinelAsked P op s c r.st r.descs ∧
        ∀ tok, tok ≠ zeroTok → r.bal.get tok + payTotal tok r.descs = bal.get tok + (if tok = c.token then c.amount else 0)) ∨
    (r.status = 2 ∧ r.st = s ∧ r.descs = refundOf c ∧ ∀ tok, tok ≠ zeroTok → r.bal.get tok = bal.get tok) :=
  applied_call_has_asked_effect (op.method P) (SentinelAsked P op) (sentinel_method_effect P op) s bal c

/-! ## reward bookkeeping and donations (Model/ContractsJoint.lean) -/

/-- Donate, the reward Update of pillar / sentinel and CollectReward write no entry of the modelled storage; Donate
    and Update emit nothing, CollectReward emits only zero-amount Mint calls to the token contract naming the caller —
    so an applied Donate raises the balance by exactly the sent amount and the others leave it as it was -/
theorem bookkeeping_effect {σ : Type} (s s' : σ) (c : Ctx) (ps : List Payout) :
    ((donate : Method σ) s c = some (s', ps) → s' = s ∧ ps = []) ∧
    (∀ ok, (rewardUpdate ok : Method σ) s c = some (s', ps) → s' = s ∧ ps = [] ∧ c.amount = 0) ∧
    (∀ rw, (collectReward rw : Method σ) s c = some (s', ps) → s' = s ∧ c.amount = 0 ∧ ps ≠ [] ∧
        ∀ p ∈ ps, p.dst = tokenContract ∧ p.amt = 0 ∧ ∃ t a, p.call = .mint t a c.sender ∧ (t, a) ∈ rw) := by
  refine ⟨fun h => ?_, fun ok h => ?_, fun rw h => ?_⟩
  · cases h; exact ⟨rfl, rfl⟩
  · simp only [rewardUpdate, method_inv] at h
    obtain ⟨ha, _, rfl, rfl⟩ := h
    exact ⟨rfl, rfl, ha⟩
  · simp only [collectReward, method_inv] at h
    obtain ⟨ha, hne, rfl, rfl⟩ := h
    refine ⟨rfl, ha, ?_, ?_⟩
    · simpa using hne
    · intro p hp
      obtain ⟨m, hm, rfl⟩ := List.mem_map.1 hp
      exact ⟨rfl, rfl, m.1, m.2, rfl, hm⟩

/-! ## bridge: unwrap requests -/

/-- bridge: UnwrapToken records exactly the signed request (recipient, foreign token, paired token standard,
    amount, registration height = frontier height, not redeemed, not revoked) under (transaction hash, log index) and
    nothing else; Redeem sets the redeemed flag of that request and pays / mints exactly its amount to its recipient;
    RevokeUnwrapRequest sets its revoked flag; no other request moves. -/
theorem bridge_method_effect (s s' : Bridge) (c : Ctx) (ps : List Payout) :
    (∀ canAct sigOk pair tx log to ta amount, unwrapToken canAct sigOk pair tx log to ta amount s c = some (s', ps) →
        ps = [] ∧ lookup (tx, log) s.requests = none ∧ ∃ p, pair = some p ∧
        lookup (tx, log) s'.requests = some ⟨c.height, to, ta, p.tok, amount, 0, 0⟩ ∧
        ∀ k, k ≠ (tx, log) → lookup k s'.requests = lookup k s.requests) ∧
    (∀ canAct pair tx log, redeemUnwrap canAct pair tx log s c = some (s', ps) →
        ∃ r p, lookup (tx, log) s.requests = some r ∧ pair = some p ∧ r.redeemed = 0 ∧ r.revoked = 0 ∧
        lookup (tx, log) s'.requests = some { r with redeemed := 1 } ∧
        (ps = [⟨tokenContract, p.tok, 0, .mint p.tok r.amount r.toAddr⟩] ∨ ps = [⟨r.toAddr, p.tok, r.amount, .none⟩]) ∧
        ∀ k, k ≠ (tx, log) → lookup k s'.requests = lookup k s.requests) ∧
    (∀ isAdmin tx log, revokeUnwrap isAdmin tx log s c = some (s', ps) →
        ps = [] ∧ ∃ r, lookup (tx, log) s.requests = some r ∧ lookup (tx, log) s'.requests = some { r with revoked := 1 } ∧
        ∀ k, k ≠ (tx, log) → lookup k s'.requests = lookup k s.requests) := by
  refine ⟨fun canAct sigOk pair tx log to ta amount h => ?_, fun canAct pair tx log h => ?_, fun isAdmin tx log h => ?_⟩
  · obtain ⟨_, _, _, hex, p, hp, _, _, rfl, rfl⟩ := unwrapToken_spec.1 h
    exact ⟨rfl, hex, p, hp, lookup_put ..⟩
  · obtain ⟨_, _, r, p, hr, hp, h3, h4, _, rfl, rfl⟩ := redeemUnwrap_spec h
    refine ⟨r, p, hr, hp, h3, h4, lookup_put_self _ _ _, ?_, fun k hk => lookup_put_ne hk _ _⟩
    cases p.owned
    · exact Or.inr rfl
    · exact Or.inl rfl
  · obtain ⟨_, r, hr, _, rfl, rfl⟩ := revokeUnwrap_spec.1 h
    exact ⟨rfl, r, hr, lookup_put ..⟩

end ZV.C09Effect
