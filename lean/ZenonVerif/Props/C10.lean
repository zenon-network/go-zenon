import ZenonVerif.Lemmas.Contracts
/-
C10 — locked funds are fully backed and released only to the entitled party, on time.
Model: ZenonVerif/Model/Contracts.lean (one state machine per contract, `vmStep` = generateEmbeddedReceive).
-/
namespace ZV.C10
open ZV.Contracts

/-! ## the constants found in the tree (regenerated on every run) -/

/-- the production constants keep the Go code inside the domain the model covers: no division / modulo by zero
    (fusion unit, stake time unit, pillar and sentinel revoke cycles), a non-empty range of stake durations, every
    admissible stake period has a liquidity weight (`LiquidityStakeWeights[period]` never indexes out of range), and
    exactly the two modelled hash types exist with 32-byte digests. A changed constant that leaves this true passes;
    one that breaks it fails the build. -/
theorem production_constants_in_domain :
    0 < ZV.Gen.CostPerFusionUnitC ∧ 0 < ZV.Gen.CtStakeTimeUnitSec ∧ ZV.Gen.StakeTimeMinSec ≤ ZV.Gen.StakeTimeMaxSec ∧
    ZV.Gen.StakeTimeMaxSec / ZV.Gen.CtStakeTimeUnitSec < ZV.Gen.CtLiquidityStakeWeights.length ∧
    0 < ZV.Gen.PillarEpochLockTime + ZV.Gen.PillarEpochRevokeTime ∧
    0 < ZV.Gen.SentinelLockTimeWindow + ZV.Gen.SentinelRevokeTimeWindow ∧
    ZV.Gen.NumHashTypes = 2 ∧ digestSize ZV.Gen.HashTypeSHA3 = some 32 ∧ digestSize ZV.Gen.HashTypeSHA256 = some 32 ∧
    ZV.Gen.FuseMinAmount % ZV.Gen.CostPerFusionUnitC = 0 := by
  decide

/-! ## plasma -/

/-- T1 (plasma, one receive): whatever the call, its arguments and its outcome (applied or refunded), the sum of the
    fusion entries stays covered by the contract's QSR balance. -/
theorem plasma_backed_step (P : Params) (op : PlasmaOp) (s : Plasma) (bal : Bal) (c : Ctx)
    (h : Backed plasmaOwed s bal) :
    Backed plasmaOwed (vmStep (op.method P) s bal c).st (vmStep (op.method P) s bal c).bal :=
  vmStep_backed (plasma_methodBacked P op) c h

/-- T1 (plasma, all histories): from any backed state, after any sequence of Fuse / CancelFuse receives with any
    senders, amounts, tokens, heights and ids, Σ fusion entries ≤ QSR balance. -/
theorem plasma_backed (P : Params) (ops : List (PlasmaOp × Ctx)) (s : Plasma) (bal : Bal)
    (h : Backed plasmaOwed s bal) :
    Backed plasmaOwed (run (PlasmaOp.method P) (s, bal) ops).1 (run (PlasmaOp.method P) (s, bal) ops).2 :=
  run_backed (plasma_methodBacked P) ops (s, bal) h

/-- T3 (plasma): CancelFuse pays out only if the caller sent no amount, an entry is recorded under (caller, id) — the
    caller is its owner — and its expiration height has been reached; it pays exactly the recorded amount in QSR to
    that owner, and the entry is deleted in the same step. -/
theorem cancelFuse_release_rule (id : Hash) (s s' : Plasma) (c : Ctx) (ps : List Payout)
    (h : cancelFuse id s c = some (s', ps)) :
    ∃ f, lookup (c.sender, id) s.fusions = some f ∧ c.amount = 0 ∧ f.expH ≤ c.height ∧
      ps = [⟨c.sender, qsrTok, f.amount, .none⟩] ∧ lookup (c.sender, id) s'.fusions = none := by
  obtain ⟨ha, f, hf, he, rfl, rfl⟩ := cancelFuse_spec.1 h
  exact ⟨f, hf, ha, he, rfl, lookup_erase_self _ _⟩

/-- the lock recorded by Fuse: the entry is keyed by (sender, send-block hash), holds the sent amount and expires
    `fuseExpiration` momentums after the frontier height of the receive; Fuse pays nothing out -/
theorem fuse_records_lock (P : Params) (b : Addr) (s s' : Plasma) (c : Ctx) (ps : List Payout)
    (h : fuse P b s c = some (s', ps)) :
    lookup (c.sender, c.hash) s'.fusions = some ⟨c.amount, c.height + P.fuseExpiration, b⟩ ∧ ps = [] ∧
      c.token = qsrTok ∧ P.fuseMinAmount ≤ c.amount := by
  obtain ⟨ht, hm, _, rfl, rfl⟩ := fuse_spec.1 h
  exact ⟨lookup_put_self _ _ _, rfl, ht, hm⟩

/-- T4 (plasma): after a successful CancelFuse the same cancel (same owner, same id, any later time) fails. -/
theorem cancelFuse_never_twice (id : Hash) (s s' : Plasma) (c c2 : Ctx) (ps : List Payout)
    (h : cancelFuse id s c = some (s', ps)) (hsame : c2.sender = c.sender) :
    cancelFuse id s' c2 = none := by
  obtain ⟨_, _, _, _, _, hgone⟩ := cancelFuse_release_rule id s s' c ps h
  refine Option.eq_none_iff_forall_ne_some.2 fun r h2 => ?_
  obtain ⟨_, f, hf, _⟩ := cancelFuse_spec.1 h2
  rw [hsame, hgone] at hf; cases hf

/-- T2 (plasma, one receive): with distinct storage keys and a fresh id for a new entry (the id is the hash of the
    send block), every beneficiary's recorded fused total stays equal to the sum of its fusion entries. -/
theorem fused_total_consistent_step (P : Params) (op : PlasmaOp) (s : Plasma) (bal : Bal) (c : Ctx)
    (hfresh : ∀ b, op = .fuse b → lookup (c.sender, c.hash) s.fusions = none)
    (h : PlasmaConsistent s) :
    PlasmaConsistent (vmStep (op.method P) s bal c).st := by
  rcases vmStep_st_cases (op.method P) s bal c with e | ⟨ps, e⟩
  · rw [e]; exact h
  · exact plasma_consistent_method P op s _ c ps hfresh h e

/-- T2 (plasma, all histories): starting from a consistent state, along every history whose Fuse calls carry
    fresh send-block hashes, fused amount = Σ fusion entries for every beneficiary. -/
theorem fused_total_consistent (P : Params) (ops : List (PlasmaOp × Ctx)) (s : Plasma) (bal : Bal)
    (hfresh : FreshIds P (s, bal) ops) (h : PlasmaConsistent s) :
    PlasmaConsistent (run (PlasmaOp.method P) (s, bal) ops).1 := by
  induction ops generalizing s bal with
  | nil => exact h
  | cons oc r ih => exact ih _ _ hfresh.2 (fused_total_consistent_step P oc.1 s bal oc.2 hfresh.1 h)

/-- in a consistent state the subtraction in CancelFuse never goes below zero: the stored fused amount is never a
    wrapped-around 256-bit number -/
theorem cancelFuse_no_wrap (id : Hash) (s : Plasma) (c : Ctx) (f : Fusion) (h : PlasmaConsistent s)
    (hf : lookup (c.sender, id) s.fusions = some f) : f.amount ≤ s.fusedOf f.beneficiary :=
  fused_covers_entry s h hf

/-! ## stake -/

/-- T1 (stake, one receive) -/
theorem stake_backed_step (P : Params) (op : StakeOp) (s : Stake) (bal : Bal) (c : Ctx)
    (h : Backed stakeOwed s bal) :
    Backed stakeOwed (vmStep (op.method P) s bal c).st (vmStep (op.method P) s bal c).bal :=
  vmStep_backed (stake_methodBacked P op) c h

/-- T1 (stake, all histories): Σ stake entries ≤ ZNN balance after any sequence of Stake / Cancel receives. -/
theorem stake_backed (P : Params) (ops : List (StakeOp × Ctx)) (s : Stake) (bal : Bal)
    (h : Backed stakeOwed s bal) :
    Backed stakeOwed (run (StakeOp.method P) (s, bal) ops).1 (run (StakeOp.method P) (s, bal) ops).2 :=
  run_backed (stake_methodBacked P) ops (s, bal) h

/-- T3 (stake): Cancel pays out only if the caller sent no amount, an entry is recorded under (caller, id) and its
    expiration time has passed (`expiration ≤ now`); it pays exactly the recorded amount in ZNN to that caller and
    the entry is left with amount 0 and the revoke time. -/
theorem cancelStake_release_rule (id : Hash) (s s' : Stake) (c : Ctx) (ps : List Payout)
    (h : cancelStake id s c = some (s', ps)) :
    ∃ e, lookup (c.sender, id) s.entries = some e ∧ c.amount = 0 ∧ e.expiration ≤ c.now ∧
      ps = [⟨c.sender, znnTok, e.amount, .none⟩] ∧
      lookup (c.sender, id) s'.entries = some { e with revoke := c.now, amount := 0 } := by
  obtain ⟨ha, e, he, hx, rfl, rfl⟩ := cancelStake_spec.1 h
  exact ⟨e, he, ha, hx, rfl, lookup_put_self _ _ _⟩

/-- the lock recorded by Stake: amount, start = now, expiration = now + duration with a valid duration -/
theorem stake_records_lock (P : Params) (d : Int) (s s' : Stake) (c : Ctx) (ps : List Payout)
    (h : stake P d s c = some (s', ps)) :
    (∃ w, lookup (c.sender, c.hash) s'.entries = some ⟨c.amount, w, c.now, 0, c.now + d⟩) ∧ ps = [] ∧
      c.token = znnTok ∧ P.stakeMinAmount ≤ c.amount ∧ P.stakeTimeMin ≤ d ∧ d ≤ P.stakeTimeMax := by
  obtain ⟨hm, ht, h1, h2, _, rfl, rfl⟩ := stake_spec.1 h
  exact ⟨⟨_, lookup_put_self _ _ _⟩, rfl, ht, hm, h1, h2⟩

/-- T4 (stake): after a successful Cancel a repeated Cancel of the same entry — the entry stays in storage until the
    next reward update — pays exactly 0. -/
theorem cancelStake_never_twice (id : Hash) (s s' s'' : Stake) (c c2 : Ctx) (ps ps2 : List Payout)
    (h : cancelStake id s c = some (s', ps)) (hsame : c2.sender = c.sender)
    (h2 : cancelStake id s' c2 = some (s'', ps2)) :
    ps2 = [⟨c.sender, znnTok, 0, .none⟩] := by
  obtain ⟨e, _, _, _, _, hrec⟩ := cancelStake_release_rule id s s' c ps h
  obtain ⟨e2, he2, _, _, hp2, _⟩ := cancelStake_release_rule id s' s'' c2 ps2 h2
  rw [hsame, hrec] at he2
  cases he2
  rw [hp2, hsame]

/-- the deletion of cancelled stake entries by a reward update touches only entries that hold nothing: what the
    contract owes does not grow, and a later Cancel of the deleted entry fails -/
theorem stake_collect_keeps_backing (s s' : Stake) (k : Addr × Hash) (bal : Bal) (h : s.collect k = some s')
    (hb : Backed stakeOwed s bal) :
    Backed stakeOwed s' bal ∧ ∀ c : Ctx, c.sender = k.1 → cancelStake k.2 s' c = none := by
  unfold Stake.collect at h
  cases he : lookup k s.entries <;> simp only [he, none_eq_some, Option.ite_none_right_eq_some, Option.some.injEq] at h
  obtain ⟨_, rfl⟩ := h
  refine ⟨fun tok ht => Nat.le_trans ?_ (hb tok ht), fun c hc => ?_⟩
  · unfold stakeOwed
    split
    · exact total_erase_le _ _ _
    · exact Nat.le_refl _
  · refine Option.eq_none_iff_forall_ne_some.2 fun r h2 => ?_
    obtain ⟨_, e', he', _⟩ := cancelStake_spec.1 h2
    rw [hc, lookup_erase_self] at he'; cases he'

/-! ## htlc (the hash functions are a parameter `H`) -/

/-- T1 (htlc, one receive): for every token, Σ of the entries in that token stays covered by the balance -/
theorem htlc_backed_step (H : HashFn) (op : HtlcOp) (s : Htlc) (bal : Bal) (c : Ctx)
    (h : Backed htlcOwed s bal) :
    Backed htlcOwed (vmStep (op.method H) s bal c).st (vmStep (op.method H) s bal c).bal :=
  vmStep_backed (htlc_methodBacked H op) c h

/-- T1 (htlc, all histories of Create / Reclaim / Unlock / Deny / AllowProxyUnlock) -/
theorem htlc_backed (H : HashFn) (ops : List (HtlcOp × Ctx)) (s : Htlc) (bal : Bal)
    (h : Backed htlcOwed s bal) :
    Backed htlcOwed (run (HtlcOp.method H) (s, bal) ops).1 (run (HtlcOp.method H) (s, bal) ops).2 :=
  run_backed (htlc_methodBacked H) ops (s, bal) h

/-- the lock recorded by Create: keyed by the send-block hash; time-locked party = sender; the sent token and amount
    (non-zero); not yet expired at the receive; a known hash type with a digest of its size -/
theorem createHtlc_records_lock (a : Addr) (ex : Int) (ty km : Nat) (hl : Bytes) (s s' : Htlc) (c : Ctx) (ps : List Payout)
    (h : createHtlc a ex ty km hl s c = some (s', ps)) :
    lookup c.hash s'.entries = some ⟨c.sender, a, c.token, c.amount, ex, ty, km, hl⟩ ∧ ps = [] ∧
      0 < c.amount ∧ c.now < ex ∧ digestSize ty = some hl.length := by
  obtain ⟨hd, ha, hx, rfl, rfl⟩ := createHtlc_spec.1 h
  exact ⟨lookup_put_self _ _ _, rfl, Nat.pos_of_ne_zero ha, hx, hd⟩

/-- T3 (htlc, Reclaim): pays out only if the caller sent no amount, the entry exists, the caller is its time-locked
    party (the depositor) and the expiration time has been reached; it pays exactly the recorded amount of the recorded
    token to that party and deletes the entry. -/
theorem reclaimHtlc_release_rule (id : Hash) (s s' : Htlc) (c : Ctx) (ps : List Payout)
    (h : reclaimHtlc id s c = some (s', ps)) :
    ∃ e, lookup id s.entries = some e ∧ c.amount = 0 ∧ c.sender = e.timeLocked ∧ e.expiration ≤ c.now ∧
      ps = [⟨e.timeLocked, e.tok, e.amount, .none⟩] ∧ lookup id s'.entries = none := by
  obtain ⟨ha, e, he, ho, hx, rfl, rfl⟩ := reclaimHtlc_spec.1 h
  exact ⟨e, he, ha, ho.symm, hx, rfl, lookup_erase_self _ _⟩

/-- T3 (htlc, Unlock): pays out only if the caller sent no amount, the entry exists, the caller is the hash-locked
    party or that party has not denied proxy unlocks, the entry has not expired (`now < expiration`), the preimage is
    no longer than the entry allows and hashes (with the entry's hash type) to the recorded lock; it pays exactly the
    recorded amount of the recorded token to the hash-locked party — whoever called — and deletes the entry. -/
theorem unlockHtlc_release_rule (H : HashFn) (id : Hash) (pre : Bytes) (s s' : Htlc) (c : Ctx) (ps : List Payout)
    (h : unlockHtlc H id pre s c = some (s', ps)) :
    ∃ e, lookup id s.entries = some e ∧ c.amount = 0 ∧
      (c.sender = e.hashLocked ∨ s.proxyAllowed e.hashLocked = true) ∧ c.now < e.expiration ∧
      pre.length ≤ e.keyMax ∧ H e.hashType pre = e.hashLock ∧
      ps = [⟨e.hashLocked, e.tok, e.amount, .none⟩] ∧ lookup id s'.entries = none := by
  obtain ⟨ha, e, he, hperm, hx, hk, hh, rfl, rfl⟩ := unlockHtlc_spec.1 h
  refine ⟨e, he, ha, ?_, hx, hk, hh, rfl, lookup_erase_self _ _⟩
  cases hpa : s.proxyAllowed e.hashLocked
  · exact Or.inl (hperm hpa)
  · exact Or.inr rfl

/-- T4 (htlc): once an entry has been reclaimed or unlocked, no later Reclaim or Unlock of that id — by anybody, with
    any preimage, at any time — pays anything. -/
theorem htlc_never_twice (H : HashFn) (id : Hash) (pre : Bytes) (s s' : Htlc) (c : Ctx) (ps : List Payout)
    (h : reclaimHtlc id s c = some (s', ps) ∨ unlockHtlc H id pre s c = some (s', ps))
    (c2 : Ctx) (pre2 : Bytes) :
    reclaimHtlc id s' c2 = none ∧ unlockHtlc H id pre2 s' c2 = none := by
  have hgone : lookup id s'.entries = none := by
    rcases h with h | h
    · obtain ⟨_, _, _, _, _, rfl, _⟩ := reclaimHtlc_spec.1 h; exact lookup_erase_self _ _
    · obtain ⟨_, _, _, _, _, _, _, rfl, _⟩ := unlockHtlc_spec.1 h; exact lookup_erase_self _ _
  refine ⟨Option.eq_none_iff_forall_ne_some.2 fun r h2 => ?_, Option.eq_none_iff_forall_ne_some.2 fun r h2 => ?_⟩
  · obtain ⟨_, e, he, _⟩ := reclaimHtlc_spec.1 h2; rw [hgone] at he; cases he
  · obtain ⟨_, e, he, _⟩ := unlockHtlc_spec.1 h2; rw [hgone] at he; cases he

/-- the expiration time separates the two releases: at any instant at most one of Unlock and Reclaim can pay -/
theorem htlc_unlock_reclaim_exclusive (H : HashFn) (id : Hash) (pre : Bytes) (s s1 s2 : Htlc) (c1 c2 : Ctx)
    (p1 p2 : List Payout) (hnow : c1.now = c2.now)
    (h1 : unlockHtlc H id pre s c1 = some (s1, p1)) (h2 : reclaimHtlc id s c2 = some (s2, p2)) : False := by
  obtain ⟨e1, he1, _, _, hlt, _⟩ := unlockHtlc_release_rule H id pre s s1 c1 p1 h1
  obtain ⟨e2, he2, _, _, hge, _⟩ := reclaimHtlc_release_rule id s s2 c2 p2 h2
  rw [he1] at he2; cases he2
  omega

/-- after DenyProxyUnlock by `a`, an Unlock of an entry hash-locked to `a` called by anybody else fails -/
theorem denied_proxy_blocks_third_party (H : HashFn) (s s' : Htlc) (c : Ctx) (ps : List Payout)
    (h : setProxyUnlock false s c = some (s', ps)) (id : Hash) (pre : Bytes) (e : HtlcE) (c2 : Ctx)
    (he : lookup id s'.entries = some e) (hl : e.hashLocked = c.sender) (hother : c2.sender ≠ c.sender) :
    unlockHtlc H id pre s' c2 = none := by
  obtain ⟨_, rfl, _⟩ := setProxyUnlock_spec.1 h
  refine Option.eq_none_iff_forall_ne_some.2 fun r h2 => ?_
  obtain ⟨_, e', he', hperm, _⟩ := unlockHtlc_spec.1 h2
  rw [show lookup id s.entries = some e from he] at he'
  cases he'
  refine hother ((hperm ?_).trans hl)
  rw [hl]; exact getD_put_self ..

/-- the proxy flag is what the LAST Allow / Deny call of an address said, whatever was stored before (an earlier Allow
    does not survive a Deny and vice versa); nobody else's flag, no entry and no funds are touched -/
theorem proxy_flag_last_call_wins (b : Bool) (s s' : Htlc) (c : Ctx) (ps : List Payout)
    (h : setProxyUnlock b s c = some (s', ps)) :
    s'.proxyAllowed c.sender = b ∧ (∀ a, a ≠ c.sender → s'.proxyAllowed a = s.proxyAllowed a) ∧
      s'.entries = s.entries ∧ ps = [] := by
  obtain ⟨_, rfl, rfl⟩ := setProxyUnlock_spec.1 h
  exact ⟨getD_put_self .., fun a ha => getD_put_ne _ ha _, rfl, rfl⟩

/-- Allow followed by Deny: the third party's Unlock fails. The Allow plays no part (its hypotheses are not used): the
    flag is what the last call said, so this is `denied_proxy_blocks_third_party` for the Deny. -/
theorem deny_after_allow_blocks_third_party (H : HashFn) (s s1 s2 : Htlc) (c1 c2 : Ctx) (p1 p2 : List Payout)
    (_h1 : setProxyUnlock true s c1 = some (s1, p1)) (h2 : setProxyUnlock false s1 c2 = some (s2, p2))
    (_hsame : c2.sender = c1.sender) (id : Hash) (pre : Bytes) (e : HtlcE) (c3 : Ctx)
    (he : lookup id s2.entries = some e) (hl : e.hashLocked = c2.sender) (hother : c3.sender ≠ c2.sender) :
    unlockHtlc H id pre s2 c3 = none :=
  denied_proxy_blocks_third_party H s1 s2 c2 p2 h2 id pre e c3 he hl hother

/-- after AllowProxyUnlock by `a` (whatever was stored before, a Deny included) the flag does not stand in the way of
    anybody's Unlock of an entry hash-locked to `a`: the outcome is the one of the hash-locked party's own call -/
theorem allowed_proxy_admits_third_party (H : HashFn) (s s' : Htlc) (c : Ctx) (ps : List Payout)
    (h : setProxyUnlock true s c = some (s', ps)) (id : Hash) (pre : Bytes) (e : HtlcE) (c2 : Ctx)
    (he : lookup id s'.entries = some e) (hl : e.hashLocked = c.sender) :
    unlockHtlc H id pre s' c2 = unlockHtlc H id pre s' { c2 with sender := c.sender } := by
  have hflag := (proxy_flag_last_call_wins true s s' c ps h).1
  simp only [unlockHtlc, he, hl, hflag, Bool.not_true, Bool.false_and, Bool.false_eq_true, if_false]

/-! ## QSR deposits (pillar and sentinel contracts) -/

/-- DepositQsr adds the sent QSR to the sender's deposit and touches nobody else's -/
theorem depositQsr_accumulates (d d' : Deposits) (c : Ctx) (h : depositQsr d c = some d') :
    c.token = qsrTok ∧ 0 < c.amount ∧ depositOf d' c.sender = depositOf d c.sender + c.amount ∧
      ∀ a, a ≠ c.sender → depositOf d' a = depositOf d a := by
  obtain ⟨ht, ha, rfl⟩ := depositQsr_spec.1 h
  exact ⟨ht, Nat.pos_of_ne_zero ha, getD_put_self .., fun a ha => getD_put_ne _ ha _⟩

/-- T3 (QSR deposit): WithdrawQsr pays out only if the caller sent no amount and has a non-zero deposit; it pays exactly
    that deposit, in QSR, to the depositor, and the deposit is deleted in the same step. -/
theorem withdrawQsr_release_rule (d d' : Deposits) (c : Ctx) (ps : List Payout) (h : withdrawQsr d c = some (d', ps)) :
    c.amount = 0 ∧ 0 < depositOf d c.sender ∧ ps = [⟨c.sender, qsrTok, depositOf d c.sender, .none⟩] ∧
      depositOf d' c.sender = 0 := by
  obtain ⟨h1, h2, rfl, rfl⟩ := withdrawQsr_spec.1 h
  exact ⟨h1, Nat.pos_of_ne_zero h2, rfl, getD_erase_self _ _⟩

/-- T4 (QSR deposit): after a successful WithdrawQsr the same account's next WithdrawQsr fails (until it deposits again). -/
theorem withdrawQsr_never_twice (d d' : Deposits) (c c2 : Ctx) (ps : List Payout) (h : withdrawQsr d c = some (d', ps))
    (hsame : c2.sender = c.sender) : withdrawQsr d' c2 = none := by
  obtain ⟨_, _, _, hz⟩ := withdrawQsr_release_rule d d' c ps h
  refine Option.eq_none_iff_forall_ne_some.2 fun r h2 => ?_
  exact (withdrawQsr_spec.1 h2).2.1 (hsame ▸ hz)

/-- a registration consumes no more than what the account has deposited -/
theorem consumeQsr_within_deposit (d d' : Deposits) (owner : Addr) (required : Nat) (h : consumeQsr d owner required = some d') :
    required ≤ depositOf d owner ∧ depositsTotal d' + required ≤ depositsTotal d :=
  consumeQsr_law h

/-! ## pillar -/

/-- T1 (pillar, one receive), for call contexts with a non-zero frontier time: "every active pillar is recorded with
    the collateral that Revoke pays" is preserved, and Σ pillar collateral ≤ ZNN balance, Σ QSR deposits ≤ QSR balance. -/
theorem pillar_backed_step (P : Params) (op : PillarOp) (s : Pillar) (bal : Bal) (c : Ctx) (hnow : c.now ≠ 0)
    (hI : PillarInv P s) (h : Backed pillarOwed s bal) :
    PillarInv P (vmStep (op.method P) s bal c).st ∧
    Backed pillarOwed (vmStep (op.method P) s bal c).st (vmStep (op.method P) s bal c).bal :=
  vmStep_backedI (pillar_methodBackedI P op) c hnow hI h

/-- T1 (pillar, all histories of Register / Revoke / UpdatePillar / Delegate / Undelegate / DepositQsr / WithdrawQsr) -/
theorem pillar_backed (P : Params) (ops : List (PillarOp × Ctx)) (hnow : ∀ oc ∈ ops, oc.2.now ≠ 0) (s : Pillar) (bal : Bal)
    (hI : PillarInv P s) (h : Backed pillarOwed s bal) :
    PillarInv P (run (PillarOp.method P) (s, bal) ops).1 ∧
    Backed pillarOwed (run (PillarOp.method P) (s, bal) ops).1 (run (PillarOp.method P) (s, bal) ops).2 :=
  run_backedI (pillar_methodBackedI P) ops hnow (s, bal) hI h

/-- the lock recorded by Register: exactly PillarStakeAmount of ZNN was sent, the name was free, the QSR cost of the
    next pillar was taken from the sender's own deposit and is burned; the pillar is recorded active with the sender as
    stake address and the frontier time as registration time. -/
theorem registerPillar_records_lock (P : Params) (name : Hash) (producer reward : Addr) (pb pd : Nat) (ok : Bool)
    (s s' : Pillar) (c : Ctx) (ps : List Payout)
    (h : registerPillar P name producer reward pb pd ok s c = some (s', ps)) :
    c.token = znnTok ∧ c.amount = P.pillarStakeAmount ∧ lookup name s.pillars = none ∧
      pillarQsrCost P s ≤ depositOf s.deposits c.sender ∧
      lookup name s'.pillars = some ⟨c.sender, P.pillarStakeAmount, c.now, 0, producer, reward, ZV.Gen.NormalPillarType, pb, pd⟩ ∧
      ps = [⟨tokenContract, qsrTok, pillarQsrCost P s, .burn⟩] := by
  obtain ⟨_, _, _, ht, ha, hn, _, d', hd, rfl, rfl⟩ := registerPillar_spec.1 h
  exact ⟨ht, ha, hn, (consumeQsr_law hd).1, lookup_put_self _ _ _, rfl⟩

/-- T3 (pillar): Revoke pays out only if the caller sent no amount, the pillar exists and is active, the caller is its
    stake address and the frontier time lies in the revoke window; it pays PillarStakeAmount in ZNN to the stake address
    and records the pillar as revoked with amount 0. -/
theorem revokePillar_release_rule (P : Params) (name : Hash) (ok : Bool) (s s' : Pillar) (c : Ctx) (ps : List Payout)
    (h : revokePillar P name ok s c = some (s', ps)) :
    ∃ p, lookup name s.pillars = some p ∧ c.amount = 0 ∧ p.revokeTime = 0 ∧ c.sender = p.stakeAddr ∧
      revocable P.pillarLock P.pillarRevoke p.regTime c.now = true ∧
      ps = [⟨p.stakeAddr, znnTok, P.pillarStakeAmount, .none⟩] ∧
      lookup name s'.pillars = some { p with revokeTime := c.now, amount := 0 } := by
  obtain ⟨_, ha, p, hp, hr, ho, hw, rfl, rfl⟩ := revokePillar_spec.1 h
  exact ⟨p, hp, ha, hr, ho.symm, hw, rfl, lookup_put_self _ _ _⟩

/-- under the invariant, the amount Revoke pays is the amount recorded for the pillar -/
theorem revokePillar_pays_recorded (P : Params) (name : Hash) (ok : Bool) (s s' : Pillar) (c : Ctx) (ps : List Payout)
    (hI : PillarInv P s) (h : revokePillar P name ok s c = some (s', ps)) :
    ∃ p, lookup name s.pillars = some p ∧ ps = [⟨p.stakeAddr, znnTok, p.amount, .none⟩] := by
  obtain ⟨_, _, p, hp, hr, _, _, _, rfl⟩ := revokePillar_spec.1 h
  exact ⟨p, hp, by rw [hI (name, p) (mem_of_lookup hp) hr]⟩

/-- the revoke window: with registration not in the future, a pillar or sentinel is revocable exactly when the time
    since registration, modulo lock + window, has reached the lock time -/
theorem revocable_iff_in_window (lock window reg now : Int) (h0 : reg ≤ now) :
    revocable lock window reg now = true ↔ lock ≤ (now - reg) % (lock + window) := by
  have : (now - reg).tmod (lock + window) = (now - reg) % (lock + window) :=
    Int.tmod_eq_emod_of_nonneg (by omega)
  simp [revocable, this]

/-- T4 (pillar): after a successful Revoke at a non-zero frontier time, every later Revoke of that pillar fails. -/
theorem revokePillar_never_twice (P : Params) (name : Hash) (ok ok2 : Bool) (s s' : Pillar) (c c2 : Ctx) (ps : List Payout)
    (hnow : c.now ≠ 0) (h : revokePillar P name ok s c = some (s', ps)) :
    revokePillar P name ok2 s' c2 = none := by
  obtain ⟨p, _, _, _, _, _, _, hrec⟩ := revokePillar_release_rule P name ok s s' c ps h
  refine Option.eq_none_iff_forall_ne_some.2 fun r h2 => ?_
  obtain ⟨_, _, p2, hp2, hr2, _⟩ := revokePillar_spec.1 h2
  rw [hrec] at hp2; cases hp2
  exact hnow hr2

/-- why the frontier time must be non-zero (on every chain the harness runs it is: the mock genesis of
    chain/genesis/mock/embedded_genesis.go is stamped 1000000000, and frontier times only grow): a revocation stamped with time 0 leaves the
    pillar "active" (`RevokeTime == 0`) and a second Revoke pays the collateral again -/
theorem revokePillar_at_time_zero_pays_twice :
    let P : Params := { Params.production with pillarLock := 0, pillarRevoke := 10 }
    let s : Pillar := { pillars := [(1, ⟨16, P.pillarStakeAmount, 0, 0, 16, 16, 2, 0, 0⟩)] }
    let c : Ctx := ⟨0, 1, 16, 0, zeroTok, 9⟩
    ((revokePillar P 1 true s c).bind fun r => (revokePillar P 1 true r.1 c).map (·.2)) =
      some [⟨16, znnTok, P.pillarStakeAmount, .none⟩] := by
  decide

/-! ## sentinel -/

/-- T1 (sentinel, one receive): Σ ZNN collateral ≤ ZNN balance and Σ QSR collateral + Σ QSR deposits ≤ QSR balance -/
theorem sentinel_backed_step (P : Params) (op : SentinelOp) (s : Sentinel) (bal : Bal) (c : Ctx)
    (h : Backed sentinelOwed s bal) :
    Backed sentinelOwed (vmStep (op.method P) s bal c).st (vmStep (op.method P) s bal c).bal :=
  vmStep_backed (sentinel_methodBacked P op) c h

/-- T1 (sentinel, all histories of Register / Revoke / DepositQsr / WithdrawQsr) -/
theorem sentinel_backed (P : Params) (ops : List (SentinelOp × Ctx)) (s : Sentinel) (bal : Bal)
    (h : Backed sentinelOwed s bal) :
    Backed sentinelOwed (run (SentinelOp.method P) (s, bal) ops).1 (run (SentinelOp.method P) (s, bal) ops).2 :=
  run_backed (sentinel_methodBacked P) ops (s, bal) h

/-- the lock recorded by sentinel Register: exactly SentinelZnnRegisterAmount ZNN sent, SentinelQsrDepositAmount taken
    from the sender's own QSR deposit, no sentinel recorded for the sender before, nothing paid out -/
theorem registerSentinel_records_lock (P : Params) (s s' : Sentinel) (c : Ctx) (ps : List Payout)
    (h : registerSentinel P s c = some (s', ps)) :
    c.token = znnTok ∧ c.amount = P.sentinelZnn ∧ lookup c.sender s.entries = none ∧
      P.sentinelQsr ≤ depositOf s.deposits c.sender ∧
      lookup c.sender s'.entries = some ⟨c.now, 0, P.sentinelZnn, P.sentinelQsr⟩ ∧ ps = [] := by
  obtain ⟨ht, ha, hn, d', hd, rfl, rfl⟩ := registerSentinel_spec.1 h
  exact ⟨ht, ha, hn, (consumeQsr_law hd).1, lookup_put_self _ _ _, rfl⟩

/-- T3 (sentinel): Revoke pays out only if the caller sent no amount, a sentinel is recorded for the caller, it has not
    been revoked and the frontier time lies in the revoke window; it pays exactly the recorded ZNN and QSR amounts to
    the owner and records both as 0 with the revoke time. -/
theorem revokeSentinel_release_rule (P : Params) (s s' : Sentinel) (c : Ctx) (ps : List Payout)
    (h : revokeSentinel P s c = some (s', ps)) :
    ∃ e, lookup c.sender s.entries = some e ∧ c.amount = 0 ∧ e.revokeTime = 0 ∧
      revocable P.sentinelLock P.sentinelRevoke e.regTime c.now = true ∧
      ps = [⟨c.sender, znnTok, e.znn, .none⟩, ⟨c.sender, qsrTok, e.qsr, .none⟩] ∧
      lookup c.sender s'.entries = some { e with revokeTime := c.now, znn := 0, qsr := 0 } := by
  obtain ⟨ha, e, he, hr, hw, rfl, rfl⟩ := revokeSentinel_spec.1 h
  exact ⟨e, he, ha, hr, hw, rfl, lookup_put_self _ _ _⟩

/-- T4 (sentinel): after a successful Revoke a later Revoke by the same owner pays nothing: it fails, or (only if the
    first was stamped with time 0) pays 0 ZNN and 0 QSR. -/
theorem revokeSentinel_never_twice (P : Params) (s s' s'' : Sentinel) (c c2 : Ctx) (ps ps2 : List Payout)
    (h : revokeSentinel P s c = some (s', ps)) (hsame : c2.sender = c.sender)
    (h2 : revokeSentinel P s' c2 = some (s'', ps2)) :
    c.now = 0 ∧ ps2 = [⟨c.sender, znnTok, 0, .none⟩, ⟨c.sender, qsrTok, 0, .none⟩] := by
  obtain ⟨e, _, _, _, _, _, hrec⟩ := revokeSentinel_release_rule P s s' c ps h
  obtain ⟨e2, he2, _, hr2, _, hp2, _⟩ := revokeSentinel_release_rule P s' s'' c2 ps2 h2
  rw [hsame, hrec] at he2
  cases he2
  exact ⟨hr2, by rw [hp2, hsame]⟩

/-! ## liquidity (stake entries only) -/

/-- T1 (liquidity stakes, one receive): per token, Σ stake entries ≤ balance — as long as only LiquidityStake and
    CancelLiquidityStake move the balance (see `liquidity_burn_breaks_backing` for what the model leaves out) -/
theorem liquidity_backed_step (P : Params) (op : LiquidityOp) (s : Liquidity) (bal : Bal) (c : Ctx)
    (h : Backed liquidityOwed s bal) :
    Backed liquidityOwed (vmStep (op.method P) s bal c).st (vmStep (op.method P) s bal c).bal :=
  vmStep_backed (liquidity_methodBacked P op) c h

/-- T1 (liquidity stakes, all histories of LiquidityStake / CancelLiquidityStake) -/
theorem liquidity_backed_partial (P : Params) (ops : List (LiquidityOp × Ctx)) (s : Liquidity) (bal : Bal)
    (h : Backed liquidityOwed s bal) :
    Backed liquidityOwed (run (LiquidityOp.method P) (s, bal) ops).1 (run (LiquidityOp.method P) (s, bal) ops).2 :=
  run_backed (liquidity_methodBacked P) ops (s, bal) h

/-- negative witness (finding F14): the liquidity contract keeps staked principal and reward funds in one balance.
    With ZNN configured as a stakeable token, a BurnZnn by the spork address (Fund behaves alike) removes staked ZNN:
    the contract then owes more than it holds and the matured cancel of the staker is refused for lack of funds. -/
theorem liquidity_burn_breaks_backing :
    let P : Params := { Params.production with stakeTimeUnit := 100, stakeTimeMin := 100, stakeTimeMax := 1200 }
    let s0 : Liquidity := { tuples := [(znnTok, 1)] }
    let r1 := vmStep (liquidityStake P 100) s0 [] ⟨1000, 1, 16, 5, znnTok, 7⟩
    let r2 := vmStep (liquidityBurnZnn 5 true) r1.st r1.bal ⟨1010, 2, 20, 0, zeroTok, 8⟩
    let r3 := vmStep (cancelLiquidityStake 7) r2.st r2.bal ⟨1100, 3, 16, 0, zeroTok, 9⟩
    r1.status = 1 ∧ r2.status = 1 ∧ liquidityOwed r2.st znnTok = 5 ∧ r2.bal.get znnTok = 0 ∧ r3.status = 2 := by
  decide

/-- T3 (liquidity stake): CancelLiquidityStake pays out only to the caller under whose address the entry is recorded,
    only when the expiration time has passed, exactly the recorded amount of the recorded token; the entry is left
    with amount 0. -/
theorem cancelLiquidityStake_release_rule (id : Hash) (s s' : Liquidity) (c : Ctx) (ps : List Payout)
    (h : cancelLiquidityStake id s c = some (s', ps)) :
    ∃ e, lookup (c.sender, id) s.entries = some e ∧ c.amount = 0 ∧ e.expiration ≤ c.now ∧
      ps = [⟨c.sender, e.tok, e.amount, .none⟩] ∧
      lookup (c.sender, id) s'.entries = some { e with revoke := c.now, amount := 0 } := by
  obtain ⟨ha, e, he, hx, rfl, rfl⟩ := cancelLiquidityStake_spec.1 h
  exact ⟨e, he, ha, hx, rfl, lookup_put_self _ _ _⟩

/-- T4 (liquidity stake): a repeated cancel of a cancelled entry pays exactly 0 -/
theorem cancelLiquidityStake_never_twice (id : Hash) (s s' s'' : Liquidity) (c c2 : Ctx) (ps ps2 : List Payout)
    (h : cancelLiquidityStake id s c = some (s', ps)) (hsame : c2.sender = c.sender)
    (h2 : cancelLiquidityStake id s' c2 = some (s'', ps2)) :
    ∃ tok, ps2 = [⟨c.sender, tok, 0, .none⟩] := by
  obtain ⟨e, _, _, _, _, hrec⟩ := cancelLiquidityStake_release_rule id s s' c ps h
  obtain ⟨e2, he2, _, _, hp2, _⟩ := cancelLiquidityStake_release_rule id s' s'' c2 ps2 h2
  rw [hsame, hrec] at he2
  cases he2
  exact ⟨e.tok, by rw [hp2, hsame]⟩

/-! ## bridge: unwrap requests (T5) — configuration reads and the TSS signature check are oracle inputs -/

/-- an unwrap request is registered only if the bridge may act, no request exists yet for (transaction hash, log index),
    a redeemable token pair is configured for the token address and the TSS signature over the request verifies; the
    recorded request carries the recipient and amount named in the signed call, the frontier height, and is neither
    redeemed nor revoked; nothing is paid. -/
theorem unwrapToken_records_request (canAct sigOk : Bool) (pair : Option PairInfo) (tx : Hash) (log : Nat) (to : Addr)
    (ta amount : Nat) (s s' : Bridge) (c : Ctx) (ps : List Payout)
    (h : unwrapToken canAct sigOk pair tx log to ta amount s c = some (s', ps)) :
    canAct = true ∧ sigOk = true ∧ 0 < amount ∧ c.amount = 0 ∧ lookup (tx, log) s.requests = none ∧
      ∃ p, pair = some p ∧ p.redeemable = true ∧
        lookup (tx, log) s'.requests = some ⟨c.height, to, ta, p.tok, amount, 0, 0⟩ ∧ ps = [] := by
  obtain ⟨h3, h4, h1, h5, p, hp, hr, h2, rfl, rfl⟩ := unwrapToken_spec.1 h
  exact ⟨h1, h2, Nat.pos_of_ne_zero h3, h4, h5, p, hp, hr, lookup_put_self _ _ _, rfl⟩

/-- a registered request — open, redeemed or revoked — can never be registered again (so its flags are never reset) -/
theorem unwrapToken_keeps_existing (canAct sigOk : Bool) (pair : Option PairInfo) (tx : Hash) (log : Nat) (to : Addr)
    (ta amount : Nat) (s : Bridge) (c : Ctx) (r : UnwrapReq) (hr : lookup (tx, log) s.requests = some r) :
    unwrapToken canAct sigOk pair tx log to ta amount s c = none := by
  refine Option.eq_none_iff_forall_ne_some.2 fun x h => ?_
  have := (unwrapToken_spec.1 h).2.2.2.1
  rw [hr] at this; cases this

/-- T5 (bridge redeem rule): Redeem pays out only if the caller sent no amount, the bridge may act, the request exists
    and is neither redeemed nor revoked, a token pair is still configured for it and at least `redeemDelay` momentums
    have passed since its registration; it pays — or, for a token owned by the bridge, has the token contract mint —
    exactly the request's amount of the pair's token to the recipient named in the signed request, whoever the caller
    is, and flags the request as redeemed in the same step. -/
theorem redeem_release_rule (canAct : Bool) (pair : Option PairInfo) (tx : Hash) (log : Nat) (s s' : Bridge) (c : Ctx)
    (ps : List Payout) (h : redeemUnwrap canAct pair tx log s c = some (s', ps)) :
    ∃ r p, lookup (tx, log) s.requests = some r ∧ pair = some p ∧ canAct = true ∧ c.amount = 0 ∧
      r.redeemed = 0 ∧ r.revoked = 0 ∧ p.redeemDelay ≤ c.height - r.regHeight ∧
      ps = [if p.owned then ⟨tokenContract, p.tok, 0, .mint p.tok r.amount r.toAddr⟩ else ⟨r.toAddr, p.tok, r.amount, .none⟩] ∧
      lookup (tx, log) s'.requests = some { r with redeemed := 1 } := by
  obtain ⟨h1, h2, r, p, hr, hp, h3, h4, h5, rfl, hps⟩ := redeemUnwrap_spec h
  exact ⟨r, p, hr, hp, h1, h2, h3, h4, h5, hps, lookup_put_self _ _ _⟩

/-- T5 (never twice): once redeemed, no later Redeem of that request — by anybody, under any configuration — pays. -/
theorem redeem_never_twice (canAct canAct2 : Bool) (pair pair2 : Option PairInfo) (tx : Hash) (log : Nat)
    (s s' : Bridge) (c c2 : Ctx) (ps : List Payout) (h : redeemUnwrap canAct pair tx log s c = some (s', ps)) :
    redeemUnwrap canAct2 pair2 tx log s' c2 = none := by
  obtain ⟨r, p, _, _, _, _, _, _, _, _, hrec⟩ := redeem_release_rule canAct pair tx log s s' c ps h
  refine Option.eq_none_iff_forall_ne_some.2 fun x h2 => ?_
  obtain ⟨_, _, r2, _, hr2, _, h0, _⟩ := redeemUnwrap_spec h2
  rw [hrec] at hr2; cases hr2
  exact absurd h0 (Nat.succ_ne_zero 0)

/-- a request revoked by the administrator is never redeemed -/
theorem revoked_never_redeemed (isAdmin canAct2 : Bool) (pair2 : Option PairInfo) (tx : Hash) (log : Nat)
    (s s' : Bridge) (c c2 : Ctx) (ps : List Payout) (h : revokeUnwrap isAdmin tx log s c = some (s', ps)) :
    isAdmin = true ∧ ps = [] ∧ redeemUnwrap canAct2 pair2 tx log s' c2 = none := by
  obtain ⟨_, r, hr, ha, rfl, rfl⟩ := revokeUnwrap_spec.1 h
  refine ⟨ha, rfl, Option.eq_none_iff_forall_ne_some.2 fun x h2 => ?_⟩
  obtain ⟨_, _, r2, _, hr2, _, _, h0, _⟩ := redeemUnwrap_spec h2
  rw [lookup_put_self] at hr2; cases hr2
  exact absurd h0 (Nat.succ_ne_zero 0)

/-! ## the hypotheses are satisfiable -/

/-- a backed plasma state in which U(=16) owns a matured fusion: the cancel pays, a second cancel fails -/
example :
    let s : Plasma := { fusions := [((16, 7), ⟨50, 10, 17⟩)], fused := [(17, 50)] }
    let c : Ctx := ⟨1000, 10, 16, 0, zeroTok, 99⟩
    Backed plasmaOwed s [(qsrTok, 50)] ∧ PlasmaConsistent s ∧
    (cancelFuse 7 s c).map (·.2) = some [⟨16, qsrTok, 50, .none⟩] ∧
    (vmStep (cancelFuse 7) s [(qsrTok, 50)] c).status = 1 ∧
    (vmStep (cancelFuse 7) s [(qsrTok, 50)] { c with height := 9 }).status = 2 := by
  refine ⟨?_, ⟨by simp [NodupKeys], ?_⟩, by decide, by decide, by decide⟩
  · intro tok _
    by_cases h : tok = qsrTok
    · subst h; decide
    · simp [plasmaOwed, h]
  · intro b
    by_cases h : 17 = b
    · subst h; decide
    · simp [Plasma.fusedOf, Plasma.entriesFor, lookup, total, h]

/-- an htlc of 5 ZNN from 16 to 17, expiring at 1000, lock = H(preimage [1,2]); 18 unlocks it by proxy before expiry and the
    amount goes to 17; at time 1000 only the reclaim by 16 pays -/
example :
    let H : HashFn := fun _ p => p ++ [0]
    let s : Htlc := { entries := [(5, ⟨16, 17, znnTok, 5, 1000, 0, 32, [1, 2, 0]⟩)] }
    (unlockHtlc H 5 [1, 2] s ⟨990, 9, 18, 0, zeroTok, 77⟩).map (·.2) = some [⟨17, znnTok, 5, .none⟩] ∧
    unlockHtlc H 5 [1, 2] s ⟨1000, 9, 17, 0, zeroTok, 77⟩ = none ∧
    unlockHtlc H 5 [1, 3] s ⟨990, 9, 17, 0, zeroTok, 77⟩ = none ∧
    reclaimHtlc 5 s ⟨990, 9, 16, 0, zeroTok, 77⟩ = none ∧
    (reclaimHtlc 5 s ⟨1000, 9, 16, 0, zeroTok, 77⟩).map (·.2) = some [⟨16, znnTok, 5, .none⟩] ∧
    reclaimHtlc 5 s ⟨1000, 9, 17, 0, zeroTok, 77⟩ = none := by
  decide

/-- pillar: 16 deposits the cost, registers, and can revoke only inside the window (lock 100, window 50) -/
example :
    let P : Params := { Params.production with pillarStakeAmount := 15, pillarQsrBase := 150, pillarQsrIncrease := 10,
                                               pillarLock := 100, pillarRevoke := 50 }
    let s0 : Pillar := {}
    let r1 := vmStep pillarDeposit s0 [] ⟨1000, 1, 16, 150, qsrTok, 1⟩
    let r2 := vmStep (registerPillar P 7 20 16 0 100 true) r1.st r1.bal ⟨1010, 2, 16, 15, znnTok, 2⟩
    let early := vmStep (revokePillar P 7 true) r2.st r2.bal ⟨1100, 3, 16, 0, zeroTok, 3⟩
    let r3 := vmStep (revokePillar P 7 true) r2.st r2.bal ⟨1110, 4, 16, 0, zeroTok, 4⟩
    let again := vmStep (revokePillar P 7 true) r3.st r3.bal ⟨1120, 5, 16, 0, zeroTok, 5⟩
    PillarInv P s0 ∧ Backed pillarOwed s0 [] ∧
    r1.status = 1 ∧ r2.status = 1 ∧ r2.descs = [⟨tokenContract, qsrTok, 150, .burn⟩] ∧
    early.status = 2 ∧ r3.status = 1 ∧ r3.descs = [⟨16, znnTok, 15, .none⟩] ∧ again.status = 2 := by
  refine ⟨?_, ?_, by decide, by decide, by decide, by decide, by decide, by decide, by decide⟩
  · intro x hx; simp at hx
  · intro tok _; simp [pillarOwed, total, depositsTotal]

/-- sentinel: deposit, register, revoke inside the window pays both collaterals back -/
example :
    let P : Params := { Params.production with sentinelZnn := 5, sentinelQsr := 50, sentinelLock := 100, sentinelRevoke := 50 }
    let r1 := vmStep sentinelDeposit ({} : Sentinel) [] ⟨1000, 1, 16, 60, qsrTok, 1⟩
    let r2 := vmStep (registerSentinel P) r1.st r1.bal ⟨1010, 2, 16, 5, znnTok, 2⟩
    let r3 := vmStep (revokeSentinel P) r2.st r2.bal ⟨1110, 3, 16, 0, zeroTok, 3⟩
    let r4 := vmStep sentinelWithdraw r3.st r3.bal ⟨1120, 4, 16, 0, zeroTok, 4⟩
    r2.status = 1 ∧ r3.descs = [⟨16, znnTok, 5, .none⟩, ⟨16, qsrTok, 50, .none⟩] ∧
    r4.descs = [⟨16, qsrTok, 10, .none⟩] ∧ r4.bal.get qsrTok = 0 ∧ r4.bal.get znnTok = 0 := by
  decide

/-- bridge: a signed unwrap of 7 ZNN for 17, redeem delay 3: too early at +2, paid to 17 at +3 when 18 calls, refused afterwards;
    for a bridge-owned token the token contract is asked to mint instead -/
example :
    let pair : PairInfo := ⟨znnTok, true, false, 3⟩
    let r1 := vmStep (unwrapToken true true (some pair) 5 0 17 99 7) ({} : Bridge) [(znnTok, 10)] ⟨1000, 10, 16, 0, zeroTok, 1⟩
    let early := vmStep (redeemUnwrap true (some pair) 5 0) r1.st r1.bal ⟨1020, 12, 18, 0, zeroTok, 2⟩
    let r2 := vmStep (redeemUnwrap true (some pair) 5 0) r1.st r1.bal ⟨1030, 13, 18, 0, zeroTok, 3⟩
    let again := vmStep (redeemUnwrap true (some pair) 5 0) r2.st r2.bal ⟨1040, 14, 17, 0, zeroTok, 4⟩
    let owned := vmStep (redeemUnwrap true (some ⟨9, true, true, 3⟩) 5 0) r1.st r1.bal ⟨1030, 13, 18, 0, zeroTok, 3⟩
    r1.status = 1 ∧ early.status = 2 ∧ r2.status = 1 ∧ r2.descs = [⟨17, znnTok, 7, .none⟩] ∧ r2.bal.get znnTok = 3 ∧
    again.status = 2 ∧ owned.descs = [⟨tokenContract, 9, 0, .mint 9 7 17⟩] ∧
    (vmStep (unwrapToken true false (some pair) 6 0 17 99 7) ({} : Bridge) [] ⟨1000, 10, 16, 0, zeroTok, 1⟩).status = 2 := by
  decide

end ZV.C10
