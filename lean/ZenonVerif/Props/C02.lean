import ZenonVerif.Props.C06
import ZenonVerif.Props.C07
import ZenonVerif.Gen.Nondet
/-
C02 — replay determinism: same momentums in, byte-identical ledger out.
The manager-level statements are corollaries of the C06/C07 refinement; they are restated here in the
vocabulary of the property (two nodes, same accepted sequence, any delivery history).
-/
namespace ZV.C02
open ZV ZV.Kv ZV.KvLogic ZV.Versioned

/-- T1 `commit_determinism`: two nodes whose stores hold the same sequence of accepted commits (identifier and
    patch of every momentum) answer every lookup, existence test and ordered scan identically, at the frontier and at
    every historical identifier — whatever else happened on the way (refused stale-parent commits, commits that were
    rolled back again, i.e. any batching, gossip or reorganisation history), because `Reach` allows all of these. -/
theorem commit_determinism {s t : Ldb} {h : List Ver} (hs : Reach s h) (ht : Reach t h) : ObsEq s t :=
  C06.same_history_same_obs hs ht

/-- T1′ `state_is_fold_of_patches`: the frontier content is the fold of the accepted momentums' patches over the empty
    store, oldest first — nothing else (caches, arrival order, restarts) enters. The `sync` stream checks the same
    equation on the real nodes: the model fed with the real redo patches has the followers' frontier digest. -/
theorem state_is_fold_of_patches {s : Ldb} {h : List Ver} (hr : Reach s h) :
    (h.reverse.map Ver.patch).foldl applyP Store.empty = abs s.frontier :=
  (C07.patches_replay hr).2

/-- T2 `view_independent_of_frontier`: the view a block is executed in (opened at the momentum it acknowledges) is
    the same on a node whose frontier is that momentum and on a node that is any number of commits ahead. -/
theorem view_independent_of_frontier {s s' : Ldb} {h h' : List Ver} (hr : Reach s h) (hr' : Reach s' h')
    {v : Ver} (hv : v ∈ h) (hv' : v ∈ h') :
    ∃ r r', s.get v.id = some r ∧ s'.get v.id = some r' ∧ ∀ k, r.get k = r'.get k := by
  obtain ⟨r, r', h1, h2, h3, _⟩ := C07.view_immutable hr hr' hv hv'
  exact ⟨r, r', h1, h2, h3⟩

/-- T3 `changes_order_independent`: the change set of a block (whose hash is `ChangesHash`) depends only on the final
    overlay of its writes, not on the order in which they were issued. -/
theorem changes_order_independent (p q : Patch)
    (h : ∀ k, rget (edApply [] p) k = rget (edApply [] q) k) :
    edChanges (edApply [] p) = edChanges (edApply [] q) :=
  C07.changes_order_independent p q h

/-- reviewed list of node-local nondeterminism sources in the packages that decide a block's effect: the consensus
    work loop (wall clock, goroutine, select — scheduling of production only), the election's PRNG seeded from chain
    data, and the momentum verifier's "not in the future" clock check. -/
def reviewedNondetSites : List String := [
  "consensus/consensus.go:consensus.Start:go",
  "consensus/consensus.go:consensus.work:select", "consensus/consensus.go:consensus.work:select",
  "consensus/consensus.go:consensus.work:select", "consensus/consensus.go:consensus.work:select",
  "consensus/consensus.go:consensus.work:select",
  "consensus/consensus.go:consensus.work:time.Now", "consensus/consensus.go:consensus.work:time.Now",
  "consensus/consensus.go:consensus.work:time.Now", "consensus/consensus.go:consensus.work:time.Now",
  "consensus/election_algorithm.go:electionAlgorithm.filterRandom:rand.New",
  "consensus/election_algorithm.go:electionAlgorithm.filterRandom:rand.New",
  "consensus/election_algorithm.go:electionAlgorithm.filterRandom:rand.New",
  "consensus/election_algorithm.go:electionAlgorithm.filterRandom:rand.NewSource",
  "consensus/election_algorithm.go:electionAlgorithm.filterRandom:rand.NewSource",
  "consensus/election_algorithm.go:electionAlgorithm.filterRandom:rand.NewSource",
  "consensus/election_algorithm.go:electionAlgorithm.shuffleOrder:rand.New",
  "consensus/election_algorithm.go:electionAlgorithm.shuffleOrder:rand.NewSource",
  "verifier/momentum.go:rawMomentumVerifier.timestamp:time.Now"]

/-- generated fact: the tree has no other wall-clock / random / environment / goroutine site in vm, verifier, chain,
    consensus, common/db, common/types (regenerated from the AST on every run) -/
theorem nondet_sites_reviewed : Gen.nondetSites = reviewedNondetSites := rfl

end ZV.C02
