import ZenonVerif.Props.C12
/-
C12, plasma accounting across reorganisations and pool operations: the plasma available to a block is a function of
the chain AT THE ACKNOWLEDGED MOMENTUM and of the account's blocks that are not confirmed as of that momentum - no
history (an abandoned branch, what the pool held before a rollback) enters. The `plasma-avail` lines of the
plasma-reorg stream compare `availableOnChain`, fed with facts the harness reads from the chain itself (replay of the
plasma contract's receives, FusedPlasma fields and confirmation heights of the account's blocks), with the real
vm.AvailablePlasma after every rollback / side-chain insertion / re-delivery.
-/
namespace ZV.C12Reorg
open ZV ZV.Pow

private theorem sumNat_append (a b : List Nat) : sumNat (a ++ b) = sumNat a + sumNat b := by
  induction a with
  | nil => simp [sumNat]
  | cons x xs ih => simp [sumNat, ih]; omega

/-- the counter of the chain = what is confirmed as of h + what is not -/
theorem uncommitted_split (blocks : List AccBlk) (h : Nat) :
    uncommittedOf blocks = committedAt blocks h + uncommittedOf (blocks.filter (fun b => !confirmedBy h b)) := by
  unfold uncommittedOf committedAt
  induction blocks with
  | nil => simp [sumNat]
  | cons b bs ih =>
    cases hb : confirmedBy h b <;> simp [List.filter, hb, sumNat, ih] <;> omega

/-- the committed figure cancels: only the plasma of the blocks NOT confirmed as of the acknowledged momentum is subtracted -/
theorem available_committed_cancels (q : Int) (c u : Nat) : availablePlasma q c (c + u) = availablePlasma q 0 u := by
  unfold availablePlasma
  have : ((fusedAmountToPlasma q : Nat) : Int) + (c : Int) - ((c + u : Nat) : Int)
       = ((fusedAmountToPlasma q : Nat) : Int) + ((0 : Nat) : Int) - (u : Int) := by
    push_cast; omega
  simp only [this]

/-- HISTORY-FREE: availability on a chain is `availablePlasma` of the QSR fused as of the acknowledged momentum and of
    the fused plasma of the account's blocks that momentum does not confirm - nothing else -/
theorem available_history_free (genesis : Int) (evs : List FuseEv) (blocks : List AccBlk) (h : Nat) :
    availableOnChain genesis evs blocks h
      = availablePlasma (fusedQsrAt genesis evs h) 0 (uncommittedOf (blocks.filter (fun b => !confirmedBy h b))) := by
  unfold availableOnChain
  rw [uncommitted_split blocks h, available_committed_cancels]

/-- two chains (the abandoned and the adopted one, or the chain of a reorganised node and of a node that only ever saw
    the adopted chain) that hold the same plasma-contract receives up to the acknowledged momentum and the same blocks
    of the account that are unconfirmed as of it give the same availability - whatever else they hold above it -/
theorem available_same_on_agreeing_chains (genesis : Int) (evs₁ evs₂ : List FuseEv) (b₁ b₂ : List AccBlk) (h : Nat)
    (hev : evs₁.filter (fun e => e.height ≤ h) = evs₂.filter (fun e => e.height ≤ h))
    (hb : b₁.filter (fun b => !confirmedBy h b) = b₂.filter (fun b => !confirmedBy h b)) :
    availableOnChain genesis evs₁ b₁ h = availableOnChain genesis evs₂ b₂ h := by
  rw [available_history_free, available_history_free, hb]
  unfold fusedQsrAt
  rw [hev]

/-- a fusion that exists only ABOVE the acknowledged momentum (or on another branch: not among the receives of this
    chain at all) gives nothing: with no QSR fused as of h a block carrying fused plasma is never accepted -/
theorem no_plasma_without_fusion_on_chain (genesis : Int) (evs : List FuseEv) (blocks : List AccBlk) (h : Nat)
    (fused difficulty base total : Nat) (hq : fusedQsrAt genesis evs h ≤ 0) (hf : 0 < fused) :
    enoughPlasma (fusedQsrAt genesis evs h) (committedAt blocks h) (uncommittedOf blocks) fused difficulty base ≠ .ok total := by
  intro hok
  -- an accepted block's fused plasma fits into what is fused (nothing) plus the confirmed minus the chain's counter
  have hs := (C12.enough_plasma_sound _ _ _ _ _ _ _ hok).1
  rw [fusedAmountToPlasma, if_pos hq, uncommitted_split blocks h] at hs
  omega

/-- non-vacuity: 10 QSR fused at height 3 of branch A give one block's worth as of
    height 3; on a chain without that receive the same block has nothing -/
example : availableOnChain 0 [⟨3, 1000000000⟩] [] 3 = some 21000 := by decide
example : availableOnChain 0 [] [] 3 = some 0 := by decide
example : availableOnChain 0 [⟨3, 1000000000⟩] [] 2 = some 0 := by decide
example : availableOnChain 0 [⟨3, 2000000000⟩] [⟨some 3, 21000⟩, ⟨none, 21000⟩] 4 = some 21000 := by decide
example : availableOnChain 0 [⟨3, 2000000000⟩, ⟨5, -2000000000⟩] [⟨none, 21000⟩] 5 = none := by decide

end ZV.C12Reorg
