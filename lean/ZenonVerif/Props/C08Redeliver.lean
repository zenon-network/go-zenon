import ZenonVerif.Lemmas.CrashRedeliver
import ZenonVerif.Props.C08
/-
C08, continuation clause — "continuing from there (re-delivering the momentum, or a competing one) leads to the same state a
node without the crash reaches", for the continuation the crash stream drives on every image: the momentum is rolled
back and THE SAME momentum (same identifier, same content) is delivered again. Helper lemmas in Lemmas/CrashRedeliver.lean.
-/
namespace ZV.C08Redeliver
open ZV ZV.Kv ZV.KvLogic ZV.Versioned ZV.Crash ZV.CrashRedeliver

/-- T3 `pop_then_readd`: commit a momentum on the frontier, roll it back, deliver the very same momentum again: the rollback
    succeeds, leaves the frontier pointer on the parent, and the second delivery is NOT ignored - it reaches exactly the
    state after the first delivery: every raw key of the frontier key space (deletion markers included), the stored redo
    records and the stored undo records. -/
theorem pop_then_readd (s s' : Ldb) (prev id : Id) (ops : Patch)
    (hs : Sorted s.frontier) (hp : prev = s.frontierId) (hb : id.height < two64)
    (h : s.add prev id ops = some s') :
    ∃ s'', s'.pop = some s'' ∧ s''.frontierId = prev ∧ s''.add prev id ops = some s' := by
  subst hp
  rw [add_frontier] at h
  cases h
  let patch := ops ++ frontierOps id
  let rb := rollbackPatch (frontView s) patch
  let s'' : Ldb := { frontier := edApply (edApply s.frontier patch) rb,
                     rollbacks := s.rollbacks.filter (fun e => e.1 ≠ id.height),
                     patches := s.patches.filter (fun e => e.1 ≠ id.height) }
  have hfid'' : s''.frontierId = s.frontierId := by
    show frontierIdOf (abs (edApply _ rb)) = _
    rw [abs_edApply, frontierIdOf_rollback, frontierIdOf_frontView]
  -- the view of the second delivery reads what the view of the first one read
  have hview : frontView s'' = frontView s := by
    by_cases hz : s.frontierId.isZero = true
    · rw [frontView_of_zero hz, frontView_of_zero (hfid''.symm ▸ hz)]
    · rw [frontView_of_not_zero (hfid''.symm ▸ hz)]
      show abs (edApply (edApply s.frontier patch) rb) = _
      rw [frontView_of_not_zero hz, abs_edApply, abs_edApply]
      exact (frontView_of_not_zero hz).symm ▸ applyP_undo _ _
  refine ⟨s'', ?_, hfid'', ?_⟩
  · unfold Ldb.pop
    simp only [frontierId_commit _ _ _ _ hb, lookupH, if_true, filter_ne_idem]
    rfl
  · rw [← hfid'', add_frontier, hview]
    simp only [s'', List.filter_filter, Bool.and_self]
    rw [edApply_undo_redo hs _ _ (keys_rollbackPatch _ _)]

/-- T4 `redeliver_popped_after_crash`: the process dies at any point k of the rollback of the momentum that was committed
    last; the restarted node is in the state before or after the rollback (T1); once the rollback is complete (re-issued when
    the crash left the state before), delivering the rolled back momentum itself again restores exactly the state before the
    rollback - what a node that never rolled back holds. -/
theorem redeliver_popped_after_crash (s s' : Ldb) (prev id : Id) (ops : Patch)
    (hs : Sorted s.frontier) (hp : prev = s.frontierId) (hb : id.height < two64)
    (h : s.add prev id ops = some s') (k : Nat) :
    ∃ s'', s'.pop = some s'' ∧
      (afterWrites s' (planPop s') k = s' ∨ afterWrites s' (planPop s') k = s'') ∧
      ((if afterWrites s' (planPop s') k = s'' then some s'' else (afterWrites s' (planPop s') k).pop).bind
        (fun d => d.add prev id ops) = some s') := by
  obtain ⟨s'', hpop, _, hadd⟩ := pop_then_readd s s' prev id ops hs hp hb h
  have hat := C08.crash_atomic_pop s' s'' hpop k
  refine ⟨s'', hpop, hat, ?_⟩
  rcases hat with h1 | h1
  · rw [h1]
    by_cases he : s' = s''
    · simp [he, hadd]
    · simp [he, hpop, hadd]
  · rw [h1]; simp [hadd]

/-- a first commit, then a commit that overwrites, deletes and puts the empty value -/
def exOps : Patch := [Op.put [3] [7], Op.del [4], Op.put [5] []]
def ex1 : Option Ldb := Ldb.empty.add Id.zero ⟨1, [9]⟩ [Op.put [3] [1], Op.put [4] [2]]
def ex2 : Option Ldb := ex1.bind (fun s => s.add ⟨1, [9]⟩ ⟨2, [8]⟩ exOps)

/-- hypotheses are satisfiable and the statement is not about the empty patch: commit, rollback, the same commit again
    on top of a first commit; the rollback does not give back the raw store before (deletion markers stay) -/
example : ex2.isSome = true ∧
    ex2.bind (fun s2 => s2.pop.bind (fun d => d.add ⟨1, [9]⟩ ⟨2, [8]⟩ exOps)) = ex2 ∧
    ex2.bind (fun s2 => s2.pop) ≠ ex1 := by decide +kernel

end ZV.C08Redeliver
