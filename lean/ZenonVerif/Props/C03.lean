import ZenonVerif.Model.Verify
import ZenonVerif.Lemmas.Verify
/-
C03 — only valid account blocks are ever accepted: property theorems only.

`verifyBlock` (Model/Verify.lean) is `Supervisor.ApplyBlock` as a pure decision over the block's fields and the
context facts; `ValidBlock` below is the property's sentence, clause by clause, over the same fields and facts.
-/
namespace ZV.C03
open ZV ZV.Verify

/-- The property's sentence. Nothing here mentions `verifyBlock`. -/
structure ValidBlock (c : Cand) (f : Facts) : Prop where
  /-- an acceptable kind: a send or receive of a user account, or the receive of a contract account -/
  kind : (c.b.emb = false ∧ (c.b.bt = Gen.BlockTypeUserSend ∨ c.b.bt = Gen.BlockTypeUserReceive)) ∨
         (c.b.emb = true ∧ c.b.bt = Gen.BlockTypeContractReceive)
  /-- its hash matches its content (the content the node keeps: canonical call data, regenerated descendants) -/
  hash_matches : c.b.hz = false ∧ f.hok = true
  /-- a user block is signed by the key that owns the account and carries no descendant blocks -/
  user_signed : c.b.emb = false →
    c.b.nsig ≠ 0 ∧ c.b.npk ≠ 0 ∧ f.sok = true ∧ f.pka = true ∧ c.descs = []
  /-- contract blocks carry no key and are reproduced by the receiver: the regenerated block has the same hash and
      the same changes-hash, and its descendant blocks are the ones that are kept (`regenerated_descendants_adopted`) -/
  contract_reproduced : c.b.emb = true → c.b.npk = 0 ∧ c.b.nsig = 0 ∧ f.regen = some (true, true)
  /-- it extends the account's chain by exactly one height from its stated predecessor, which is a tip the node
      holds for this account (the confirmed frontier or a pooled block) -/
  extends_chain : f.store = true ∧ c.b.h ≠ 0 ∧
    (c.b.emb = false → c.b.h = c.prevHeight + 1 ∧ (c.b.h = 1 ↔ c.b.phz = true) ∧ (c.b.h ≠ 1 → f.sfp = 1))
  /-- it acknowledges a momentum on the node's chain: for a user block not older than the one its predecessor
      acknowledged, for a contract receive exactly the one that confirmed the send (and its descendants the same) -/
  acknowledges : c.b.maz = false ∧ f.maOn = true ∧
    (c.b.emb = false → c.prevIsZeroHH = false → ∃ p, f.pmah = some p ∧ p ≤ c.b.mah) ∧
    (c.b.emb = true → f.fconf = c.b.mah ∧ ∀ d ∈ c.descs, d.maSame = true)
  /-- it spends no more than the account holds, with a non-negative amount below 2^255 -/
  amount_ok : isSend c.b = true → ∃ a, c.b.amt = some a ∧ 0 ≤ a ∧ a < 2 ^ 255 ∧ a ≤ (f.bal : Int)
  /-- a receive references a confirmed, not yet received send that is addressed to the receiving account
      (the last from the protocol's enforcement height on) -/
  receive_ok : isReceive c.b = true → f.fex = true ∧ f.recvd = false ∧ (f.gate = true → f.ftome = true)

/-- `ValidBlock.kind` under a name: `verify_sound` reasons about the kind before it has a `ValidBlock` -/
private abbrev Kind (c : Cand) : Prop :=
  (c.b.emb = false ∧ (c.b.bt = Gen.BlockTypeUserSend ∨ c.b.bt = Gen.BlockTypeUserReceive)) ∨
    (c.b.emb = true ∧ c.b.bt = Gen.BlockTypeContractReceive)

/-- the three acceptable kinds, each with what `isSend` / `isReceive` say of it -/
private theorem kind_cases {c : Cand} (hk : Kind c) :
    (c.b.emb = false ∧ c.b.bt = Gen.BlockTypeUserSend ∧ isSend c.b = true ∧ isReceive c.b = false) ∨
    (c.b.emb = false ∧ c.b.bt = Gen.BlockTypeUserReceive ∧ isSend c.b = false ∧ isReceive c.b = true) ∨
    (c.b.emb = true ∧ c.b.bt = Gen.BlockTypeContractReceive ∧ isSend c.b = false ∧ isReceive c.b = true) := by
  obtain ⟨tUS, tUR, tCR, -⟩ := @isSend_isReceive_of_type c.b
  rcases hk with ⟨he, h | h⟩ | ⟨he, h⟩
  · exact .inl ⟨he, h, tUS h⟩
  · exact .inr (.inl ⟨he, h, tUR h⟩)
  · exact .inr (.inr ⟨he, h, tCR h⟩)

private theorem kind_contract {c : Cand} (hk : Kind c) (he : c.b.emb = true) :
    c.b.bt = Gen.BlockTypeContractReceive ∧ isSend c.b = false ∧ isReceive c.b = true := by
  rcases kind_cases hk with ⟨he', -⟩ | ⟨he', -⟩ | ⟨-, h⟩
  · rw [he] at he'; cases he'
  · rw [he] at he'; cases he'
  · exact h

private theorem kind_send {c : Cand} (hk : Kind c) (hs : isSend c.b = true) : c.b.bt = Gen.BlockTypeUserSend := by
  rcases kind_cases hk with ⟨-, h, -⟩ | ⟨-, -, hs', -⟩ | ⟨-, -, hs', -⟩
  · exact h
  · rw [hs] at hs'; cases hs'
  · rw [hs] at hs'; cases hs'

private theorem kind_receive {c : Cand} (hk : Kind c) : isReceive c.b = true ↔ isSend c.b = false := by
  rcases kind_cases hk with ⟨-, -, hs, hr⟩ | ⟨-, -, hs, hr⟩ | ⟨-, -, hs, hr⟩ <;> simp [hs, hr]

/-- T1 `verify_sound`: whatever block and whatever context — if `ApplyBlock` accepts, the block is valid in the
    sense of the property. -/
theorem verify_sound (c : Cand) (f : Facts) (h : verifyBlock c f = .ok ()) : ValidBlock c f := by
  obtain ⟨hcs, hctx, hall, hvm, -, hhash, hsig, hprod, hdesc⟩ := verifyBlock_ok.1 h
  obtain ⟨-, hvm2⟩ := vmApplyBlock_ok.1 hvm
  obtain ⟨⟨hh0, hlink⟩, hmaz, hmaon, hstore⟩ := getContextWith_ok.1 hctx
  obtain ⟨-, -, hbt, hamt, -, hprev, hma, hfrom, -⟩ := abAll_ok.1 hall
  obtain ⟨hbtE, hbtU⟩ := blockType_ok.1 hbt
  obtain ⟨hsigE, hsigU⟩ := txSignature_ok.1 hsig
  have hkind : Kind c := by
    cases he : c.b.emb with
    | false => exact .inl ⟨he, (hbtU he).symm⟩
    | true => exact .inr ⟨he, (hbtE he).resolve_right hcs⟩
  have hnd : c.b.emb = false → c.descs = [] := fun he =>
    (txDescendantBlocks_ok.1 hdesc).resolve_left (by simp [isContractReceive, he])
  refine ⟨hkind, txHash_ok.1 hhash, ?_, ?_, ⟨hstore, hh0, ?_⟩, ⟨hmaz, hmaon, ?_, ?_⟩, ?_, ?_⟩
  · intro he
    obtain ⟨h1, h2, h3⟩ := hsigU he
    exact ⟨h1, h2, h3, txProducer_ok.1 hprod he, hnd he⟩
  · intro he
    obtain ⟨h1, h2⟩ := hsigE he
    refine ⟨h1, h2, ?_⟩
    rw [(kind_contract hkind he).1] at hvm2
    rcases hvm2 with ⟨h | h, -⟩ | h | ⟨-, h⟩
    · exact absurd h (by decide)
    · exact absurd h (by decide)
    · exact absurd h (by decide)
    · exact h
  · intro he
    refine ⟨?_, hlink, fun hn1 => (previous_ok.1 hprev).2 hn1 he⟩
    simp only [Cand.prevHeight, hnd he, heightMinus1, hh0, if_false]; omega
  · intro he hz
    exact (momentumAcknowledged_user_ok he).1 hma hz
  · intro he
    obtain ⟨-, hs, hr⟩ := kind_contract hkind he
    obtain ⟨hsame, hconf⟩ := (momentumAcknowledged_contract_ok he hr hs rfl).1 hma
    exact ⟨hconf, fun d hd => hsame d.maSame (List.mem_map.2 ⟨d, hd, rfl⟩)⟩
  · intro hs
    obtain ⟨a, ha, h0, hlt, hts, -⟩ : ∃ a, c.b.amt = some a ∧ 0 ≤ a ∧ a.natAbs < 2 ^ 255 ∧
        (0 < a → c.b.tsz = false) ∧ c.b.fbz = true := (amounts_send_ok hs).1 hamt
    refine ⟨a, ha, h0, by omega, ?_⟩
    · -- `enoughFunds` of `applySend`; a positive amount cannot be of the zero token
      rw [kind_send hkind hs] at hvm2
      rcases hvm2 with ⟨-, h⟩ | h | ⟨h, -⟩
      · have hfunds := (applySend_ok.1 h).2
        simp only [insufficientFunds, ha] at hfunds
        cases ht : c.b.tsz with
        | true =>
          have : ¬ 0 < a := fun hp => by have := hts hp; rw [ht] at this; cases this
          omega
        | false =>
          simp only [ht, Bool.false_eq_true, if_false, decide_eq_false_iff_not] at hfunds
          omega
      · exact absurd h (by decide)
      · exact absurd h (by decide)
  · intro hr
    obtain ⟨hfex, hgate, hrec⟩ := (fromHash_ok rfl).1 hfrom ((kind_receive hkind).1 hr)
    exact ⟨hfex, hrec, hgate⟩

/-- T2 `mutation_closed`: corrupting a block in any way (`μ` is any function on candidates, in particular every
    single- and double-field mutation), in whatever context the corrupted block is then judged, either makes it
    rejected or yields a block that is itself valid by the same rules. -/
theorem mutation_closed (μ : Cand → Cand) (c : Cand) (f' : Facts) :
    (∃ r, verifyBlock (μ c) f' = .error r) ∨ ValidBlock (μ c) f' := by
  cases h : verifyBlock (μ c) f' with
  | error r => exact Or.inl ⟨r, rfl⟩
  | ok u => exact Or.inr (verify_sound _ _ h)

/-- an accepted contract block also was the next in the contract's inbox (sequencer) -/
theorem accepted_contract_receive_is_next (c : Cand) (f : Facts) (h : verifyBlock c f = .ok ())
    (he : c.b.emb = true) : f.seq = 1 := by
  obtain ⟨-, -, -, -, -, -, -, -, hseq⟩ := abAll_ok.1 (verifyBlock_ok.1 h).2.2.1
  exact (sequencer_ok rfl).1 hseq he (kind_contract (verify_sound c f h).kind he).2.2

/-! ### T3 completeness: validity plus admissibility is accepted; together with T1 an exact characterisation -/

/-- what `ApplyBlock` requires beyond the property's sentence: format, resources and queue position -/
structure Admissible (c : Cand) (f : Facts) : Prop where
  version : c.b.ver = 1
  chain : c.b.cid ≠ 0 ∧ c.b.cid = f.ccid
  link_shape : c.b.h = 1 ↔ c.b.phz = true
  receive_shape : isSend c.b = false →
    (c.b.amt = none ∨ c.b.amt = some 0) ∧ c.b.tsz = true ∧ c.b.toz = true ∧ c.b.fbz = false
  send_shape : isSend c.b = true → c.b.fbz = true ∧ ∀ a, c.b.amt = some a → 0 < a → c.b.tsz = false
  pow : c.b.diff ≠ 0 → c.b.emb = false ∧ f.pow = true
  plasma : c.b.emb = false → ∃ avail base, f.avail = some avail ∧ basePlasma c.b f = some base ∧
    c.b.fp ≤ avail ∧ (Pow.difficultyToPlasma c.b.diff + c.b.fp) % two64 ≤ Gen.MaxPlasmaForAccountBlock ∧
    base ≤ (Pow.difficultyToPlasma c.b.diff + c.b.fp) % two64
  embedded_call : isSend c.b = true → c.b.toemb = true → f.vsend = true
  inbox : c.b.emb = true → f.seq = 1
  packed_link : f.store2 = true

/-- T3 `verify_complete`: a block that is valid in the sense of the property and admissible (well-formed, paid for,
    next in the inbox) is accepted — for all blocks and contexts. With T1: the verifier rejects nothing that the
    property and the admission rules allow. -/
theorem verify_complete (c : Cand) (f : Facts) (hv : ValidBlock c f) (ha : Admissible c f) :
    verifyBlock c f = .ok () := by
  obtain ⟨hkind, hhash, husr, hctr, ⟨hstore, hh0, hext⟩, ⟨hmaz, hmaon, hackU, hackC⟩, hamt, hrecv⟩ := hv
  obtain ⟨a1, a2, a3, a4, a5, a6, a7, a8, a9, a10⟩ := ha
  have hctx : ∀ st, st = true → getContextWith st c f = .ok () := fun st hst =>
    getContextWith_ok.2 ⟨⟨hh0, a3⟩, hmaz, hmaon, hst⟩
  have hamounts : amounts (c.subj f) f = .ok () := by
    cases hs : isSend c.b with
    | false => exact (amounts_receive_ok hs).2 (a4 hs)
    | true =>
      obtain ⟨am, ham, ham0, hamlt, -⟩ := hamt hs
      exact (amounts_send_ok hs).2 ⟨am, ham, ham0, show am.natAbs < 2 ^ 255 by omega, (a5 hs).2 am ham, (a5 hs).1⟩
  refine verifyBlock_ok.2 ⟨?notContractSend, hctx _ hstore, abAll_ok.2 ⟨version_ok.2 a1, chainIdentifier_ok.2 a2, blockType_ok.2 ?blockType,
    hamounts, powCheck_ok.2 a6, previous_ok.2 ⟨⟨hh0, a3⟩, fun hn he => (hext he).2.2 hn⟩, ?momentumAcknowledged, (fromHash_ok rfl).2 ?fromHash,
    (sequencer_ok rfl).2 fun he _ => a9 he⟩, vmApplyBlock_ok.2 ⟨enoughPlasma_ok.2 a7, ?vmStep⟩, hctx _ a10, txHash_ok.2 hhash,
    txSignature_ok.2 ⟨fun he => ⟨(hctr he).1, (hctr he).2.1⟩, fun he => ⟨(husr he).1, (husr he).2.1, (husr he).2.2.1⟩⟩,
    txProducer_ok.2 fun he => (husr he).2.2.2.1, txDescendantBlocks_ok.2 ?descendants⟩
  case notContractSend =>
    rcases hkind with ⟨-, hbt | hbt⟩ | ⟨-, hbt⟩ <;> rw [hbt] <;> decide
  case blockType =>
    show (c.b.emb = true → _) ∧ (c.b.emb = false → _)
    rcases hkind with ⟨he, hbt | hbt⟩ | ⟨he, hbt⟩ <;> simp [he, hbt, Cand.subj]
  case momentumAcknowledged =>
    rcases kind_cases hkind with ⟨he, -⟩ | ⟨he, -⟩ | ⟨he, -, hs, hr⟩
    · exact (momentumAcknowledged_user_ok he).2 (hackU he)
    · exact (momentumAcknowledged_user_ok he).2 (hackU he)
    · refine (momentumAcknowledged_contract_ok he hr hs rfl).2 ⟨fun x hx => ?_, (hackC he).1⟩
      obtain ⟨d, hd, rfl⟩ := List.mem_map.1 hx
      exact (hackC he).2 d hd
  case fromHash =>
    intro (hs : isSend c.b = false)
    have hr := (kind_receive hkind).2 hs
    exact ⟨(hrecv hr).1, (hrecv hr).2.2, (hrecv hr).2.1⟩
  case vmStep =>
    rcases kind_cases hkind with ⟨he, hbt, hs, hr⟩ | ⟨-, hbt, -⟩ | ⟨he, hbt, -⟩
    · refine .inl ⟨.inl hbt, applySend_ok.2 ⟨fun hte => ⟨?_, a8 hs hte⟩, ?_⟩⟩
      · -- the base plasma of a call of an embedded method is the method's plasma
        obtain ⟨av, base, -, hbase, -⟩ := a7 he
        simp only [basePlasma, hr, hte, Bool.false_eq_true, if_false, Bool.not_true] at hbase
        exact ⟨base, hbase⟩
      · obtain ⟨am, ham, -, -, hambal⟩ := hamt hs
        simp only [insufficientFunds, ham]
        cases c.b.tsz
        · simp only [Bool.false_eq_true, if_false, decide_eq_false_iff_not]; omega
        · rfl
    · exact .inr (.inl hbt)
    · exact .inr (.inr ⟨hbt, (hctr he).2.2⟩)
  case descendants =>
    rcases kind_cases hkind with ⟨he, -⟩ | ⟨he, -⟩ | ⟨he, -, -, hr⟩
    · exact .inr (husr he).2.2.2.2
    · exact .inr (husr he).2.2.2.2
    · exact .inl (by simp [isContractReceive, he, hr])

/-- everything accepted is admissible -/
theorem admissible_of_accepted (c : Cand) (f : Facts) (h : verifyBlock c f = .ok ()) : Admissible c f := by
  have hkind := (verify_sound c f h).kind
  obtain ⟨-, hctx, hall, hvm, hctx2, -⟩ := verifyBlock_ok.1 h
  obtain ⟨hver, hcid, -, hamt, hpow, -, -, -, hseq⟩ := abAll_ok.1 hall
  obtain ⟨hplasma, hvm2⟩ := vmApplyBlock_ok.1 hvm
  refine ⟨version_ok.1 hver, chainIdentifier_ok.1 hcid, (getContextWith_ok.1 hctx).1.2,
    fun hs => (amounts_receive_ok hs).1 hamt, ?_, powCheck_ok.1 hpow, enoughPlasma_ok.1 hplasma, ?_, ?_,
    (getContextWith_ok.1 hctx2).2.2.2⟩
  · intro hs
    obtain ⟨a, ha, -, -, hts, hfbz⟩ := (amounts_send_ok hs).1 hamt
    refine ⟨hfbz, fun a' ha' hp => ?_⟩
    rw [show c.b.amt = some a from ha] at ha'; cases ha'; exact hts hp
  · intro hs hte
    rw [kind_send hkind hs] at hvm2
    rcases hvm2 with ⟨-, h⟩ | h | ⟨h, -⟩
    · exact ((applySend_ok.1 h).1 hte).2
    · exact absurd h (by decide)
    · exact absurd h (by decide)
  · intro he
    exact (sequencer_ok rfl).1 hseq he (kind_contract hkind he).2.2

/-- `verify_exact`: acceptance is exactly validity (the property's sentence) plus admissibility -/
theorem verify_exact (c : Cand) (f : Facts) :
    verifyBlock c f = .ok () ↔ ValidBlock c f ∧ Admissible c f :=
  ⟨fun h => ⟨verify_sound c f h, admissible_of_accepted c f h⟩, fun ⟨hv, ha⟩ => verify_complete c f hv ha⟩

/-! ### `verify_complete_on_honest`: honest blocks in honest contexts are accepted (T1 is not vacuous) -/

/-- the facts of a node at momentum 8 for user account blocks built by `GenerateFromTemplate` -/
def honestFacts : Facts :=
  { ccid := 100, maOn := true, store := true, store2 := true, confh := some 2, prevKnown := true, sfp := 1, pmah := some 5,
    fex := false, ftome := false, recvd := false, gate := true, fconf := 0, seq := 0, pow := true,
    avail := some 10500000, mplasma := none, vsend := false, bal := 1200000000000, hok := true, sok := true,
    pka := true, regen := none }

def honestSend : Cand :=
  { b := { ver := 1, cid := 100, bt := Gen.BlockTypeUserSend, h := 3, phz := false, maz := false, mah := 8,
           emb := false, toz := false, toemb := false, amt := some 263134397, tsz := false, fbz := true,
           diff := 0, fp := 21000, dlen := 0, npk := 32, nsig := 64, hz := false },
    descs := [] }

theorem honest_user_send_accepted : verifyBlock honestSend honestFacts = .ok () := by decide

def honestReceive : Cand :=
  { b := { ver := 1, cid := 100, bt := Gen.BlockTypeUserReceive, h := 3, phz := false, maz := false, mah := 8,
           emb := false, toz := true, toemb := false, amt := some 0, tsz := true, fbz := false,
           diff := 0, fp := 21000, dlen := 0, npk := 32, nsig := 64, hz := false },
    descs := [] }

theorem honest_user_receive_accepted :
    verifyBlock honestReceive { honestFacts with fex := true, ftome := true, fconf := 6, bal := 0 } = .ok () := by decide

/-- a contract receive that refunds the sender by one descendant block, as generated by the node itself -/
def honestContractReceive : Cand :=
  { b := { ver := 1, cid := 100, bt := Gen.BlockTypeContractReceive, h := 4, phz := false, maz := false, mah := 8,
           emb := true, toz := true, toemb := false, amt := some 0, tsz := true, fbz := false,
           diff := 0, fp := 0, dlen := 8, npk := 0, nsig := 0, hz := false },
    descs := [ { blk := { ver := 1, cid := 100, bt := Gen.BlockTypeContractSend, h := 3, phz := false, maz := false,
                          mah := 8, emb := true, toz := false, toemb := false, amt := some 500000000000, tsz := false,
                          fbz := true, diff := 0, fp := 0, dlen := 0, npk := 0, nsig := 0, hz := false },
                 maSame := true, pow := true, sfp := 1, pmah := some 2 } ] }

def honestContractFacts : Facts :=
  { honestFacts with fex := true, ftome := true, fconf := 8, seq := 1, avail := some 0, bal := 0, sok := false,
                     pka := false, regen := some (true, true) }

theorem honest_contract_receive_accepted : verifyBlock honestContractReceive honestContractFacts = .ok () := by decide

/-- `ValidBlock` is satisfiable -/
example : ValidBlock honestSend honestFacts := verify_sound _ _ honest_user_send_accepted
/-- … and the hypotheses of `verify_complete` are satisfiable -/
example : Admissible honestContractReceive honestContractFacts :=
  admissible_of_accepted _ _ honest_contract_receive_accepted

/-! ### boundary of the amount clause -/

/-- 2^255 − 1 is an acceptable amount for the static checks, 2^255 is not (the bound is `BitLen() ≤ 255` as coded) -/
theorem amount_bound_exact :
    amountTooBig (2 ^ 255 - 1) = false ∧ amountTooBig (2 ^ 255) = true ∧ amountTooBig (-(2 ^ 255)) = true := by decide

/-! ### descendant blocks of a delivered contract receive

The parent's hash covers descendant blocks only through their *recorded* hashes, which nobody recomputes. Before
commit 48b97c9 of go-zenon a contract receive with altered descendant content (same recorded hashes) was accepted AND
stored; since then `VM.applyBlock` keeps the regenerated descendant blocks (`regenerated_descendants_adopted`), and
in the decision the delivered descendants matter only through the link they
state (the first one's previous) and through acknowledging the parent's momentum: -/

/-- replacing the delivered descendant blocks of a contract receive by anything that states the same predecessor and
    is equally uniform about the acknowledged momentum does not change verdict or reason -/
theorem delivered_descendant_content_irrelevant (c : Cand) (descs' : List Desc) (f : Facts)
    (hcr : isContractReceive c.b = true)
    (hph : ({ c with descs := descs' } : Cand).prevHeight = c.prevHeight)
    (hpz : ({ c with descs := descs' } : Cand).prevHashZero = c.prevHashZero)
    (hma : (descs'.map (·.maSame)).any (fun same => !same) = (c.descs.map (·.maSame)).any (fun same => !same)) :
    verifyBlock { c with descs := descs' } f = verifyBlock c f := by
  have hsubj : ({ c with descs := descs' } : Cand).subj f =
      { c.subj f with descMaSame := descs'.map (·.maSame) } := by
    simp only [Cand.subj, Cand.prevIsZeroHH, hph, hpz]
  have hall : abAll (({ c with descs := descs' } : Cand).subj f) f = abAll (c.subj f) f := by
    rw [hsubj]
    simp only [abAll, allChecks, List.map, version, chainIdentifier, blockType, amounts, powCheck, previous,
      momentumAcknowledged, fromHash, sequencer, hma, Cand.subj]
  simp only [verifyBlock, supervisorStages, List.map, verifyAccountBlock, verifyTransaction, txChecks, getContext, getContext2, getContextWith,
    vmApplyBlock, txHash, txSignature, txProducer, txDescendantBlocks, hcr, hall, if_true]

/-- both the honest delivery and one with an altered descendant amount are accepted … -/
def alteredContractReceive : Cand :=
  { b := honestContractReceive.b,
    descs := honestContractReceive.descs.map (fun d => { d with blk := { d.blk with amt := some 1 } }) }

theorem altered_descendant_delivery_accepted :
    alteredContractReceive ≠ honestContractReceive ∧
    verifyBlock alteredContractReceive honestContractFacts = .ok () :=
  ⟨by decide, by decide⟩

/-- … and what is stored are the regenerated descendants: the tree's `VM.applyBlock` assigns
    `block.DescendantBlocks = generated.DescendantBlocks` in the contract-receive case (AST fact) -/
theorem regenerated_descendants_adopted : Gen.vmAdoptsRegeneratedDescendants = true := rfl

/-! ### ties to the working tree (regenerated facts) -/

/-- the model runs the nine checks in the order of `accountBlockVerifier.all` in the tree -/
theorem check_order_matches : allChecks.map (·.1) = Gen.abVerifierOrder := rfl
/-- … and the four of `accountBlockTransactionVerifier.all` -/
theorem tx_check_order_matches : txChecks.map (·.1) = Gen.abTxVerifierOrder := rfl
/-- `AccountBlock` / `AccountBlockTransaction` first build the context, then run the checks -/
theorem verifier_stages_match :
    Gen.accountBlockStages = ["getContext", "all"] ∧ Gen.accountBlockTransactionStages = ["getContext", "all"] :=
  ⟨rfl, rfl⟩
/-- `Supervisor.applyBlock`: verify, context, VM, pack (which verifies the transaction) -/
theorem supervisor_stages_match :
    supervisorStages.map (·.1) = Gen.supervisorApplyStages ∧ Gen.supervisorPackStages = ["AccountBlockTransaction"] :=
  ⟨rfl, rfl⟩
/-- `VM.applyBlock` / `applySend`: plasma before the type switch; method lookup, validation, funds, debit -/
theorem vm_stages_match :
    vmStages = Gen.vmApplyStages ∧
    Gen.vmApplySendStages = ["GetEmbeddedMethod", "ValidateSendBlock", "enoughFunds", "SubBalance"] :=
  ⟨rfl, rfl⟩
/-- the coded bound is the statement's 2^255 -/
theorem amount_bitlen_is_255 : Gen.AmountMaxBitLen = 255 := rfl
/-- the five block types -/
theorem block_types :
    [Gen.BlockTypeGenesisReceive, Gen.BlockTypeUserSend, Gen.BlockTypeUserReceive, Gen.BlockTypeContractSend,
     Gen.BlockTypeContractReceive] = [1, 2, 3, 4, 5] := rfl

end ZV.C03
