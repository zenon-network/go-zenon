import ZenonVerif.Lemmas.LedgerInbox
import ZenonVerif.Lemmas.LedgerTokenInbox
import ZenonVerif.Lemmas.LedgerDemo
/-
C09 — every accepted call to an embedded contract completes or refunds; the inbox cannot be wedged.
Property theorems only (helpers: Lemmas/LedgerInbox.lean, LedgerTokenInbox.lean, LedgerFifo.lean; vocabulary: header of Props/C01.lean).

The contract methods are parameters of the ledger model: `crecv s c h status descs` takes the observed outcome of the
method (status 1 = applied, 2 = failed and refunded; the descendant sends) and checks what the VM skeleton enforces
(`generateEmbeddedReceive` / `rollbackEmbedded`). For the token contract the method itself is modelled (`tokenMethod`).
Panic-freedom of the ABI decoder (DESIGN C09-T3) and unpack∘pack are proved over the decoder model in Props/C09Abi.lean.
Termination and panic-freedom of the Go method bodies (T4, T5) are not statements about this model; they are covered by
the autoreceive stream's monitors (harness/cmd/zvh/s_autoreceive.go).

  `pendingFor s c`    confirmed sends addressed to c that c has not received, in confirmation order
  `descSum ds t`      Σ of the descendant amounts of token t        `refundDescs snd h'`  the refund descendant list
-/
namespace ZV.C09
open ZV.Ledger

/-! ## T1 — applied or exactly refunded -/

/-- T1: an accepted contract receive of `h` is either applied (status 1) or refunded (status 2); a refund emits exactly
    `[amount of the send → its sender]` (nothing when the amount is 0), leaves the token contract's storage as it was
    and restores the contract's balance of every token. -/
theorem complete_or_refund (s s' : State) (c : Addr) (h : Hash) (st : Nat) (ds : List Desc)
    (hok : crecv s c h st ds = .ok s') :
    ∃ snd, checkFrom s c h = .ok snd ∧
      (st = 1 ∨ (st = 2 ∧ descShape ds = refundOf snd ∧ s'.toks = s.toks ∧
                 ∀ t, getBal s'.bal c t = getBal s.bal c t)) := by
  cases crecv_ok_iff.1 hok with
  | plain nxt snd _ _ hchk hst href _ _ hds =>
    refine ⟨snd, hchk, ?_⟩
    rcases hst with h1 | h2
    · exact Or.inl h1
    · refine Or.inr ⟨h2, href h2, (applyDescs_frame hds).2.1, ?_⟩
      intro t
      have := (balance_plain hds).1 t
      rw [descSum_refund (href h2) t] at this
      omega
  | token nxt snd out _ _ hchk _ hst _ _ _ _ => exact ⟨snd, hchk, Or.inl hst⟩

/-- T1, balance delta. In both outcomes nobody's balance but the contract's moves, and the contract's balance of every
    token `t` moves by `+ amount received − Σ descendants` — plus `mint − burn` of the method's token when the token
    contract applies a call. Stated with additions only, so the equation also says that no subtraction truncated. -/
theorem contract_balance_delta (s s' : State) (c : Addr) (h : Hash) (st : Nat) (ds : List Desc)
    (hok : crecv s c h st ds = .ok s') :
    ∃ snd, checkFrom s c h = .ok snd ∧
      (∀ a, a ≠ c → ∀ t, getBal s'.bal a t = getBal s.bal a t) ∧
      ((s'.toks = s.toks ∧
          ∀ t, getBal s'.bal c t + descSum ds t = getBal s.bal c t + (if snd.tok = t then snd.amt else 0)) ∨
       (c = tokenContract ∧ st = 1 ∧ ∃ out, tokenMethod s.toks snd (newTokOf ds) = some out ∧
          s'.toks = out.toks ∧ descShape ds = out.descs ∧
          ∀ t, getBal s'.bal c t + descSum ds t + (if out.mintTok = t then out.burn else 0)
             = getBal s.bal c t + (if snd.tok = t then snd.amt else 0) + (if out.mintTok = t then out.mint else 0))) := by
  cases crecv_ok_iff.1 hok with
  | plain nxt snd _ _ hchk _ _ _ _ hds =>
    exact ⟨snd, hchk, (balance_plain hds).2, Or.inl ⟨(applyDescs_frame hds).2.1, (balance_plain hds).1⟩⟩
  | token nxt snd out _ _ hchk hc hst hm hshape hburn hds =>
    exact ⟨snd, hchk, (balance_token hburn hds).2,
      Or.inr ⟨hc, hst, out, hm, (applyDescs_frame hds).2.1, hshape, (balance_token hburn hds).1⟩⟩

/-- T1 for every contract other than the token contract: storage of the token contract untouched, balance delta
    `+ amount − Σ descendants`. -/
theorem generic_contract_balance_delta (s s' : State) (c : Addr) (h : Hash) (st : Nat) (ds : List Desc)
    (hc : c ≠ tokenContract) (hok : crecv s c h st ds = .ok s') :
    ∃ snd, checkFrom s c h = .ok snd ∧ s'.toks = s.toks ∧
      ∀ t, getBal s'.bal c t + descSum ds t = getBal s.bal c t + (if snd.tok = t then snd.amt else 0) := by
  cases crecv_ok_iff.1 hok with
  | plain nxt snd _ _ hchk _ _ _ _ hds => exact ⟨snd, hchk, (applyDescs_frame hds).2.1, (balance_plain hds).1⟩
  | token nxt snd out _ _ _ hc' _ _ _ _ _ => exact absurd hc' hc

/-- T1, funding: every descendant of an accepted receive passed `applySend` on a balance that covers it
    (see `C01.no_underflow` for the reading of `NoUnderflow`). -/
theorem descendants_funded (s s' : State) (c : Addr) (h : Hash) (st : Nat) (ds : List Desc)
    (hok : crecv s c h st ds = .ok s') : NoUnderflow s (.crecv c h st ds) :=
  step_noUnderflow (e := .crecv c h st ds) hok

/-! ## T2 — the inbox advances by exactly one -/

/-- T2: after an accepted receive of `h` by `c`: `h` was the head of `c`'s pending queue, `(c, h)` is marked, and the
    new pending queue is the old one without its head, followed by the sends the receive's own descendants address
    to `c`; `nextInLine` is its head. -/
theorem inbox_advances (s s' : State) (c : Addr) (h : Hash) (st : Nat) (ds : List Desc)
    (hw : WF s) (hf : Fresh s (.crecv c h st ds)) (hok : crecv s c h st ds = .ok s') :
    (c, h) ∈ s'.recv ∧
    (∃ nxt tl, pendingFor s c = nxt :: tl ∧ nxt.hash = h) ∧
    pendingFor s' c = (pendingFor s c).tail ++ (ds.map (mkSend c)).filter (fun x => x.dst == c) ∧
    nextInLine s' c = ((pendingFor s c).tail ++ (ds.map (mkSend c)).filter (fun x => x.dst == c)).head? := by
  obtain ⟨h1, h2⟩ := pending_advances hw hf hok
  exact ⟨crecv_marker hok, h1, h2, by rw [nextInLine_eq_head, h2]⟩

/-- T2, not wedged: if another send `y` to `c` was queued right behind `h`, it is next in line afterwards. -/
theorem next_queued_is_next (s s' : State) (c : Addr) (h : Hash) (st : Nat) (ds : List Desc)
    (hw : WF s) (hf : Fresh s (.crecv c h st ds)) (hok : crecv s c h st ds = .ok s')
    (x y : Send) (rest : List Send) (hq : pendingFor s c = x :: y :: rest) : nextInLine s' c = some y := by
  obtain ⟨_, _, _, h4⟩ := inbox_advances s s' c h st ds hw hf hok
  rw [h4, hq]; rfl

/-- T2: the received send is not next in line any more. -/
theorem received_not_next (s s' : State) (c : Addr) (h : Hash) (st : Nat) (ds : List Desc)
    (hok : crecv s c h st ds = .ok s') (x : Send) (hx : nextInLine s' c = some x) : x.hash ≠ h :=
  fun he => (nextInLine_spec hx).2.2 (he ▸ crecv_marker hok)

/-! ## the refund path cannot fail -/

/-- For every contract other than the token contract, whatever send is next in line can be received with status 2 and
    the exact refund: the `fromHash` checks pass (it is the unique confirmed send with that hash, addressed to `c`, not
    yet received by `c`), and the refund descendant is always funded — the amount was credited by this very receive, and
    a zero-token send carries no amount. This is the model-level reason why no accepted call can wedge an inbox:
    whatever the method does, the VM's fallback is accepted.
    Caveat (model vs. Go): Go's `applySend` additionally runs the method lookup / `ValidateSendBlock` of the
    *destination* when it is an embedded contract; the model's `applySend` does not. The refund block has empty call
    data, so when the sender `nxt.src` of the failed call is itself an embedded contract the Go refund is refused with
    `ErrContractMethodNotFound` and `rollbackEmbedded` returns an error. The theorem transfers to the code for
    non-embedded senders only. -/
theorem refund_always_possible (s : State) (c : Addr) (nxt : Send) (h' : Hash) (hw : WF s)
    (hc : c ≠ tokenContract) (hnext : nextInLine s c = some nxt) :
    ∃ s', crecv s c nxt.hash 2 (refundDescs nxt h') = .ok s' := by
  obtain ⟨s', hs'⟩ := applyDescs_refund_ok (c := c) hw (nextInLine_spec hnext).1 h'
  exact ⟨s', crecv_ok_iff.2 (.plain nxt nxt hnext rfl (nextInLine_checkFrom hw hnext) (.inr rfl)
    (fun _ => descShape_refundDescs nxt h') (fun h => absurd h hc) (fun h => absurd h hc) hs')⟩

/-- … and with a fresh descendant hash that receive is an admissible event (with `refund_always_possible`, `Reach.step` and
    `step_wf` the state after it is then again reachable and well-formed, so the argument can be repeated). -/
theorem refund_step_admissible (s : State) (c : Addr) (nxt : Send) (h' : Hash)
    (hfresh : h' ∉ s.sends.map (·.hash)) : Admissible s (.crecv c nxt.hash 2 (refundDescs nxt h')) :=
  admissible_of_single hfresh (refundDescs_single nxt h').1 (refundDescs_single nxt h').2

/-- The token contract (whose methods are modelled): whatever send is next in line, some outcome is accepted — the call
    is applied (issue with an unused token standard, mint, burn, update) or, when the method fails, refunded — by an
    admissible event, provided the zero token standard has no storage entry. -/
theorem token_inbox_not_wedged (s : State) (nxt : Send) (h' : Hash) (hw : WF s)
    (hz : getTok s.toks zeroTok = none) (hfresh : h' ∉ s.sends.map (·.hash))
    (hnext : nextInLine s tokenContract = some nxt) :
    ∃ st ds s', Admissible s (.crecv tokenContract nxt.hash st ds) ∧
      crecv s tokenContract nxt.hash st ds = .ok s' := by
  obtain ⟨st, ds, s', hok, hlen, hall⟩ := token_receive_possible hw hz hnext h'
  exact ⟨st, ds, s', admissible_of_single hfresh hlen hall, hok⟩

/-- Negative witness for the hypothesis `getTok s.toks zeroTok = none`: the model takes the new token standard of an
    issue from the observed descendant and so accepts an issue of the zero token standard with total supply 0; in the
    reachable state after it, a queued mint of that "token" has no accepted outcome at all (applying needs a non-empty
    zero-token send, refunding needs the method to fail). Go derives the token standard from the send hash, so this is a
    permissiveness of the model, not a behaviour of the code. -/
theorem zero_token_issue_wedges_model :
    Reach (State.init true) wedgeState ∧ (nextInLine wedgeState tokenContract).map (·.hash) = some 102 ∧
    ∀ st ds s', crecv wedgeState tokenContract 102 st ds ≠ .ok s' :=
  ⟨reach_of_runAdm wedgeEvents _ _ (by rfl), rfl, wedge_no_outcome⟩

/-! ## non-vacuity -/

example : Reach (State.init true) demoFinal := demo_reach

example : WF demoFinal := demo_wf

/-- in the demo state contract 3 has two queued calls (108 then 109) -/
example : (pendingFor demoFinal 3).map (·.hash) = [108, 109] := by decide

/-- the refund of 108 is accepted, is admissible, and 109 is next afterwards -/
example : (do let s' ← crecv demoFinal 3 108 2 (refundDescs ⟨108, 16, 3, 5, 1, .none⟩ 200)
              pure ((nextInLine s' 3).map (·.hash), getBal s'.bal 3 5)) = Except.ok (some 109, 0) := by rfl

example : Admissible demoFinal (.crecv 3 108 2 (refundDescs ⟨108, 16, 3, 5, 1, .none⟩ 200)) := by decide

/-- the demo history contains an applied token call (issue: mint 50, one descendant of 50) and a refunded call -/
example : (do let s1 ← usend (State.init true) 16 tokenContract zeroTok 0 100 (.issue 50 80 true true)
              let s2 ← crecv s1 tokenContract 100 1 [⟨16, 5, 50, 101, .none⟩]
              pure (getBal s2.bal tokenContract 5, supplyOf s2 5, inflightSum s2 5)) = Except.ok (0, 50, 50) := by rfl

/-- the hypotheses of `token_inbox_not_wedged` hold in the demo state with a queued burn -/
example : (do let s1 ← usend demoFinal 16 tokenContract 5 3 110 .burn
              pure (decide (WF s1), getTok s1.toks zeroTok, (nextInLine s1 tokenContract).map (·.hash)))
          = Except.ok (true, none, some 110) := by rfl

/-- a wrong refund (amount 1 instead of 2) is not an accepted outcome -/
example : (do let s1 ← usend { State.init true with bal := [((16, 5), 9)] } 16 3 5 2 105 .none
              crecv s1 3 105 2 [⟨16, 5, 1, 106, .none⟩]) = Except.error Err.badRefund := by rfl

end ZV.C09
