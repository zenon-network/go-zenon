import ZenonVerif.Lemmas.Rewards
/-
C11 — rewards bounded by emission: property theorems only (arithmetic part).
-/
namespace ZV.C11
open ZV ZV.Rewards

/-! ### T1 — rounded-down pro-rata shares never exceed the amount that is split -/

/-- T1: for non-negative weights with 0 < W = Σ wᵢ: Σᵢ ⌊T·wᵢ / W⌋ ≤ T. -/
theorem share_sum_le (T : Int) (ws : List Int) (hT : 0 ≤ T) (hw : ∀ w ∈ ws, 0 ≤ w) (hW : 0 < ws.sum) :
    (ws.map (fun w => share T w ws.sum)).sum ≤ T :=
  sum_share_le T ws.sum hT hW (fun w => w) ws hw (by simp)

/-- stake contract: the QSR deposits of one epoch (`computeStakeRewardsForEpoch`) sum to at most the amount `T`
    passed in (= `StakeQsrRewardPerEpoch epoch`), and no deposit is negative. -/
theorem stake_rewards_le (T : Int) (ws : List Int) (hT : 0 ≤ T) (hw : ∀ w ∈ ws, 0 ≤ w) :
    (stakeRewardsForEpoch T ws).sum ≤ T ∧ ∀ r ∈ stakeRewardsForEpoch T ws, 0 ≤ r := by
  unfold stakeRewardsForEpoch
  have hs := sum_nonneg ws hw
  by_cases h0 : ws.sum = 0
  · simp [h0, hT]
  · simp only [h0, if_false]
    exact ⟨share_sum_le T ws hT hw (by omega), List.forall_mem_map.mpr fun w hwm => share_nonneg T w _ hT (hw w hwm) hs⟩

/-- the weight `getWeightedStake` gives an entry is non-negative when the epoch window fits the int64 subtraction
    (|t| ≤ 2^62 — unix seconds are below 2^34) -/
theorem weighted_stake_nonneg (infoStart infoRevoke amount startTime endTime : Int) (ha : 0 ≤ amount)
    (h1 : -(two63 : Int) ≤ 2 * startTime) (h2 : 2 * endTime < (two63 : Int)) :
    0 ≤ weightedStake infoStart infoRevoke amount startTime endTime :=
  weightedStake_nonneg _ _ _ _ _ ha (by omega)

/-- sentinel contract: the ZNN and the QSR deposits of one epoch sum to at most the amounts passed in
    (= `SentinelRewardForEpoch epoch`). -/
theorem sentinel_rewards_le (Tz Tq : Int) (ws : List Int) (hz : 0 ≤ Tz) (hq : 0 ≤ Tq) (hw : ∀ w ∈ ws, 0 ≤ w) :
    ((sentinelRewardsForEpoch Tz Tq ws).map (·.1)).sum ≤ Tz ∧
    ((sentinelRewardsForEpoch Tz Tq ws).map (·.2)).sum ≤ Tq := by
  unfold sentinelRewardsForEpoch
  have hs := sum_nonneg ws hw
  by_cases h0 : ws.sum = 0
  · simp [h0, hz, hq]
  · -- skipping the entries of weight zero changes nothing: their shares are zero anyway
    have e : (fun w => if w = 0 then ((0 : Int), (0 : Int)) else (share Tz w ws.sum, share Tq w ws.sum))
        = fun w => (share Tz w ws.sum, share Tq w ws.sum) := by
      funext w; split
      · subst_vars; simp [share]
      · rfl
    simp only [h0, if_false, e, List.map_map, Function.comp_def]
    exact ⟨share_sum_le Tz ws hz hw (by omega), share_sum_le Tq ws hq hw (by omega)⟩

/-- `getWeightedSentinel` is 0 or 1 -/
theorem weighted_sentinel_01 (reg revoke startTime endTime : Int) :
    weightedSentinel reg revoke startTime endTime = 0 ∨ weightedSentinel reg revoke startTime endTime = 1 :=
  weightedSentinel_01 reg revoke startTime endTime

/-- pillar contract, split between a pillar and its backers (`computeDetailedPillarReward`): with give-percentages
    ≤ 100 what is credited to the pillar's reward address plus what is credited to all backers is at most the
    pillar's TotalReward, and the pillar's own part is not negative. -/
theorem pillar_split_le (r : PillarReward) (gb gd : Int) (backers : List Int)
    (hb : 0 ≤ r.block) (hd : 0 ≤ r.delegation) (ht : r.total = r.block + r.delegation)
    (hgb : 0 ≤ gb ∧ gb ≤ 100) (hgd : 0 ≤ gd ∧ gd ≤ 100) (hbk : ∀ a ∈ backers, 0 ≤ a) :
    (pillarSplit r gb gd backers).1 + (pillarSplit r gb gd backers).2.sum ≤ r.total ∧
    0 ≤ (pillarSplit r gb gd backers).1 := by
  unfold pillarSplit
  simp only
  generalize hg : Int.tdiv (gb * r.block + gd * r.delegation) 100 = toGive
  have hnum : 0 ≤ gb * r.block + gd * r.delegation :=
    Int.add_nonneg (Int.mul_nonneg hgb.1 hb) (Int.mul_nonneg hgd.1 hd)
  have hg0 : 0 ≤ toGive := by rw [← hg]; exact Int.tdiv_nonneg hnum (by omega)
  have hgle : toGive ≤ r.total := by
    rw [← hg]
    apply tdiv_le_of_le_mul _ _ _ hnum (by omega)
    have h1 : gb * r.block ≤ 100 * r.block := Int.mul_le_mul_of_nonneg_right hgb.2 hb
    have h2 : gd * r.delegation ≤ 100 * r.delegation := Int.mul_le_mul_of_nonneg_right hgd.2 hd
    rw [ht]; omega
  have hs := sum_nonneg backers hbk
  by_cases h0 : backers.sum = 0
  · simp only [h0, if_true, List.sum_nil]; omega
  · simp only [h0, if_false]
    have := share_sum_le toGive backers hg0 hbk (by omega)
    omega

/-- liquidity contract, staking rewards of one coin (`computeLiquidityStakeRewardsForEpoch`): when the token
    percentages sum to at most `LiquidityTotalPercentages`, everything credited to stakers of all tokens is at most
    the epoch amount `T` (the code itself re-checks this and fails with ErrInvalidRewards otherwise). -/
theorem liquidity_stake_rewards_le (T totalPct : Int) (tokens : List (Int × List Int)) (hT : 0 ≤ T)
    (hp : 0 < totalPct) (hpct : ∀ t ∈ tokens, 0 ≤ t.1) (hw : ∀ t ∈ tokens, ∀ w ∈ t.2, 0 ≤ w)
    (hsum : (tokens.map (·.1)).sum ≤ totalPct) :
    ((liquidityStakeRewards T totalPct tokens).map List.sum).sum ≤ T := by
  -- each token's stakers get at most R_k = ⌊T·pct_k/total⌋, and R_k · total ≤ T · pct_k
  unfold liquidityStakeRewards
  rw [List.map_map]
  refine Int.le_of_mul_le_mul_right (Int.le_trans (sum_mul_le_mul_sum _ (·.1) totalPct T tokens ?_)
    (Int.mul_le_mul_of_nonneg_left hsum hT)) hp
  intro (pct, ws) ht
  have hpc : 0 ≤ pct := hpct _ ht
  have hws : ∀ w ∈ ws, 0 ≤ w := hw _ ht
  have hR0 : 0 ≤ T * pct / totalPct := Int.ediv_nonneg (Int.mul_nonneg hT hpc) (by omega)
  have hR : T * pct / totalPct * totalPct ≤ T * pct := Int.ediv_mul_le _ (by omega)
  have hs := sum_nonneg ws hws
  have hpart : (if ws.sum = 0 then [] else ws.map (fun w => share (T * pct / totalPct) w ws.sum)).sum
      ≤ T * pct / totalPct := by
    split
    · exact hR0
    · exact share_sum_le _ ws hR0 hws (by omega)
  exact Int.le_trans (Int.mul_le_mul_of_nonneg_right hpart (Int.le_of_lt hp)) hR

/-! ### T2 — the pillar formula -/

/-- T2: for epoch statistics in which every pillar produced at most the momentums expected of it,
    the pillar weights sum to at most the total weight, and the uint64 sum of expected momentums does not wrap, the
    TotalRewards of all pillars (`computePillarRewardForEpoch`) sum to at most
    (delegation per momentum + producing per momentum) · (total expected momentums). -/
theorem pillar_epoch_bound (d p W : Int) (ps : List PillarStat) (hd : 0 ≤ d) (hp : 0 ≤ p) (hW : 0 ≤ W)
    (hprod : ∀ s ∈ ps, s.produced ≤ s.expected) (hw : ∀ s ∈ ps, 0 ≤ s.weight)
    (hsum : (ps.map (·.weight)).sum ≤ W) (hE : (ps.map (·.expected)).sum < two64) :
    (ps.map (fun s => (pillarRewardForEpoch d p W ps s).total)).sum ≤
      (d + p) * ((ps.map (·.expected)).sum : Nat) := by
  have hEq : totalExpected ps = (ps.map (·.expected)).sum := Nat.mod_eq_of_lt hE
  unfold pillarRewardForEpoch
  rw [hEq, natCast_sum_map]
  generalize hEdef : (ps.map (fun s => (s.expected : Int))).sum = E
  have hE0 : 0 ≤ E := hEdef ▸ sum_map_nonneg _ ps (fun _ _ => Int.natCast_nonneg _)
  have hspec := fun s hs => pillarRewardWith_spec d p W E s hd hp hW hE0 (hw s hs) (hprod s hs)
  have htot := Int.le_trans
    (sum_map_le _ (fun s => (pillarRewardWith d p W E s).block + (pillarRewardWith d p W E s).delegation) ps
      (fun s hs => Int.le_of_eq (hspec s hs).total_eq))
    (Int.le_of_eq (sum_map_add _ _ ps))
  have hblk := sum_mul_le_mul_sum (fun s => (pillarRewardWith d p W E s).block) (fun s => (s.expected : Int)) 1 p ps
    (fun s hs => by rw [Int.mul_one]; exact (hspec s hs).block_le)
  rw [Int.mul_one, hEdef] at hblk
  have hdel : (ps.map (fun s => (pillarRewardWith d p W E s).delegation)).sum ≤ d * E := by
    by_cases hW0 : W = 0
    · -- no delegation reward at all when the total weight is zero
      have := sum_map_le _ (fun _ => 0) ps (fun s hs => Int.le_of_eq ((hspec s hs).deleg_zero hW0))
      rw [sum_map_zero] at this
      exact Int.le_trans this (Int.mul_nonneg hd hE0)
    · have h1 := sum_mul_le_mul_sum _ (·.weight) W (d * E) ps (fun s hs => (hspec s hs).deleg_mul_le)
      exact Int.le_of_mul_le_mul_right
        (Int.le_trans h1 (Int.mul_le_mul_of_nonneg_left hsum (Int.mul_nonneg hd hE0))) (by omega)
  rw [Int.add_mul]
  omega

/-- with at most `MomentumsPerEpoch` expected momentums in the epoch (24 h of 10 s slots) and the per-momentum rewards
    of `emission_tables`, all pillars together stay within the pillar part d·MPE + p·MPE of the epoch's emission -/
theorem pillar_epoch_within_emission (d p W : Int) (ps : List PillarStat) (hd : 0 ≤ d) (hp : 0 ≤ p) (hW : 0 ≤ W)
    (hprod : ∀ s ∈ ps, s.produced ≤ s.expected) (hw : ∀ s ∈ ps, 0 ≤ s.weight)
    (hsum : (ps.map (·.weight)).sum ≤ W)
    (hslots : (((ps.map (·.expected)).sum : Nat) : Int) ≤ Gen.MomentumsPerEpoch) :
    (ps.map (fun s => (pillarRewardForEpoch d p W ps s).total)).sum ≤
      d * Gen.MomentumsPerEpoch + p * Gen.MomentumsPerEpoch := by
  have hE : (ps.map (·.expected)).sum < two64 := by
    simp only [Gen.MomentumsPerEpoch, two64] at *; omega
  have h := pillar_epoch_bound d p W ps hd hp hW hprod hw hsum hE
  have h2 : (d + p) * (((ps.map (·.expected)).sum : Nat) : Int) ≤ (d + p) * Gen.MomentumsPerEpoch :=
    Int.mul_le_mul_of_nonneg_left hslots (by omega)
  have e1 := Int.add_mul d p Gen.MomentumsPerEpoch
  omega

/-- negative witness: the premise produced ≤ expected is necessary — a pillar credited with 2 produced momentums where
    1 was expected receives more than (d+p)·E -/
theorem pillar_bound_needs_produced_le_expected :
    ∃ (ps : List PillarStat), (ps.map (·.weight)).sum ≤ 1 ∧
      ¬ (ps.map (fun s => (pillarRewardForEpoch 10 10 1 ps s).total)).sum ≤ (10 + 10) * ((ps.map (·.expected)).sum : Nat) :=
  ⟨[⟨2, 1, 1⟩], by decide⟩

/-- negative witness: the premise Σ weightᵢ ≤ TotalWeight is necessary -/
theorem pillar_bound_needs_weight_sum :
    ∃ (ps : List PillarStat), (∀ s ∈ ps, s.produced ≤ s.expected) ∧
      ¬ (ps.map (fun s => (pillarRewardForEpoch 10 10 1 ps s).total)).sum ≤ (10 + 10) * ((ps.map (·.expected)).sum : Nat) :=
  ⟨[⟨1, 1, 2⟩], by decide⟩

example : ∃ ps : List PillarStat, ps.length = 2 ∧ (∀ s ∈ ps, s.produced ≤ s.expected) ∧ (ps.map (·.weight)).sum ≤ 10 ∧
    (ps.map (fun s => (pillarRewardForEpoch 7 5 10 ps s).total)).sum = 93 :=
  ⟨[⟨3, 4, 6⟩, ⟨5, 5, 4⟩], by decide⟩

/-! ### T3 — emission tables -/

/-- the percentage split of each coin does not exceed 100 -/
theorem percentages_le_100 :
    Gen.DelegationZnnRewardPercentage + Gen.MomentumProducingZnnRewardPercentage + Gen.SentinelZnnRewardPercentage +
      Gen.LiquidityZnnRewardPercentage ≤ 100 ∧
    Gen.StakingQsrRewardPercentage + Gen.SentinelQsrRewardPercentage + Gen.LiquidityQsrRewardPercentage ≤ 100 := by
  decide

/-- every entry of the regenerated ZNN and QSR tables passes (finite check over the whole table) -/
theorem tables_ok :
    (∀ n ∈ Gen.NetworkZnnRewardConfig, znnOK n = true) ∧ (∀ n ∈ Gen.NetworkQsrRewardConfig, qsrOK n = true) ∧
    Gen.NetworkZnnRewardConfig ≠ [] ∧ Gen.NetworkQsrRewardConfig ≠ [] ∧ 2 ≤ Gen.RewardTickDurationInEpochs := by
  decide +kernel

/-- T3: for EVERY epoch (uint64; the finite tables plus "last entry forever") the lookups of
    vm/constants succeed (no panic), every piece is non-negative, and per coin the contracts' pieces sum to at most the
    network emission of that epoch:
      ZNN: (delegation + producing per momentum) · MomentumsPerEpoch + sentinel + liquidity ≤ NetworkZnnRewardPerEpoch
      QSR: stake + sentinel + liquidity ≤ NetworkQsrRewardPerEpoch -/
theorem emission_tables (epoch : Nat) :
    ∃ zn qn d p sz sq lz lq st,
      networkZnnRewardPerEpoch epoch = some zn ∧ networkQsrRewardPerEpoch epoch = some qn ∧
      pillarRewardPerMomentum epoch = some (d, p) ∧ sentinelRewardForEpoch epoch = some (sz, sq) ∧
      liquidityRewardForEpoch epoch = some (lz, lq) ∧ stakeQsrRewardPerEpoch epoch = some st ∧
      0 ≤ d ∧ 0 ≤ p ∧ 0 ≤ sz ∧ 0 ≤ sq ∧ 0 ≤ lz ∧ 0 ≤ lq ∧ 0 ≤ st ∧
      d * Gen.MomentumsPerEpoch + p * Gen.MomentumsPerEpoch + sz + lz ≤ zn ∧
      st + sq + lq ≤ qn := by
  obtain ⟨hz, hq, hzne, hqne, hR⟩ := tables_ok
  obtain ⟨zn, hzm, hzl⟩ := network_mem Gen.NetworkZnnRewardConfig epoch hzne hR
  obtain ⟨qn, hqm, hql⟩ := network_mem Gen.NetworkQsrRewardConfig epoch hqne hR
  have h1 := hz zn hzm
  have h2 := hq qn hqm
  unfold znnOK at h1
  unfold qsrOK at h2
  split at h1
  · rename_i d p s l hzp
    split at h2
    · rename_i st sq lq hqp
      obtain ⟨d0, p0, s0, l0, hzs⟩ := of_decide_eq_true h1
      obtain ⟨st0, sq0, lq0, hqs⟩ := of_decide_eq_true h2
      refine ⟨zn, qn, d, p, s, sq, l, lq, st, hzl, hql, ?_, ?_, ?_, ?_, d0, p0, s0, sq0, l0, lq0, st0, hzs, hqs⟩ <;>
        simp only [pillarRewardPerMomentum, sentinelRewardForEpoch, liquidityRewardForEpoch, stakeQsrRewardPerEpoch,
          networkZnnRewardPerEpoch, networkQsrRewardPerEpoch, hzl, hql, hzp, hqp, Option.bind_eq_bind, Option.bind_some,
          Option.pure_def]
    · cases h2
  · cases h1

example : stakeRewardsForEpoch 100 [1, 1, 1] = [33, 33, 33] := by decide
example : (pillarSplit ⟨70, 30, 100⟩ 50 10 [1, 2]) = (78, [7, 14]) := by decide

end ZV.C11
