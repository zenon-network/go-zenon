import ZenonVerif.Model.Points
import ZenonVerif.Lemmas.Rewards
/-
C11 — "the credited amounts are a function of the chain alone": the consensus statistics part. The pillar contract
splits an epoch's emission with the epoch point `compound lowers` of the period points of that epoch. `compound` is a
Lean FUNCTION of the list of period points (values), which is the statement that the answer does not depend on what
was asked before; the `points` lines of the rewards-pure stream compare it with folds performed on the real, cached
`storage.Point` objects (the same objects folded repeatedly), and the rewards-node stream asks a real node's
PillarReader and compares with a fresh consensus instance. The theorems below are the conservation facts the reward
bound needs from the aggregation: an epoch point counts every produced momentum and every expected slot of its
period points exactly once, and its total weight is the sum of the pillar weights.
-/
namespace ZV.C11Points
open ZV.Points

/-- the produced momentums an epoch point reports (over all pillars) are exactly those of
    its period points — no momentum is counted twice, whatever the pillar sets of the periods (pillars entering or
    leaving mid-epoch). -/
theorem epoch_point_counts_once (lowers : List Point) :
    sumFactual (compound lowers).pillars = (lowers.map (fun l => sumFactual l.pillars)).sum :=
  compound_sum (·.factual) (fun _ _ => rfl) (fun _ _ => rfl) lowers

/-- the same for the expected slots. -/
theorem epoch_point_expects_once (lowers : List Point) :
    sumExpected (compound lowers).pillars = (lowers.map (fun l => sumExpected l.pillars)).sum :=
  compound_sum (·.expected) (fun _ _ => rfl) (fun _ _ => rfl) lowers

/-- if every period point reports at most `n` produced momentums (a period has `n` slots), an epoch of `k` periods
    reports at most `k * n`. (The pillar reward bound does not use this: its premise `ConsOK.expected_le_slots` is about
    the EXPECTED momentums, `C11Epoch.expected_premise_of_point`.) -/
theorem epoch_point_bounded (lowers : List Point) (n : Nat) (h : ∀ l ∈ lowers, sumFactual l.pillars ≤ n) :
    sumFactual (compound lowers).pillars ≤ lowers.length * n := by
  rw [epoch_point_counts_once]
  exact Rewards.sum_map_le_length_mul _ n lowers h

/-- the total weight reported is the sum of the reported pillar weights (premise Σ weight ≤ TotalWeight). -/
theorem epoch_point_total (lowers : List Point) :
    (compound lowers).total = ((compound lowers).pillars.map (fun e => e.2.weight)).sum := rfl

/-- a concrete epoch of two periods with a pillar (2) that left before the newer period: its counters are taken over
    from the older period unchanged, its weight is averaged over both periods -/
example :
    let older : Point := ⟨[(1, ⟨10, 9, 100⟩), (2, ⟨10, 10, 50⟩)], 150⟩
    let newer : Point := ⟨[(1, ⟨10, 8, 120⟩)], 120⟩
    compound [newer, older] = ⟨[(1, ⟨20, 17, 110⟩), (2, ⟨10, 10, 25⟩)], 135⟩ := by decide

end ZV.C11Points
