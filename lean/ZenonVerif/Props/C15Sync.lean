import ZenonVerif.Lemmas.Downloader
import ZenonVerif.Gen.Proto
/-
C15 — "no message from a remote peer can block the node indefinitely; only the offending peer is dropped": the
SYNCHRONISATION state machine of protocol/downloader (Model/Downloader.lean). The property theorems, with the runs and variants they speak of.

  (a) `hash_timer_invariant`      while the hash fetcher waits for the peer it synchronises from, the time-out of that request is
                                  armed — in every reachable state, whatever other peers send in between; `hash_wait_times_out`:
                                  `hashTTL` ticks end the wait. Variant (seeded change C15-r2-1: `timeout.Stop()` before the sender
                                  test): `foreign_pack_disarms_timer_in_variant`.
  (b) `sync_terminates_under_silence`   from every reachable state, silence (ticks, each followed by the block fetcher's update)
                                  ends the synchronisation within `measure s` ticks, `measure s ≤ hashTTL + 3 + (requests in flight
                                  + peers)·(blockTTL + 2)` (`silence_bound`).
  (c) `fresh_sync_starts_clean`   a synchronisation that starts finds all three channels and the queue empty, whatever the
                                  previous one left (FU2); `block_fetcher_waits_for_hash_fetcher`, `never_stuck`. Variant
                                  (before 4fc5ee4): `undrained_variant_reaches_deadlock`, `deadlock_is_forever`.
  (d) `blame_deliverer`           whoever is dropped is the one at fault: forged block / failed import — the peer that DELIVERED
                                  it (`cache_records_deliverer`); the origin only for its own time-out, its own hash packs, an
                                  authentic block of its hash chain outside the window, or being unable to serve when nobody
                                  else can (FU1, C15-r2-3). Variant (before 7ec6f07): `forged_height_blames_origin_in_variant`.

The theorems are about `Dl.step Cfg.fixed`, the function the driver replays the p2p-net traces with; `code_is_fixed` and the
`…_in_code` theorems pin, by facts generated from the working tree, that the code is that variant.
-/
namespace ZV.C15Sync
open ZV ZV.Dl

/-! ### the code is the variant the theorems are about (generated facts) -/

/-- fetchHashes, `case hashPack := <-d.hashCh`: the sender test — leave the case when the pack is not from the peer we
    synchronise from — comes first, `timeout.Stop()` after it; an empty pack ends the download through processCh, hashes that are
    not all new end it with errBadPeer, and the case ends with the next request (`getHashes` re-arms the timer:
    `timeout.Reset(hashTTL)`). findAncestor's time-outs are `time.After` channels — nothing can stop them — and both its hashCh
    cases start with the sender test. -/
theorem hash_case_in_code :
    Gen.FetchHashesHashCase =
      ["if hashPack.peerId != p.id { … break }", "timeout.Stop()", "if len(hashPack.hashes) == 0 { … return nil }",
       "inserts := d.queue.Insert(hashPack.hashes, true)", "if len(inserts) != len(hashPack.hashes) { … return errBadPeer }",
       "cont := d.queue.Pending() < maxQueuedHashes", "select { d.processCh <- cont | default }", "if !cont { … return nil }",
       "from += uint64(len(hashPack.hashes))", "getHashes(from)"] ∧
    Gen.FetchHashesSenderTestBeforeStop = true ∧
    Gen.FetchHashesTimerOps = ["time.NewTimer(0)", "timeout.Stop()", "timeout.Reset(hashTTL)", "timeout.Stop()"] ∧
    Gen.FindAncestorTimeouts = ["timeout := time.After(hashTTL)", "timeout := time.After(hashTTL)"] ∧
    Gen.FindAncestorHashCaseFirst = ["if hashPack.peerId != p.id { … break }", "if hashPack.peerId != p.id { … break }"] :=
  ⟨rfl, rfl, rfl, rfl, rfl⟩

/-- synchronise: after the busy test and before `return d.syncWithPeer(…)` a loop receives from hashCh, blockCh and processCh
    until all three are empty (4fc5ee4). -/
theorem drain_in_code :
    Gen.SynchroniseDrainCases = ["<-d.hashCh", "<-d.blockCh", "<-d.processCh", "default"] ∧
    Gen.SynchroniseDrainBeforeSyncWithPeer = true := ⟨rfl, rfl⟩

/-- queue.Deliver, the loop over the delivered blocks: requested? — `ComputeHash() != hash` ⇒ forged, next block — and only
    then the window test on `block.Height` (7ec6f07); after the loop the open hashes go back to the queue and a forged block
    yields errForgedBlock before anything else (5b338e6). -/
theorem deliver_order_in_code :
    Gen.DeliverLoopTests =
      ["if _, ok := request.Hashes[hash]; !ok { … continue }", "if block.ComputeHash() != hash { … continue }",
       "if index >= len(q.blockCache) || index < 0 { … return errInvalidChain }"] ∧
    Gen.DeliverHashTestBeforeHeight = true ∧
    Gen.DeliverAfterLoop =
      ["for range request.Hashes", "if forged { … return errForgedBlock }",
       "if len(errs) != 0 { … return fmt.Errorf(\"multiple failures: %v\", errs) }", "return nil"] := ⟨rfl, rfl, rfl⟩

/-- what follows each outcome of queue.Deliver in fetchBlocks — errForgedBlock: `d.dropPeer(blockPack.peerId)`, the peer that
    delivered the pack; errInvalidChain: the block fetcher returns it; errStaleDelivery: the peer is not set idle — what follows a
    failed import in process() — `d.dropPeer(blocks[index].OriginPeer)`, then `d.cancel()` — which errors `Synchronise` answers by
    dropping the peer it synchronised from, and the guard under which the handler hands a BlocksMsg to the downloader. -/
theorem outcomes_in_code :
    Gen.FetchBlocksDeliverCases =
      ["nil: peer.SetIdle(); d.process()", "errInvalidChain: return err", "errForgedBlock: d.dropPeer(blockPack.peerId)",
       "errNoFetchesPending: peer.SetIdle()", "errStaleDelivery: ", "default: peer.SetIdle(); d.process()"] ∧
    Gen.ProcessImportFailure = ["d.dropPeer(blocks[index].OriginPeer)", "d.cancel()", "return"] ∧
    Gen.DownloaderProcessDropArgs = ["blocks[index].OriginPeer"] ∧
    Gen.SynchroniseDropErrors =
      ["errTimeout", "errBadPeer", "errStallingPeer", "errBannedHead", "errEmptyHashSet", "errPeersUnavailable",
       "errInvalidChain", "errCrossCheckFailed"] ∧
    Gen.SynchroniseDropArgs = ["id"] ∧
    Gen.HandlerDeliverBlocksGuard = "blocks := pm.fetcher.Filter(blocks); len(blocks) > 0" :=
  ⟨rfl, rfl, rfl, rfl, rfl, rfl⟩

/-- the time-outs: a hash request 5 s, a block request 9 s (`d.queue.Expire(blockHardTTL)`), checked every 100 ms; the forced
    synchronisation cycle 4 s; the three channels hold one value each. In ticks: 50 and 90. -/
theorem timeouts_in_code :
    Gen.DlHashTTLms = 5000 ∧ Gen.DlBlockSoftTTLms = 3000 ∧ Gen.DlBlockHardTTLms = 9000 ∧ Gen.DlCrossCheckCycleMs = 1000 ∧
    Gen.DlTickerMs = 100 ∧ Gen.DlExpireArg = "blockHardTTL" ∧ Gen.ForceSyncCycleMs = 4000 ∧
    Gen.DlHashChCap = 1 ∧ Gen.DlBlockChCap = 1 ∧ Gen.DlProcessChCap = 1 ∧
    Gen.DlMaxQueuedHashes = 262144 ∧ Gen.DlBlockCacheLimit = 4096 ∧ hashTTL = 50 ∧ blockTTL = 90 :=
  ⟨rfl, rfl, rfl, rfl, rfl, rfl, rfl, rfl, rfl, rfl, rfl, rfl, hashTTL_eq, blockTTL_eq⟩

/-- the working tree is the variant the theorems below are stated for -/
theorem code_is_fixed : Cfg.ofCode = Cfg.fixed := rfl

/-- the answers of `Synchronise`, as the model reads them off the generated switch: the faults of the origin peer are answered
    with a drop, "no peers" and a cancellation are not. -/
theorem origin_faults_answered_with_drop :
    (∀ w ∈ [Why.timeout, .emptyHashSet, .badPeer, .invalidChain, .unavailable], w.dropsOrigin = true) ∧
    Why.dropsOrigin .noPeers = false ∧ Why.dropsOrigin .cancelled = false := by decide +kernel

/-! ### (a) the time-out of the pending hash request is armed -/

/-- In every reachable state of a running synchronisation whose hash fetcher waits for an answer (head probe, binary search,
    hash download), the time-out of the pending request is armed and fires within `hashTTL` ticks — for all interleavings of
    hash packs, block packs, registrations, departures, imports and cancellations, from whichever peers. -/
theorem hash_timer_invariant {s : State} (h : Reach .fixed s) {r : Run} (hr : s.run = some r)
    (hw : r.hf.waiting = true) : ∃ t, r.timer = some t ∧ 1 ≤ t ∧ t ≤ hashTTL := by
  have ok := (inv_reach h).run r hr
  obtain ⟨t, ht⟩ := Option.isSome_iff_exists.mp (ok.armed hw)
  exact ⟨t, ht, ok.range t ht⟩

/-- n ticks and nothing else -/
def ticks (s : State) : Nat → State
  | 0 => s
  | n + 1 => ticks (step .fixed s .tick).1 n

theorem ticks_none {s : State} (h : s.run = none) (n : Nat) : (ticks s n).run = none := by
  induction n generalizing s with
  | zero => exact h
  | succ n ih => exact ih (by simp [step, onTick, h])

theorem ticks_fire {s : State} {r : Run} {t : Nat} (hr : s.run = some r) (ht : r.timer = some t) (h1 : 1 ≤ t) (n : Nat)
    (hn : t ≤ n) : (ticks s n).run = none := by
  induction n generalizing s r t with
  | zero => omega
  | succ n ih =>
    simp only [ticks, step]
    by_cases hle : t ≤ 1
    · apply ticks_none
      simp [onTick, hr, ht, hle]
    · refine ih (r := { r with timer := some (t - 1) }) (t := t - 1) ?_ rfl (by omega) (by omega)
      simp [onTick, hr, ht, hle]

/-- …so ticks alone end the wait: `hashTTL` of them (5 s) after any reachable state in which the hash fetcher waits, the
    synchronisation is over. (Who is dropped at that moment is not part of this statement: `blame_deliverer`, and the run of
    `foreign_pack_disarms_timer_in_variant`.) -/
theorem hash_wait_times_out {s : State} (h : Reach .fixed s) {r : Run} (hr : s.run = some r) (hw : r.hf.waiting = true) :
    (ticks s hashTTL).run = none := by
  obtain ⟨t, ht, h1, h2⟩ := hash_timer_invariant h hr hw
  exact ticks_fire hr ht h1 _ h2

/-- the seeded variant: `timeout.Stop()` before the sender test -/
def stopFirst : Cfg := ⟨false, true, true⟩

/-- the run of seeded change C15-r2-1: the node synchronises from peer 1, which answers the head probe and the first hash
    request and then says nothing; peer 2 sends one unsolicited hash pack -/
def foreignPackRun : List Event :=
  [.register 1, .register 2, .sync 1 1, .hashes 1 ⟨[3, 2, 1], .known⟩, .hashes 1 ⟨[3, 2, 1], .unknown⟩, .hashes 2 ⟨[9], .unknown⟩]

/-- In the variant the foreign pack leaves the hash fetcher waiting for peer 1 with NO time-out armed: a reachable state the
    invariant excludes (`stuck`) and a tick does not leave (`disarmed_forever`); the same run in the code as it is keeps the time-out armed
    and ends after `hashTTL` ticks with peer 1 — and only peer 1 — dropped. -/
theorem foreign_pack_disarms_timer_in_variant :
    (exec stopFirst {} foreignPackRun).1.run = some ⟨1, 1, .fetch, none, .run false⟩ ∧
    stuck (exec stopFirst {} foreignPackRun).1 = true ∧
    (exec .fixed {} foreignPackRun).1.run = some ⟨1, 1, .fetch, some hashTTL, .run false⟩ ∧
    (exec .fixed {} (foreignPackRun ++ List.replicate hashTTL .tick)).2 = [(1, .timeout)] := by decide +kernel

/-- one tick leaves a run with a disarmed time-out (`timer = none`) as it is, in any variant; so does every further one, since
    the hypotheses hold again of the state it yields -/
theorem disarmed_forever (cfg : Cfg) {s : State} {r : Run} (hr : s.run = some r) (ht : r.timer = none) :
    (step cfg s .tick).1.run = some r := by
  simp [step, onTick, hr, ht]

/-! ### (b) silence ends a synchronisation -/

/-- From every reachable state: a run of silence — every 100 ms the ticker fires and the block fetcher runs its update,
    handing out requests `cs[i]` such that no idle peer is left unasked while hashes are pending (`MaximalRun`: the loop over
    `IdlePeers()`; which peer gets which hashes is free) — ends the synchronisation after at most `measure s` ticks: the
    remaining ticks of the armed hash time-out, of every request in flight (+1), one block time-out (+2) per peer that can still
    be asked, and the hand-over of the last flag. No peer can prolong it by keeping quiet. -/
theorem sync_terminates_under_silence {s : State} (h : Reach .fixed s) (cs : List (List (Nat × List Nat)))
    (hm : MaximalRun s cs) (hn : measure s ≤ cs.length) : (silentRun s cs).run = none :=
  silent_terminates (inv_reach h) cs hm hn

/-- the bound in the real constants: `hashTTL + 3 + (requests in flight + registered peers) · (blockTTL + 2)` ticks, i.e.
    5.3 s + 9.2 s per request in flight and per peer. -/
theorem silence_bound {s : State} (h : Reach .fixed s) :
    measure s ≤ hashTTL + 3 + (s.inflight.length + s.peers.length) * (blockTTL + 2) :=
  measure_bound (inv_reach h)

/-- every step of silence strictly lowers the measure while a synchronisation runs (the core of (b)) -/
theorem silence_makes_progress {s : State} (h : Reach .fixed s) (rs : List (Nat × List Nat))
    (hm : MaximalAt (step .fixed s .tick).1 rs) (hrun : s.run ≠ none) : measure (quiet s rs) < measure s :=
  quiet_measure (inv_reach h) rs hm hrun

instance (u : State) (rs : List (Nat × List Nat)) : Decidable (MaximalAt u rs) := by
  unfold MaximalAt; exact inferInstance

instance decMaximalRun : (s : State) → (cs : List (List (Nat × List Nat))) → Decidable (MaximalRun s cs)
  | _, [] => isTrue trivial
  | s, c :: cs =>
    have := decMaximalRun (quiet s c) cs
    (inferInstance : Decidable (MaximalAt (step .fixed s .tick).1 c ∧ MaximalRun (quiet s c) cs))

/-! ### (c) a synchronisation starts with empty channels -/

/-- After ANY previous synchronisation — ended normally, by an error, by a cancellation, with whatever is left on hashCh,
    blockCh and processCh (`s` is arbitrary, not only reachable) — a synchronisation that starts finds the three channels
    empty and the queue empty, and is in its first state: head probe sent, time-out armed, block fetcher not started. -/
theorem fresh_sync_starts_clean (s : State) (p head : Nat) (hidle : s.run = none) (r : Run)
    (hstart : (step .fixed s (.sync p head)).1.run = some r) :
    (step .fixed s (.sync p head)).1.hashCh = none ∧ (step .fixed s (.sync p head)).1.blockCh = none ∧
    (step .fixed s (.sync p head)).1.processCh = none ∧ (step .fixed s (.sync p head)).1.pending = [] ∧
    (step .fixed s (.sync p head)).1.inflight = [] ∧ (step .fixed s (.sync p head)).1.cache = [] ∧
    r = ⟨p, head, .probe, some hashTTL, .off⟩ := by
  rw [show step .fixed s (.sync p head) = onSync .fixed s p head from rfl] at hstart ⊢
  rcases onSync_out s p head with heq | ⟨R, hR, heq⟩ <;> rw [heq] at hstart ⊢
  · exact nomatch hidle.symm.trans hstart
  · rcases hR with rfl | rfl
    · cases hstart
    · cases hstart; exact ⟨rfl, rfl, rfl, rfl, rfl, rfl, rfl⟩

/-- Read off the invariant: in every reachable state of a running synchronisation, the block fetcher has not returned (it returns only together
    with the end of the synchronisation), it has seen the "no more hashes" flag only if the hash fetcher of THIS synchronisation
    has sent it, a `false` on processCh comes from that hash fetcher, and a hash fetcher blocked on its last send has a running
    block fetcher to take it. -/
theorem block_fetcher_waits_for_hash_fetcher {s : State} (h : Reach .fixed s) {r : Run} (hr : s.run = some r) :
    r.bf ≠ .done ∧ (r.bf = .run true → r.hf = .done) ∧ (s.processCh = some false → r.hf = .done) ∧
    (r.hf = .blocked → ∃ fin, r.bf = .run fin) := by
  have ok := (inv_reach h).run r hr
  refine ⟨ok.notDone, ok.fin, ok.flag, ?_⟩
  intro hb
  cases hbf : r.bf with
  | off => exact absurd hb (RunOk.ancestor_ne (ok.off.mp hbf)).2.1
  | run fin => exact ⟨fin, rfl⟩
  | done => exact absurd hbf ok.notDone

/-- no reachable state is `stuck` (a hash fetcher waiting without a time-out, or the dead end of FU2) -/
theorem never_stuck {s : State} (h : Reach .fixed s) : stuck s = false := by
  unfold stuck
  cases hr : s.run with
  | none => rfl
  | some r =>
    have ok := (inv_reach h).run r hr
    have h1 : (r.hf.waiting && r.timer.isNone) = false :=
      Bool.and_eq_false_imp.mpr fun hw => Option.isNone_eq_false_iff.mpr (ok.armed hw)
    have h2 : deadlocked s = false := by
      unfold deadlocked
      simp only [hr]
      cases hbf : r.bf with
      | done => exact absurd hbf ok.notDone
      | _ => simp
    simp [h1, h2]

/-- the variant before 4fc5ee4: the channels are not drained -/
def undrained : Cfg := ⟨true, false, true⟩

/-- the run of FU2. First synchronisation, from peer 1: all hashes delivered, the terminating empty pack puts `false` on
    processCh, and before the block fetcher takes it a block pack ends the synchronisation (here: an authentic block outside the
    window). Second synchronisation, from the honest peer 2: the block fetcher takes the stale `false`, finds nothing to do and
    returns; the hash fetcher downloads the hashes, fills processCh and blocks on its last send. -/
def staleFlagRun : List Event :=
  [.register 1, .register 2, .sync 1 1, .hashes 1 ⟨[3, 2, 1], .known⟩, .hashes 1 ⟨[3, 2, 1], .unknown⟩,
   .update [(1, [3])], .hashes 1 ⟨[], .unknown⟩, .blocks 1 [⟨3, true, false, true⟩],
   .sync 2 1, .hashes 2 ⟨[3, 2, 1], .known⟩, .update [], .hashes 2 ⟨[3, 2, 1], .unknown⟩, .hashes 2 ⟨[], .unknown⟩]

/-- In the variant the run ends in the dead end: hash fetcher blocked on `d.processCh <- false`, block fetcher gone, no time-out
    armed, nothing in flight, synchronising = 1. In the code as it is the same events leave the block fetcher running, and the
    next update takes the flag and lets the hash fetcher finish. -/
theorem undrained_variant_reaches_deadlock :
    (exec undrained {} staleFlagRun).1.run = some ⟨2, 1, .blocked, none, .done⟩ ∧
    deadlocked (exec undrained {} staleFlagRun).1 = true ∧ stuck (exec undrained {} staleFlagRun).1 = true ∧
    (exec undrained {} staleFlagRun).1.cache = [] ∧
    (exec .fixed {} staleFlagRun).1.run = some ⟨2, 1, .blocked, none, .run false⟩ ∧
    (exec .fixed {} (staleFlagRun ++ [.update []])).1.run = some ⟨2, 1, .done, none, .run false⟩ := by decide +kernel

/-- …and no single event leads out of the dead end: no hash pack, block pack, tick, update, registration, departure, import or
    further `Synchronise` (it answers errBusy) changes the run or fills the cache — only `Terminate` does, when the node shuts
    down. Any variant. The state after the event meets the hypotheses again, so this holds along any run without `cancel`. -/
theorem deadlock_is_forever (cfg : Cfg) {s : State} {r : Run} (hr : s.run = some r) (hb : r.hf = .blocked)
    (hd : r.bf = .done) (ht : r.timer = none) (hc : s.cache = []) (e : Event) (he : e ≠ .cancel) :
    (step cfg s e).1.run = some r ∧ (step cfg s e).1.cache = [] := by
  cases e with
  | register p => simp only [step]; split <;> exact ⟨hr, hc⟩
  | unregister p => exact ⟨hr, hc⟩
  | sync p hd' => simp [step, onSync, hr, hc]
  | hashes p pk => simp only [step, onHashes, hr, hb]; split <;> first | exact ⟨hr, hc⟩ | exact ⟨rfl, hc⟩
  | blocks p items => simp only [step, onBlocks, hr, hd]; split <;> first | exact ⟨hr, hc⟩ | exact ⟨rfl, hc⟩
  | tick => simp [step, onTick, hr, ht, hc]
  | update rs => simp [step, onUpdate, hr, hd, hc]
  | requeue p => exact ⟨hr, hc⟩
  | imp => simp [step, onImp, hc, takeBlocks, hr]
  | cancel => exact absurd rfl he

/-! ### (d) only the offender is dropped -/

/-- Whenever an event makes the node drop a peer, `Blame` holds — for EVERY state and event:
    * errForgedBlock — the event is a block pack of the dropped peer itself, and it holds a block filed under a hash requested
      from that peer that does not hash to it;
    * failed import — the block the import refused lies in the cache under the dropped peer's name (`cache_records_deliverer`:
      an entry carries the name of the peer whose pack put it there);
    * the peer the node synchronises from — only for the time-out of a hash request pending at it, for a hash pack it sent
      itself (errEmptyHashSet: the pack is empty; errBadPeer: `Blame` records the sender, not what was wrong with the pack), for
      an AUTHENTIC block (hash matches, so the height is the one the hash commits to) of its hash chain outside the download
      window, or at an update before which it was not idle itself (errPeersUnavailable);
    * errNoPeers and a cancellation drop nobody. -/
theorem blame_deliverer (s : State) (e : Event) (p : Nat) (w : Why) (h : (p, w) ∈ (step .fixed s e).2) : Blame s e p w :=
  (blame_step s e p w h).1

/-- an entry of the block cache is there since before, or the event is a block pack of the peer the entry names, holding that
    block under a hash requested from that peer, and the entry is importable only if the block is genuine -/
theorem cache_records_deliverer (s : State) (e : Event) :
    ∀ b ∈ (step .fixed s e).1.cache, b ∈ s.cache ∨
      ∃ items, e = .blocks b.src items ∧ ∃ it ∈ items, it.id = b.id ∧ b.ok = (it.valid && it.hashOk) ∧
        requestedFrom s b.src it.id :=
  cache_step s e

/-- the variant before 7ec6f07: the height of a delivered block is used before its hash is checked -/
def heightTrusted : Cfg := ⟨true, true, false⟩

/-- the run of FU1: the node synchronises from the honest peer 1; peer 2, asked for block 3, answers with the requested hash
    and a false height (so the block does not hash to it) -/
def forgedHeightRun : List Event :=
  [.register 1, .register 2, .sync 1 1, .hashes 1 ⟨[3, 2, 1], .known⟩, .hashes 1 ⟨[3, 2, 1], .unknown⟩,
   .update [(2, [3]), (1, [2])], .blocks 2 [⟨3, false, false, false⟩]]

/-- In the variant the forged height is "an invalid hash chain" and the ORIGIN, peer 1, is dropped for peer 2's delivery, the
    synchronisation is over and peer 2 stays. In the code as it is peer 2 — the deliverer — is dropped, peer 1 stays, the
    synchronisation goes on and the hash is back in the queue. -/
theorem forged_height_blames_origin_in_variant :
    (exec heightTrusted {} forgedHeightRun).2 = [(1, .invalidChain)] ∧
    (exec heightTrusted {} forgedHeightRun).1.run = none ∧
    (exec heightTrusted {} forgedHeightRun).1.peers = [⟨2, false⟩] ∧
    (exec .fixed {} forgedHeightRun).2 = [(2, .forged)] ∧
    (exec .fixed {} forgedHeightRun).1.peers = [⟨1, false⟩] ∧
    (exec .fixed {} forgedHeightRun).1.pending = [1, 3] ∧
    ((exec .fixed {} forgedHeightRun).1.run.map (·.origin)) = some 1 := by decide +kernel

/-- a batch assembled from two peers: blocks 1 and 2 genuine from peer 1, block 3 — genuine hash, refused by the import (a
    forged signature) — from peer 2: the import fails at index 2 and peer 2 is dropped, whoever the node synchronises from
    (C15-r2-3: the index must be the position in the batch as handed over — `C15.import_failure_blames_deliverer`). -/
theorem import_failure_drops_deliverer_example :
    (exec .fixed {}
      [.register 1, .register 2, .sync 1 1, .hashes 1 ⟨[3, 2, 1], .known⟩, .hashes 1 ⟨[3, 2, 1], .unknown⟩,
       .hashes 1 ⟨[], .unknown⟩, .update [(2, [3]), (1, [2, 1])], .blocks 2 [⟨3, true, true, false⟩], .imp,
       .blocks 1 [⟨2, true, true, true⟩, ⟨1, true, true, true⟩], .imp]).2 = [(2, .importFailed)] := by decide +kernel

/-! ### a peer that LEFT with a request in flight (seeded C15-r3-3)

`unregister` removes the peer from the peer set and nothing else: what the node had asked it for stays in flight — the hash
request until its time-out fires (`hash_wait_times_out`), the block request until `queue.Expire` hands it back. Both are then
dealt with by code that can no longer look the peer up. In the model that code does not look at the peer set at all; the
theorems say what it must therefore do for EVERY peer, registered or not: hand the hashes back, drop nobody who is not
registered. (The Go loop over `queue.Expire` has to skip the peers it cannot find: the `p2p-net` family `leaver-…` runs the
real node through it.) -/

/-- `queue.Expire`: the hashes of every request whose time is up go back to the queue and the request is forgotten, whoever it
    was handed to — a registered peer or one that has left since; the peer set is not touched -/
theorem expired_request_goes_back (q : Sched) (x : Req) (hx : x ∈ q.inflight) (h0 : x.left = 0) :
    (∀ id ∈ x.ids, id ∈ (expire q).pending) ∧ x ∉ (expire q).inflight ∧ (expire q).peers = q.peers := by
  refine ⟨?_, ?_, expire_peers q⟩
  · intro id hid
    simp only [expire, List.mem_append, List.mem_flatMap, List.mem_filter]
    exact Or.inr ⟨x, ⟨hx, by simp [h0]⟩, hid⟩
  · simp [expire, h0]

theorem abort_drop_registered {s : State} {r : Run} {w0 : Why} {d : Drop} (h : d ∈ (abort s r w0).2) :
    registered s d.1 = true := by
  obtain ⟨rfl, _, hreg⟩ := abort_drops h
  exact hreg

/-- whoever an `update` of the block fetcher drops is registered at that moment. The expiry of a request drops nobody — the
    only drop of an update is the origin when nobody can be asked (`blame_deliverer`) —, and nothing at all is done to a peer
    that is no longer registered, whatever it still has in flight. -/
theorem update_drops_only_registered (s : State) (rs : List (Nat × List Nat)) (p : Nat) (w : Why)
    (h : (p, w) ∈ (step .fixed s (.update rs)).2) : registered s p = true :=
  (blame_step s _ p w h).2

/-- the scenario of C15-r3-3 in the model: the node (height 1) synchronises from peer 1; peer 2, idle, is handed the request for
    hash 3 and LEAVES without answering; peer 1 delivers 2 and 1, which are imported… -/
def leaverRun : List Event :=
  [.register 1, .register 2, .sync 1 1, .hashes 1 ⟨[3, 2, 1], .known⟩, .hashes 1 ⟨[3, 2, 1], .unknown⟩,
   .hashes 1 ⟨[], .unknown⟩, .update [(2, [3]), (1, [2, 1])], .unregister 2,
   .blocks 1 [⟨2, true, true, true⟩, ⟨1, true, true, true⟩], .imp]

/-- …and `blockTTL` ticks of the block fetcher later -/
def leaverWait : List Event := (List.replicate blockTTL [Event.tick, Event.update []]).flatten

/-- the state when the request has just expired -/
private theorem leaver_expired :
    exec .fixed {} (leaverRun ++ leaverWait) =
      ({ peers := [⟨1, true⟩], run := some ⟨1, 1, .done, none, .run true⟩, pending := [3], offset := 3, head := 2 }, []) := by
  decide +kernel

/-- until the request expires it stays in flight at the peer that left and the synchronisation waits for it; the expiry drops
    nobody, the hash is back in the queue, the synchronisation goes on… -/
theorem departed_peer_request_expires :
    (exec .fixed {} leaverRun).1.inflight = [⟨2, [3], blockTTL⟩] ∧
    registered (exec .fixed {} leaverRun).1 2 = false ∧
    (exec .fixed {} (leaverRun ++ leaverWait)).2 = [] ∧
    (exec .fixed {} (leaverRun ++ leaverWait)).1.pending = [3] ∧
    (exec .fixed {} (leaverRun ++ leaverWait)).1.inflight = [] ∧
    (exec .fixed {} (leaverRun ++ leaverWait)).1.run.isSome = true := by
  rw [leaver_expired]
  exact ⟨by decide +kernel, by decide +kernel, rfl, rfl, rfl, rfl⟩

/-- …the peer that stayed is asked, delivers, the import reaches height 3 and the synchronisation ends: nobody was dropped -/
theorem departed_peer_request_served_by_the_other :
    (exec .fixed {} (leaverRun ++ leaverWait ++
      [.update [(1, [3])], .blocks 1 [⟨3, true, true, true⟩], .imp, .update []])) =
    ({ peers := [⟨1, true⟩], offset := 4, head := 3 }, []) := by
  rw [exec_append, leaver_expired]
  decide +kernel

/-! ### the hypotheses are satisfiable -/

/-- an honest synchronisation: probe, two search steps, three hashes, three blocks from two peers, import; nobody dropped, the
    node at height 5, no synchronisation left -/
example :
    (exec .fixed { head := 3 }
      [.register 1, .register 2, .sync 1 3, .hashes 1 ⟨[5, 4, 3, 2, 1], .known⟩, .hashes 1 ⟨[1], .known⟩,
       .hashes 1 ⟨[2], .known⟩, .hashes 1 ⟨[5, 4, 3], .unknown⟩, .update [(1, [5]), (2, [4])],
       .hashes 1 ⟨[], .unknown⟩, .blocks 2 [⟨4, true, true, true⟩], .blocks 1 [⟨5, true, true, true⟩],
       .update [(1, [3])], .blocks 1 [⟨3, true, true, true⟩], .imp, .update []]) =
    ({ peers := [⟨1, true⟩, ⟨2, true⟩], offset := 6, head := 5 }, []) := by decide +kernel

/-- (a): a state with a waiting hash fetcher is reachable (after the head probe was sent) -/
example : ∃ s r, Reach .fixed s ∧ s.run = some r ∧ r.hf.waiting = true :=
  ⟨_, _, .step (.sync 1 1) (.step (.register 1) (.init 0)), rfl, rfl⟩

/-- (b): a reachable state with a synchronisation running, two requests in flight at silent peers, measure 233; 233 steps of
    silence with no request handed out are a maximal run (nobody is idle) -/
def silentState : State :=
  (exec .fixed {}
    [.register 1, .register 2, .sync 1 1, .hashes 1 ⟨[3, 2, 1], .known⟩, .hashes 1 ⟨[3, 2, 1], .unknown⟩,
     .update [(1, [3]), (2, [2])]]).1

example : measure silentState = 233 ∧ silentState.run.isSome = true := by decide +kernel

private theorem silentState_maximal : MaximalRun silentState (List.replicate 233 []) := by decide +kernel

set_option maxRecDepth 100000 in
example : MaximalRun silentState (List.replicate 233 []) := silentState_maximal

theorem reach_exec {cfg : Cfg} {s : State} (h : Reach cfg s) (es : List Event) : Reach cfg (exec cfg s es).1 := by
  induction es generalizing s with
  | nil => exact h
  | cons e es ih => exact ih (.step e h)

set_option maxRecDepth 100000 in
/-- …so the theorem applies: 23.3 s of silence end that synchronisation -/
example : (silentRun silentState (List.replicate 233 [])).run = none :=
  sync_terminates_under_silence (reach_exec (.init 0) _) _ silentState_maximal (by decide +kernel)

/-- (c): a state with no synchronisation and something left in every channel and in the queue… -/
def leftovers : State :=
  { peers := [⟨1, false⟩], hashCh := some (2, ⟨[], .unknown⟩), blockCh := some (2, []), processCh := some false,
    pending := [7] }

/-- …in which a synchronisation starts -/
example : (step .fixed leftovers (.sync 1 4)).1 =
    { peers := [⟨1, true⟩], run := some ⟨1, 4, .probe, some hashTTL, .off⟩, head := 4 } := by decide +kernel

end ZV.C15Sync
