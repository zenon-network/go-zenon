import ZenonVerif.Lemmas.Proto
/-
C15 — untrusted peers cannot crash, stall or bloat the node: the logic part (request arithmetic, reply caps,
size gate, dispatch) of protocol/handler.go. Property theorems only.

The model follows the code as it is, both repairs included: before d85e958 a `GetBlockHashesMsg` naming an
unknown hash panicked (F7a: `unknown_hash_empty_reply`), before 99f2642 `GetBlockHashesFromNumberMsg` with
`Number + Amount ≤ 1` was answered with the whole chain (F7b: `fromNumber_former_counterexamples`). The stream `p2p`
sends the same requests to the real handler on every run (monitor "reply ≤ 512 hashes, no panic").
-/
namespace ZV.C15
open ZV ZV.Proto

/-! ### T1 `reply_caps` -/

/-- `GetBlockHashesMsg`: for every chain height, every (known or unknown) hash and every amount, a reply
    carries at most `MaxHashFetch` hashes. -/
theorem reply_caps_getHashes (H : Nat) (hash : Option Nat) (amount : Nat) (l : List Nat)
    (h : onGetHashes H hash amount = .hashes l) : l.length ≤ Gen.MaxHashFetch := by
  have := onGetHashes_withinCaps H hash amount
  rwa [h] at this

/-- `GetBlocksMsg`: for every list of requested hashes (held or not, with or without a malformed tail) a
    reply carries at most `MaxBlockFetch` momentums. -/
theorem reply_caps_getBlocks (H : Nat) (hs : List (Option Nat)) (bad : Bool) (l : List Nat)
    (h : onGetBlocks H hs bad = .blocks l) : l.length ≤ Gen.MaxBlockFetch := by
  have := onGetBlocks_withinCaps H hs bad
  rwa [h] at this

/-- `GetBlockHashesFromNumberMsg`: for EVERY chain height, every number and every amount — including the
    requests with `Number + Amount ≤ 1` and every combination in which `Number + Amount − 1` or
    `last.Height − Number + 1` wraps around — a reply carries at most `MaxHashFetch` hashes. No premise: the
    amount handed to `GetBlockHashesFromHash` is the capped amount or less (`fromNumberLast_amount_le`). -/
theorem reply_caps_fromNumber (H number amount : Nat) (l : List Nat)
    (h : onGetHashesFromNumber H number amount = .hashes l) : l.length ≤ Gen.MaxHashFetch := by
  have := onGetHashesFromNumber_withinCaps H number amount
  rwa [h] at this

/-- T1 on the dispatcher: whatever the node, the code, the size and the body of a message, a reply carries at
    most `MaxHashFetch` hashes or `MaxBlockFetch` momentums. No premise. -/
theorem reply_caps (s : State) (m : Msg) : (handleMsg s m).2.withinCaps := by
  unfold handleMsg
  split
  · trivial
  · exact handleKind_ind s (P := fun r => r.2.withinCaps) (fun _ => trivial) (fun _ => trivial)
      (onGetHashes_withinCaps _) (onGetHashesFromNumber_withinCaps _) (onGetBlocks_withinCaps _) _ _

/-- the requests that used to be answered with the whole chain (F7b, repaired in 99f2642), on a chain of 600
    momentums: (0,0) and (1,0) ask for nothing and get nothing; (0,1) gets one hash, the frontier's. -/
theorem fromNumber_former_counterexamples :
    onGetHashesFromNumber 600 0 0 = .hashes [] ∧ onGetHashesFromNumber 600 1 0 = .hashes [] ∧
    onGetHashesFromNumber 600 0 1 = .hashes [600] ∧ Gen.MaxHashFetch < 600 := by decide

/-- …and on every chain: an amount of 0 is answered with no hash at all, whatever the number. -/
theorem fromNumber_amount_zero (H number : Nat) (h1 : 1 ≤ H) (hH : H + 1 < two64) :
    onGetHashesFromNumber H number 0 = .hashes [] := by
  obtain ⟨p, hp, hp1, hp2, hp3⟩ := fromNumberLast_spec H number 0 h1
  unfold onGetHashesFromNumber
  rw [show capHash 0 = 0 from rfl, hp]
  simp only
  split
  · rfl
  · rw [Nat.le_zero.mp hp3, hashesFromHash_some hp1 hp2 hH (Nat.zero_le _)]
    have : ¬ (p.1 + 1 ≤ 0) := by omega
    simp [this]

/-- (0, 1) — "one hash from number 0", a height no momentum has — is answered with exactly one hash. -/
theorem fromNumber_zero_one (H : Nat) (h1 : 1 ≤ H) (hH : H + 1 < two64) :
    onGetHashesFromNumber H 0 1 = .hashes [H] := by
  -- no momentum at height 0: `last` is the frontier, `available = H + 1` does not lower the amount
  have hc : capHash 1 = 1 := by decide
  have hk : byHeight H (sub64 (u64 (0 + 1)) 1) = none := if_neg (fun h => absurd h.1 (by decide))
  have hl : fromNumberLast H 0 1 = some (H, 1) := by
    simp only [fromNumberLast, hk, currentBlock_some h1, sub64_of_le (Nat.zero_le H), Nat.sub_zero, u64_of_lt hH]
    rw [if_neg (by omega)]
  unfold onGetHashesFromNumber
  rw [hc, hl]
  simp only [Nat.not_lt_zero, if_false]
  rw [hashesFromHash_some h1 (Nat.le_refl _) hH (by decide), if_neg (by omega)]
  simp only [Nat.add_sub_cancel, Nat.add_sub_cancel_left]
  rfl
/-! ### T2 `handler_total` -/

/-- no message makes a handler panic: every code, every size, every body — every amount and number, every
    hash, held or not. Premises on the NODE only: it holds its genesis momentum (`chain.Init` guarantees it;
    without one `CurrentBlock()` is nil) and its height is below 2^64 − 1 (at height 2^64 − 1 — reached after
    5.8·10^12 years of one momentum per 10 s — `height + 1` wraps around to 0 in `GetMomentumsByHeight` and
    `make([]*Momentum, 0, 0 − 1)` panics). Both are necessary: `handler_total_needs_genesis`,
    `handler_total_needs_room`. -/
theorem handler_total (s : State) (m : Msg) (h1 : 1 ≤ s.H) (hH : s.H + 1 < two64) :
    (handleMsg s m).2 ≠ .panic := by
  unfold handleMsg
  split
  · nofun
  · exact handleKind_ind s (P := fun r => r.2 ≠ .panic) (fun _ => nofun) (fun _ => nofun)
      (onGetHashes_ne_panic hH) (onGetHashesFromNumber_ne_panic h1 hH) (onGetBlocks_ne_panic _) _ _

/-- the request that used to kill the node (F7a, repaired in d85e958): a `GetBlockHashesMsg` naming a hash
    the node does not hold is answered with an empty `BlockHashesMsg` — on every node, for every amount —
    and the session goes on. -/
theorem unknown_hash_empty_reply (s : State) (size amount : Nat) (hs : size ≤ Gen.ProtocolMaxMsgSize) :
    handleMsg s ⟨Gen.GetBlockHashesMsg, size, .getHashes none amount⟩ = (s, .hashes []) := by
  unfold handleMsg
  rw [if_neg (Nat.not_lt.mpr hs)]
  rfl

/-- the first premise of `handler_total` cannot be dropped: a chain without any momentum (not a state a node
    can be in) makes `last.Height` dereference the nil `CurrentBlock()`. -/
theorem handler_total_needs_genesis :
    (handleMsg { H := 0 } ⟨Gen.GetBlockHashesFromNumberMsg, 3, .getHashesFromNumber 0 0⟩).2 = .panic := by decide

/-- the second premise cannot be dropped either: on a chain of 2^64 − 1 momentums a request for the
    frontier's own hash panics (`height + 1` wraps around to 0: `make` with capacity 2^64 − 1). -/
theorem handler_total_needs_room :
    (handleMsg { H := two64 - 1 } ⟨Gen.GetBlockHashesMsg, 35, .getHashes (some (two64 - 1)) 1⟩).2 = .panic := by
  decide

/-! ### T3 `size_gate` -/

/-- a message whose size exceeds `ProtocolMaxMsgSize` is refused with `ErrMsgTooLarge` whatever its code
    and whatever its payload decodes to (the verdict does not depend on the body: nothing is decoded),
    and the node state is untouched. -/
theorem size_gate (s : State) (code size : Nat) (body : Body) (h : size > Gen.ProtocolMaxMsgSize) :
    handleMsg s ⟨code, size, body⟩ = (s, .err .msgTooLarge) := by
  unfold handleMsg; simp [h]

/-- a code outside the protocol's nine yields `ErrInvalidMsgCode` and no state change. -/
theorem unknown_code (s : State) (code size : Nat) (body : Body) (hc : Gen.ProtocolLength ≤ code)
    (h : size ≤ Gen.ProtocolMaxMsgSize) :
    handleMsg s ⟨code, size, body⟩ = (s, .err .invalidMsgCode) := by
  -- a code from 9 on fails each of the nine comparisons of `kindOf`
  obtain ⟨n, rfl⟩ : ∃ n, code = n + 9 := ⟨code - 9, by have : Gen.ProtocolLength = 9 := rfl; omega⟩
  unfold handleMsg
  rw [if_neg (Nat.not_lt.mpr h)]
  rfl

/-- every error outcome (and every panic) leaves the node state as it was; the three request handlers
    never change it. -/
theorem error_no_state_change (s : State) (m : Msg) :
    (∀ e, (handleMsg s m).2 = .err e → (handleMsg s m).1 = s) ∧
    ((kindOf m.code = .getHashes ∨ kindOf m.code = .getHashesFromNumber ∨ kindOf m.code = .getBlocks)
      → (handleMsg s m).1 = s) := by
  unfold handleMsg
  split
  · exact ⟨fun _ _ => rfl, fun _ => rfl⟩
  · constructor
    · exact handleKind_ind s (P := fun r => ∀ e, r.2 = .err e → r.1 = s) (fun _ _ _ => rfl) (fun _ _ h => nomatch h)
        (fun _ _ _ _ => rfl) (fun _ _ _ _ => rfl) (fun _ _ _ _ => rfl) _ _
    · rintro (hk | hk | hk) <;> rw [hk] <;> cases m.body <;> rfl

/-- the nine codes are pairwise distinct and are exactly 0..ProtocolLength−1 (generated facts). -/
theorem codes_distinct :
    [Gen.StatusMsg, Gen.NewBlockHashesMsg, Gen.TxMsg, Gen.GetBlockHashesMsg, Gen.BlockHashesMsg,
     Gen.GetBlocksMsg, Gen.BlocksMsg, Gen.NewBlockMsg, Gen.GetBlockHashesFromNumberMsg]
      = List.range Gen.ProtocolLength := by decide

/-- generated facts about the shape of `handleMsg`: the size test is a top-level `if … return` placed
    before the dispatching switch (and before `defer msg.Discard()`), both hash handlers carry the cap
    statement, and the block loop leaves at `>= MaxBlockFetch`. -/
theorem size_gate_in_code :
    Gen.HandleMsgSizeGateBeforeSwitch = true ∧
    Gen.HandleMsgTopLevel = ["msg, err := p.rw.ReadMsg()", "if err != nil", "if msg.Size > ProtocolMaxMsgSize",
      "defer msg.Discard()", "switch msg.Code", "return"] ∧
    Gen.HandleMsgHashCapSites = 2 ∧
    Gen.HandleMsgBlockCapCond = "len(blocks) >= downloader.MaxBlockFetch" := ⟨rfl, rfl, rfl, rfl⟩

/-- generated facts about the two repaired places, as they stand in the working tree: every statement of
    `handleMsg` that writes `request.Amount` is one of the two caps or the recomputation guarded by
    `available < request.Amount` (so the amount is never enlarged after the cap — `fromNumberLast`), and
    `GetMomentumsByHash` returns `nil, nil` for a nil momentum before it reads `momentum.Height`
    (`hashesFromHash`, first case). -/
theorem repaired_shape_in_code :
    Gen.HandleMsgAmountWrites =
      ["request.Amount > uint64(downloader.MaxHashFetch) => request.Amount = uint64(downloader.MaxHashFetch)",
       "request.Amount > uint64(downloader.MaxHashFetch) => request.Amount = uint64(downloader.MaxHashFetch)",
       "available := last.Height - request.Number + 1; available < request.Amount => request.Amount = available"] ∧
    Gen.GetMomentumsByHashStmts =
      ["momentum, err := ms.GetMomentumByHash(blockHash)", "if err != nil { return nil, err }",
       "if momentum == nil { return nil, nil }",
       "return ms.GetMomentumsByHeight(momentum.Height, higher, count)"] := ⟨rfl, rfl⟩

/-- the limits the statement names: 10 MiB per message, 512 hashes and 128 momentums per reply. -/
theorem stated_limits :
    Gen.ProtocolMaxMsgSize = 10 * 1024 * 1024 ∧ Gen.MaxHashFetch = 512 ∧ Gen.MaxBlockFetch = 128 := by decide

/-- handshake: the first message of a session must be a Status message within the size limit that decodes
    and matches genesis, network and version — anything else ends the session with an error. -/
theorem handshake_gate (code size : Nat) (dec g n v : Bool) :
    handshake code size dec g n v = none ↔
      (code = Gen.StatusMsg ∧ size ≤ Gen.ProtocolMaxMsgSize ∧ dec = true ∧ g = true ∧ n = true ∧ v = true) := by
  simp only [handshake, ite_some_eq_none, Bool.not_eq_true', Bool.not_eq_false, Decidable.not_not, Nat.not_lt, and_true]

/-! ### blame when an import fails (downloader and chain bridge; cited by C15Sync) -/

/-- "only the offending peer is dropped": when the import of a downloaded batch fails, `Downloader.process` drops
    `blocks[index].OriginPeer` — the peer that delivered the element at the index `InsertChain` returned — where `raw[i]` is
    `blocks[i].RawBlock` (the batch is handed over in order), and every index `chainBridge.InsertChain` returns out of its insert
    loop is `index + start`: the position in the batch as it was HANDED OVER, not in what is left of it after the momentums the
    node already holds were removed from its front (AST facts of the working tree). The stream `p2p-net` assembles such batches
    from the deliveries of two peers (a forged momentum from one, everything else — and a known prefix of 1 or K momentums —
    from an honest one) and checks on the wire that exactly the deliverer of the forged momentum is disconnected. -/
theorem import_failure_blames_deliverer :
    Gen.DownloaderProcessDropArgs = ["blocks[index].OriginPeer"] ∧
    Gen.DownloaderProcessInsert = ["for _, block := range blocks[:max] { raw = append(raw, block.RawBlock) }",
      "index, err := d.insertChain(raw)"] ∧
    Gen.InsertChainLoopReturnIndex = ["index + start", "index + start", "index + start", "index + start"] := ⟨rfl, rfl, rfl⟩

/-! ### hypotheses are satisfiable -/

/-- a capped, ordinary request: 5 hashes ending at height 7 on a chain of 10. -/
example : onGetHashes 10 (some 7) 5 = .hashes [3, 4, 5, 6, 7] := by decide
/-- from-number with wrap-free arithmetic, reply is frontier-first. -/
example : onGetHashesFromNumber 10 4 3 = .hashes [6, 5, 4] := by decide
/-- beyond the frontier: truncated to what exists. -/
example : onGetHashesFromNumber 10 9 600 = .hashes [10, 9] := by decide
/-- the premises of `handler_total` hold for an ordinary node -/
example : 1 ≤ (State.mk 10 0 0).H ∧ (State.mk 10 0 0).H + 1 < two64 := by decide
/-- an unknown hash, and a hash "at a height" the node does not hold: empty replies -/
example : onGetHashes 10 none 5 = .hashes [] ∧ onGetHashes 10 (some 11) 5 = .hashes [] := by decide
/-- number above the frontier with a wrap-around in `last.Height − Number + 1`: nothing -/
example : onGetHashesFromNumber 10 (two64 - 1) 2 = .hashes [] := by decide
set_option maxRecDepth 16384 in
/-- number 0 with a large amount: heights 1…511, frontier first, never more than the cap -/
example : (onGetHashesFromNumber 600 0 (two64 - 1)).count = 511 := by decide +kernel
/-- unknown hashes are skipped by GetBlocks, known ones returned -/
example : onGetBlocks 10 [some 3, none, some 11, some 10] false = .blocks [3, 10] := by decide

end ZV.C15
