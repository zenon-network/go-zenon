import ZenonVerif.Lemmas.Abi
import ZenonVerif.Lemmas.AbiPack
/-
C09-T3 — the ABI decoder never panics (property theorems; model: Model/Abi.lean, helpers: Lemmas/Abi.lean).

Call data of a send block to an embedded contract is parsed by `abi.ABIContract.UnpackMethod` / `UnpackEmptyMethod` in
every `ValidateSendBlock`, and again on the receive path of the producing pillar (`ReceiveBlock` starts with
`ValidateSendBlock`), which has no `recover`. The model makes every slice expression and every `int` operation of that
code explicit and returns `panic` where Go would.

  `unpackMethod sel tys input`   `UnpackMethod` of the method with selector `sel` and argument types `tys`
  `unpackEmptyMethod sel input`  `UnpackEmptyMethod`
  `unpack tys data`              `Arguments.Unpack` (also what `UnpackVariable` runs on stored values)
  `Ty.WF`                        arbitrary nesting of slices/arrays over the elementary types; arrays non-empty with at most
                                 `maxAlloc` bytes of inline words; `bytesN` with N ≤ 32 (`NewType` produces a subset)
  `maxAlloc` = 2^48              the Go runtime's allocation limit: the length of every existing `[]byte` is below it
-/
namespace ZV.C09Abi
open ZV ZV.Abi

/-- T3, general form: for EVERY byte string (of a length a Go slice can have), every selector and every well-formed argument
    type list, the decoder returns a value or an error — never a panic: no slice expression is out of range, no `int`
    operation overflows, no allocation exceeds the input's own size. -/
theorem abi_no_panic_general (sel : Bytes) (tys : List Ty) (hwf : ∀ t ∈ tys, t.WF) (hw : headWords tys ≤ maxHeadWords)
    (input : Bytes) (hlen : input.length ≤ maxAlloc) :
    unpackMethod sel tys input ≠ .panic ∧ unpackEmptyMethod sel input ≠ .panic ∧ unpack tys input ≠ .panic :=
  ⟨unpackMethod_ne_panic sel tys hwf hw input hlen, unpackEmptyMethod_ne_panic sel input,
   unpack_ne_panic tys hwf hw input hlen⟩

/-- every argument type list of every method and every storage variable of every embedded ABI (generated from
    `definition.ABI*` of the working tree) is well-formed -/
theorem abi_signatures_wf :
    (∀ s ∈ Gen.abiSignatures, s.2.2.2.all Ty.wfb = true ∧ headWords s.2.2.2 ≤ maxHeadWords) ∧
    (∀ s ∈ Gen.abiVariables, s.2.2.all Ty.wfb = true ∧ headWords s.2.2 ≤ maxHeadWords) := by
  decide +kernel

/-- T3 `abi_no_panic`: for every method of every embedded ABI and EVERY call data, decoding returns a value or an error. -/
theorem abi_no_panic (abi method : String) (sel : Bytes) (tys : List Ty)
    (hs : (abi, method, sel, tys) ∈ Gen.abiSignatures) (input : Bytes) (hlen : input.length ≤ maxAlloc) :
    unpackMethod sel tys input ≠ .panic ∧ unpackEmptyMethod sel input ≠ .panic := by
  have h := abi_signatures_wf.1 _ hs
  exact ⟨unpackMethod_ne_panic sel tys (fun t ht => Ty.wfb_sound t (List.all_eq_true.mp h.1 t ht)) h.2 input hlen,
    unpackEmptyMethod_ne_panic sel input⟩

/-- … and for every storage variable: whatever bytes a contract's storage holds, reading it back does not panic. -/
theorem abi_variables_no_panic (abi name : String) (tys : List Ty)
    (hs : (abi, name, tys) ∈ Gen.abiVariables) (data : Bytes) (hlen : data.length ≤ maxAlloc) :
    unpack tys data ≠ .panic := by
  have h := abi_signatures_wf.2 _ hs
  exact unpack_ne_panic tys (fun t ht => Ty.wfb_sound t (List.all_eq_true.mp h.1 t ht)) h.2 data hlen

/-- what the stream's `abi` operation evaluates (`runCase` prints "panic" exactly for `Res.panic`) is never a panic -/
theorem decodeCase_never_panics (abi method : String) (sel : Bytes) (tys : List Ty)
    (hs : (abi, method, sel, tys) ∈ Gen.abiSignatures) (input : Bytes) (hlen : input.length ≤ maxAlloc) :
    decodeCase sel tys input ≠ .panic := by
  obtain ⟨h1, h2⟩ := abi_no_panic abi method sel tys hs input hlen
  unfold decodeCase
  split
  · exact h2
  · exact h1

/-- `MethodById` is a function of the selector: within each embedded ABI the 4-byte selectors are pairwise distinct
    (so the map iteration order in `MethodById` cannot matter). -/
theorem selectors_distinct :
    ∀ s ∈ Gen.abiSignatures, ∀ s' ∈ Gen.abiSignatures, s.1 = s'.1 → s.2.2.1 = s'.2.2.1 → s.2.1 = s'.2.1 := by
  intro s hs s' hs' h1 h2
  -- the key of an entry is (selector as a number, ABI name); the number first, so that names are rarely compared
  have hd : allDistinct (Gen.abiSignatures.map fun s => (beVal s.2.2.1, s.1)) = true := by decide +kernel
  rw [eq_of_map_eq_of_nodup (nodup_of_allDistinct hd) hs hs' (Prod.ext (congrArg beVal h2) h1)]

/-- every selector has four well-formed bytes -/
theorem selectors_wellformed : ∀ s ∈ Gen.abiSignatures, s.2.2.1.length = 4 ∧ Bytes.WF s.2.2.1 := by
  decide +kernel

/-! ## unpack ∘ pack: what the receive path reads is what the send path validated

Every `ValidateSendBlock` decodes the call data, checks the values and REPLACES `block.Data` by `PackMethod(values)`; the
gossip path then refuses a block whose data was not already that encoding (the hash no longer matches), the template path
signs the re-packed block. `ReceiveBlock` decodes the stored data again — several methods with `common.DealWithErr` on the
result, i.e. a panic on the producer path if decoding the re-packed data could fail. -/

/-- `unpack_pack`, the tuple step: if every argument type is `Flat` — a static elementary type (uint8/16/32/64/256,
    int32/64, bool, address, tokenStandard, hash, bytesN), or a dynamic type whose own canonical encoding decodes wherever
    its head word points (`DynOK`, a hypothesis here) — then decoding the canonical encoding of well-typed values returns
    exactly those values. That `string`, `bytes` and slices (of slices …) of flat types have `DynOK` is `Ty.flatb_sound`;
    every argument type of every embedded ABI is of that kind (`flat_signatures`), and the statement without the
    hypothesis is `receive_decodes_what_send_validated`.
    Partial: fixed-size arrays (not used by any embedded ABI; Go's own Pack and Unpack disagree on arrays of dynamic
    elements) and integer widths other than the listed ones are outside `Flat` / `HasTy`; that the values produced by a
    successful decode are well-typed (`HasTys`) is a hypothesis (it is what the Go types of the decoded values say). -/
theorem unpack_pack_partial (sel : Bytes) (hsel : sel.length = 4) (tys : List Ty) (vs : List Val) (input : Bytes)
    (hflat : ∀ t ∈ tys, t.Flat) (hty : HasTys tys vs) (hp : packMethod sel tys vs = some input)
    (hlen : input.length ≤ maxAlloc) (hne : tys ≠ []) (hk : tys.length ≤ 1048576) :
    unpackMethod sel tys input = .ok vs :=
  unpackMethod_packMethod sel hsel tys vs input hflat hty hp hlen hne

/-- `unpack_pack_partial` covers every method of every embedded ABI of the working tree. -/
theorem flat_signatures : ∀ s ∈ Gen.abiSignatures, s.2.2.2.all Ty.flatb = true := by
  decide +kernel

theorem signature_lengths : ∀ s ∈ Gen.abiSignatures, s.2.2.2.length ≤ 1048576 := by decide +kernel

/-- The receive path decodes what the send path validated: for every live method with arguments, the data that
    `ValidateSendBlock` stores (`PackMethod` of the values it decoded and checked) decodes, at receive time, to exactly those
    values — never to an error, so the `DealWithErr` after the second decode cannot fire. -/
theorem receive_decodes_what_send_validated (abi method : String) (sel : Bytes) (tys : List Ty)
    (hs : (abi, method, sel, tys) ∈ Gen.abiSignatures) (hne : tys ≠ [])
    (vs : List Val) (hty : HasTys tys vs) (stored : Bytes) (hp : packMethod sel tys vs = some stored)
    (hlen : stored.length ≤ maxAlloc) :
    unpackMethod sel tys stored = .ok vs := by
  have hflat : tys.all Ty.flatb = true := flat_signatures _ hs
  exact unpack_pack_partial sel (selectors_wellformed _ hs).1 tys vs stored
    (fun t ht => Ty.flatb_sound t (List.all_eq_true.mp hflat t ht)) hty hp hlen hne (signature_lengths _ hs)

/-- the hypotheses are satisfiable: a live signature -/
example : ("token", "Mint", [205, 112, 249, 188], [Ty.tokenStandard, Ty.uint 256, Ty.address]) ∈ Gen.abiSignatures := by decide +kernel
-- a concrete hostile input (offset 2^256-1) is rejected, not crashed on
example : (match unpackMethod [124, 45, 93, 110] [Ty.string] ([124, 45, 93, 110] ++ List.replicate 32 255) with
    | .err => true | _ => false) = true := by decide +kernel

/-- non-vacuity of `unpack_pack_partial`: token.Mint(zts, 5, address) -/
example : HasTys [Ty.tokenStandard, Ty.uint 256, Ty.address]
    [.bytes (List.replicate 10 7), .num 5, .bytes (List.replicate 20 9)] :=
  .cons rfl (.cons (by show _ ∧ _ ∧ _; exact ⟨by omega, by omega, by decide⟩) (.cons rfl .nil))

end ZV.C09Abi
