import ZenonVerif.Model.RewardEpoch
import ZenonVerif.Gen.RewardsEpoch
/-
C11 — "the credited amounts are a function of the chain alone": assertions about the regenerated facts
Gen/RewardsEpoch.lean (AST of the reward computations in vm/embedded/implementation).

`RewardEpoch.updateEpoch` is a Lean FUNCTION of (contract storage as of the Update's momentum, the epoch's consensus
statistics and delegation record, the constants): equal inputs give equal credits by construction. What ties that to
the Go code is that the Go functions read nothing else — asserted below — and that the model agrees with them on every
epoch of every real Update of the mock chains (RE-* lines of the rewards-node stream). The consensus inputs being the
same on every node is the part covered by C11Points / C05Store / C06Node and the follower comparison.
-/
namespace ZV.C11EpochGen
open ZV

/-- the model stands for exactly these top-level functions; all of them still exist -/
theorem reward_functions_found :
    Gen.RewardFuncs = ["addReward", "computeDetailedPillarReward", "computeLiquidityRewardsForEpoch",
      "computeLiquidityStakeRewardsForEpoch", "computePillarRewardForEpoch", "computePillarsRewardForEpoch",
      "computeSentinelRewardsForEpoch", "computeStakeRewardsForEpoch", "getWeightedLiquidityStake", "getWeightedSentinel",
      "getWeightedStake"] := rfl

/-- `credited_is_function_of_chain`, source side: through a package name or their `context` the reward computations
    reach ONLY the reward constants, the contract's own storage getters / record types (`definition.*` on
    `context.Storage()`), the contract's balance, the epoch ticker, and the two consensus inputs `EpochStats` and
    `GetPillarDelegationsByEpoch` — the arguments of `RewardEpoch.updateEpoch`. No `time.*` (clock), no `rand.*`, no
    `os.*`, no momentum height, no other account's state. A new read changes the generated list and breaks this theorem. -/
theorem credited_is_function_of_chain :
    Gen.RewardReads = ["constants.ErrInvalidRewards", "constants.LiquidityQsrTotalPercentages", "constants.LiquidityRewardForEpoch",
      "constants.LiquidityZnnTotalPercentages", "constants.PillarRewardPerMomentum", "constants.SentinelRewardForEpoch",
      "constants.StakeQsrRewardPerEpoch", "context.EpochStats", "context.EpochTicker", "context.GetBalance",
      "context.GetPillarDelegationsByEpoch", "context.Storage", "definition.ABIToken", "definition.AnyPillarType",
      "definition.BurnMethodName", "definition.GetAllLiquidityStakeEntries", "definition.GetLiquidityInfo",
      "definition.GetPillarsList", "definition.GetRewardDeposit", "definition.GetRewardDepositHistory",
      "definition.IterateSentinelEntries", "definition.IterateStakeEntries", "definition.MintMethodName",
      "definition.PillarEpochHistory", "definition.RewardDeposit", "definition.SentinelInfo", "definition.StakeInfo"] := rfl

/-- every `range` in the reward computations, reviewed one by one for iteration-order dependence:
      details (Go MAP name → record)            each iteration only calls addReward (additive): `deposit_effect_order_independent`
      pillarDetail.Backers (Go MAP, twice)      first: a big.Int sum; second: one addReward per key with a share computed from
                                                the key's own amount and that sum: `backer_credits_order_independent`
      distributed / distributedAddresses        debug output only (the map is never written)
      detail.Pillars (Go MAP)                   a uint64 sum of ExceptedBlockNum (commutative; `totalExpected`)
      detailList.Pillars (Go MAP) / pillarNames keys collected, SORTED, then one map write per key
      pillarInfos (three times), liquidityInfo.TokenTuples, liquidityStakeList (twice)
                                                slices in storage order (iterator over the contract's key space)
    Stake and sentinel entries are visited through the storage iterator (key order, same on every node); the credits do
    not depend on that order either (`credited_order_independent`). A new `range` breaks this theorem. -/
theorem reward_ranges_reviewed :
    Gen.RewardRanges = ["computeDetailedPillarReward: details", "computeDetailedPillarReward: distributed",
      "computeDetailedPillarReward: distributedAddresses", "computeDetailedPillarReward: pillarDetail.Backers",
      "computeDetailedPillarReward: pillarDetail.Backers", "computeDetailedPillarReward: pillarInfos",
      "computeDetailedPillarReward: pillarInfos", "computeDetailedPillarReward: pillarInfos",
      "computeLiquidityStakeRewardsForEpoch: liquidityInfo.TokenTuples", "computeLiquidityStakeRewardsForEpoch: liquidityStakeList",
      "computeLiquidityStakeRewardsForEpoch: liquidityStakeList", "computePillarRewardForEpoch: detail.Pillars",
      "computePillarsRewardForEpoch: detailList.Pillars", "computePillarsRewardForEpoch: pillarNames"] := rfl

/-- the model's live parameters are the regenerated constants -/
theorem live_parameters : (RewardEpoch.RCfg.live 0).mpe = Gen.MomentumsPerEpoch ∧ 0 < Gen.MomentumsPerEpoch ∧
    Gen.LiquidityZnnTotalPercentages = 10000 ∧ Gen.LiquidityQsrTotalPercentages = 10000 := by decide

end ZV.C11EpochGen
