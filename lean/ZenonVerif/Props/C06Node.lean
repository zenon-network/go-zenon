import ZenonVerif.Lemmas.NodeCache
import ZenonVerif.Gen.NodeCache
import ZenonVerif.Gen.NodeState
/-
C06 — reorganisation leaves no trace, for the two stateful components that are not the versioned store
(Model/NodeCache.lean): (A) the consensus layer's database of election results and statistics points, (B) the account
pool's per-account managers under `RollbackTo`. The lemmas are in Lemmas/NodeCache.lean; besides the property theorems the
file holds the witness histories and the reviewed inventories of node state they are compared with.

Everything in (A) is proved for an ARBITRARY `Spec` (what an election, a period point and a compound point are, as
functions of the chain) — the driver evaluates the instance `countSpec` — and under the explicit hash-chaining
hypothesis `ChainWF` carried by `Reach` (a hash names one chain).
-/
namespace ZV.C06Node
open ZV ZV.NodeCache

variable {El P : Type}

/-! ## (A) consensus caches -/

/-- In every state a node can reach — any sequence of momentum inserts, rollbacks of any depth and queries at any
    time — `GetPeriodPoints().GetPoint(t)` answers, for every tick, what a computation from scratch on the node's
    CURRENT chain gives (`none` for a tick that has not started). -/
theorem points_eq_spec (S : Spec El P) (cfg : Cfg) (pf : Nat → Chain) (hlen : 0 < cfg.len) {n : Node El P}
    (hn : Reach S cfg pf n) (t : Nat) :
    (periodC S cfg n.chain n.caches t).1 = specPeriod S cfg n.chain t :=
  (periodC_ok S cfg hlen (hn.inv hlen).wf (hn.inv hlen).c t).1

/-- `points_no_trace`: in every reachable state `GetPeriodPoints().GetPoint(t)` answers what the node answers that only
    ever saw the current chain (its momentums inserted one by one, oldest first, no rollback, no earlier query). -/
theorem points_no_trace (S : Spec El P) (cfg : Cfg) (pf : Nat → Chain) (hlen : 0 < cfg.len) {n : Node El P}
    (hn : Reach S cfg pf n) (t : Nat) :
    (periodC S cfg n.chain n.caches t).1 =
      (periodC S cfg (onlySaw S cfg n.chain).chain (onlySaw S cfg n.chain).caches t).1 := by
  have hf := onlySaw_reach S cfg (hn.inv hlen).wf
  rw [points_eq_spec S cfg pf hlen hn, points_eq_spec S cfg pf hlen hf, onlySaw_chain]

/-- the election (`ElectionByTick`, cache keyed by the hash of the proof momentum) -/
theorem election_eq_spec (S : Spec El P) (cfg : Cfg) (pf : Nat → Chain) (hlen : 0 < cfg.len) {n : Node El P}
    (hn : Reach S cfg pf n) (t : Nat) :
    (electTickC S cfg n.chain n.caches t).1 = specElect S cfg n.chain t :=
  (electC_ok S cfg (hn.inv hlen).c ((hn.inv hlen).wf.cut _)).1

theorem election_no_trace (S : Spec El P) (cfg : Cfg) (pf : Nat → Chain) (hlen : 0 < cfg.len) {n : Node El P}
    (hn : Reach S cfg pf n) (t : Nat) :
    (electTickC S cfg n.chain n.caches t).1 =
      (electTickC S cfg (onlySaw S cfg n.chain).chain (onlySaw S cfg n.chain).caches t).1 := by
  have hf := onlySaw_reach S cfg (hn.inv hlen).wf
  rw [election_eq_spec S cfg pf hlen hn, election_eq_spec S cfg pf hlen hf, onlySaw_chain]

/-- Epoch points (`GetEpochPoints().GetPoint(T)`, what `EpochStats` reports and the pillar contract pays from): in
    every reachable state, for every epoch — finished, running or not started — the answer is the one computed from
    scratch on the current chain. -/
theorem epoch_points_eq_spec (S : Spec El P) (cfg : Cfg) (pf : Nat → Chain) (hlen : 0 < cfg.len) {n : Node El P}
    (hn : Reach S cfg pf n) (T : Nat) :
    (epochC S cfg n.chain n.caches T).1 = specEpoch S cfg n.chain T :=
  (epochC_ok S cfg hlen (hn.inv hlen).wf (hn.inv hlen).c T).2

/-- `epoch_points_no_trace`: in every reachable state `GetEpochPoints().GetPoint(T)` answers what the node answers that
    only ever saw the current chain. -/
theorem epoch_points_no_trace (S : Spec El P) (cfg : Cfg) (pf : Nat → Chain) (hlen : 0 < cfg.len) {n : Node El P}
    (hn : Reach S cfg pf n) (T : Nat) :
    (epochC S cfg n.chain n.caches T).1 =
      (epochC S cfg (onlySaw S cfg n.chain).chain (onlySaw S cfg n.chain).caches T).1 := by
  have hf := onlySaw_reach S cfg (hn.inv hlen).wf
  rw [epoch_points_eq_spec S cfg pf hlen hn, epoch_points_eq_spec S cfg pf hlen hf, onlySaw_chain]

/-- The "is the epoch still finished" test of the epoch reader is necessary (finding FX1, repaired in b4e9eef): an epoch
    point is stored once its epoch is finished, with ALL its periods merged in; a rollback to exactly the last momentum
    of that epoch makes the epoch unfinished again while the stored end hash still matches, and the reader that looks at
    the end hash alone (`epochCServeUnfinished`, the code before the repair; up to this state every call of either reader
    found an empty slot) serves the stored point — it counts the periods after the frontier, which a node that only saw
    the current chain does not. The repaired reader answers like that node and drops the stored point.
    (Spec: a period point = the number of its momentums, a compound point = the number of points merged.) -/
theorem epoch_served_while_unfinished_keeps_trace :
    let S : Spec Unit Nat := ⟨fun _ => (), fun _ ms _ => ms.length, fun ps => ps.length⟩
    let cfg : Cfg := ⟨0, 10, 2⟩
    let n := [Op.insert ⟨1, 3, 1⟩, Op.insert ⟨2, 22, 1⟩, Op.rollback 1].foldl (step S cfg) Node.fresh
    n.chain = [⟨1, 3, 1⟩] ∧ n.caches.ec 0 = some (1, 2) ∧ finished (10 * 2) n.chain 0 = false ∧
    (epochCServeUnfinished S cfg n.chain n.caches 0).1 = some 2 ∧ specEpoch S cfg n.chain 0 = some 1 ∧
    (epochC S cfg n.chain n.caches 0).1 = some 1 ∧ (epochC S cfg n.chain n.caches 0).2.ec 0 = none ∧
    (epochC S cfg n.chain (onlySaw S cfg n.chain).caches 0).1 = some 1 := by decide

/-! ### the end-hash comparison is necessary -/

namespace Witness
/-- periods of 10 s, two per epoch, genesis hash 0; branch A = a1 (tick 0, producer 1), a2 (tick 1), a3 (tick 2);
    branch B = b1 (tick 0, producer 2), b2 (tick 1), b3 (tick 2) -/
def cfg : Cfg := ⟨0, 10, 2⟩
def a1 : Mom := ⟨1, 3, 1⟩
def a2 : Mom := ⟨2, 12, 1⟩
def a3 : Mom := ⟨6, 21, 1⟩
def b1 : Mom := ⟨3, 4, 2⟩
def b2 : Mom := ⟨4, 13, 2⟩
def b3 : Mom := ⟨5, 25, 2⟩
/-- the node sees branch A (the inserts of a2 and a3 store the points of ticks 0 and 1 and of epoch 0 with A's end
    hashes), is rolled back to genesis and adopts branch B (nothing is precomputed: the counters are past these ticks);
    nobody asks for tick 0 in between -/
def ops : List Op := [.insert a1, .insert a2, .insert a3, .rollback 3, .insert b1, .insert b2, .insert b3]
def node : Node Unit CountPoint := ops.foldl (step countSpec cfg) Node.fresh
/-- the hash chaining of the two branches -/
def pf : Nat → Chain
  | 1 => [a1] | 2 => [a2, a1] | 6 => [a3, a2, a1] | 3 => [b1] | 4 => [b2, b1] | 5 => [b3, b2, b1] | _ => []
end Witness

open Witness in
/-- the history of the witness is one the theorems above speak about -/
theorem witness_reachable : Reach countSpec Witness.cfg Witness.pf Witness.node :=
  .insert b3 (.insert b2 (.insert b1 (.rollback 3 (.insert a3 (.insert a2 (.insert a1 (.init rfl) rfl) rfl) rfl)) rfl) rfl) rfl

open Witness in
/-- `points_without_endhash_check_stale`: the reader that serves a stored point without comparing its end hash once
    the NEXT tick is finished (seeded C06-3; up to this state no call of either reader met a stored point with a foreign
    end hash, so both went through the same states) answers tick 0 with the abandoned branch's producer; the real
    reader (and the computation from scratch) with the adopted branch's. For epoch 0 the last three conjuncts show the
    stored point of the abandoned branch, that the epoch is finished, and that the real `epochC` answers with the adopted
    branch's producers all the same (a reader that trusted the stored point here is seeded C02-r2-1; it is not modelled). -/
theorem points_without_endhash_check_stale :
    node.chain = [b3, b2, b1] ∧ (node.caches.pc 0).map (·.1) = some 1 ∧
    (periodCNoCheck countSpec cfg node.chain node.caches 0).1 = some (1, [(1, 1)]) ∧
    (periodC countSpec cfg node.chain node.caches 0).1 = some (1, [(2, 1)]) ∧
    specPeriod countSpec cfg node.chain 0 = some (1, [(2, 1)]) ∧
    (node.caches.ec 0) = some (2, (2, [(1, 2)])) ∧ finished (10 * 2) node.chain 0 = true ∧
    (epochC countSpec cfg node.chain node.caches 0).1 = some (2, [(2, 2)]) := by decide

/-! ### the shape of the real readers (regenerated AST facts) -/

/-- consensus/points.go: in both `GetPoint` readers the end block is the tick's end block on the current chain and the
    stored point is the one stored under the tick; the only returns that are not error returns are `nil, nil` for a tick
    that has not started, the STORED point — in the period reader under `dbPoint != nil && !(dbPoint.EndHash !=
    endBlock.Hash)`, in the compound reader under `dbPoint != nil && !(dbPoint.EndHash != endBlock.Hash ||
    !compound.IsFinished(tick))`, nowhere else — and the freshly generated point; a stored point that fails the test is
    deleted; a generated point is stored iff the tick is finished. This is `periodC` / `epochC`. -/
theorem getpoint_compares_end_hash :
    Gen.GetPointReturns.filter (fun r => r.2.1 != "nil, err") =
      [("compoundPoints", "nil, nil", "!compound.HasStarted(tick)"),
       ("compoundPoints", "dbPoint, nil", "dbPoint != nil && !(dbPoint.EndHash != endBlock.Hash || !compound.IsFinished(tick))"),
       ("compoundPoints", "point, nil", ""),
       ("periodPoints", "nil, nil", "!period.HasStarted(tick)"),
       ("periodPoints", "dbPoint, nil", "dbPoint != nil && !(dbPoint.EndHash != endBlock.Hash)"),
       ("periodPoints", "point, nil", "")] ∧
    Gen.GetPointAssigns =
      [("compoundPoints", "endBlock := compound.GetEndBlock(tick)", ""),
       ("compoundPoints", "dbPoint := compound.db.GetPointByHeight(compound.prefix, tick)", ""),
       ("compoundPoints", "point := compound.generatePointFromLower(tick, endBlock)", ""),
       ("periodPoints", "endBlock := period.GetEndBlock(tick)", ""),
       ("periodPoints", "dbPoint := period.db.GetPointByHeight(storage.PrefixPeriodPoint, tick)", ""),
       ("periodPoints", "point := period.generatePointFromChain(tick)", "")] ∧
    Gen.GetPointDbCalls =
      [("compoundPoints", "compound.db.GetPointByHeight(compound.prefix, tick)", ""),
       ("compoundPoints", "compound.db.DeletePointByHeight(compound.prefix, tick)", "dbPoint != nil && (dbPoint.EndHash != endBlock.Hash || !compound.IsFinished(tick))"),
       ("compoundPoints", "compound.db.StorePointByHeight(compound.prefix, tick, point)", "compound.IsFinished(tick)"),
       ("periodPoints", "period.db.GetPointByHeight(storage.PrefixPeriodPoint, tick)", ""),
       ("periodPoints", "period.db.DeletePointByHeight(storage.PrefixPeriodPoint, tick)", "dbPoint != nil && dbPoint.EndHash != endBlock.Hash"),
       ("periodPoints", "period.db.StorePointByHeight(storage.PrefixPeriodPoint, tick, point)", "period.IsFinished(tick)")] :=
  ⟨rfl, rfl, rfl⟩

/-- every return of a stored point, whatever else the readers do, sits under the end-hash comparison — and, in the
    compound reader, under the test that the epoch is finished -/
theorem stored_point_only_served_under_end_hash_comparison :
    ∀ r ∈ Gen.GetPointReturns, r.2.1 ∉ ["nil, err", "nil, nil", "point, nil"] →
      r.2.1 = "dbPoint, nil" ∧
      r.2.2 = (if r.1 = "compoundPoints"
               then "dbPoint != nil && !(dbPoint.EndHash != endBlock.Hash || !compound.IsFinished(tick))"
               else "dbPoint != nil && !(dbPoint.EndHash != endBlock.Hash)") := by decide +kernel

/-- consensus/election.go `generateProducers`: looked up and stored under the hash of the proof momentum (`electC`) -/
theorem election_cache_keyed_by_proof_hash :
    Gen.ElectionAssigns =
      [("generateProducers", "hashH := types.HashHeight{Hash: proofBlock.Hash, Height: proofBlock.Height}", ""),
       ("generateProducers", "cached := em.db.GetElectionResultByHash(hashH.Hash)", ""),
       ("generateProducers", "electionData := storage.GenElectionData(producers, delegations)", "")] ∧
    Gen.ElectionDbCalls =
      [("generateProducers", "em.db.GetElectionResultByHash(hashH.Hash)", ""),
       ("generateProducers", "em.db.StoreElectionResultByHash(hashH.Hash, electionData)", "")] ∧
    Gen.ElectionReturns.filter (fun r => r.2.1 != "nil, err") =
      [("generateProducers", "cached, nil", "cached != nil"), ("generateProducers", "electionData, nil", "")] :=
  ⟨rfl, rfl, rfl⟩

/-- `points.InsertMomentum` precomputes the ticks from the last completed one up to the tick before the momentum's and
    never lowers its two counters; the delete events of the consensus layer do nothing (`insertMomentum`, `rollback`) -/
theorem consensus_listeners_shape :
    Gen.PointsInsertLoops =
      [("points.InsertMomentum", "for i := p.lastCompletedPeriod + 1; i < tick; i += 1", "p.periodPoints.GetPoint(uint64(i))"),
       ("points.InsertMomentum", "for i := p.lastCompletedEpoch + 1; i < epochTick; i += 1", "p.epochPoints.GetPoint(uint64(i))")] ∧
    Gen.PointsInsertAssigns =
      [" => tick := int64(p.periodPoints.ToTick(*block.Timestamp))", " => epochTick := tick / p.epochTickMultiplier",
       "p.lastCompletedPeriod < tick-1 => p.lastCompletedPeriod = tick - 1",
       "p.lastCompletedEpoch < epochTick-1 => p.lastCompletedEpoch = epochTick - 1"] ∧
    Gen.PointsDeleteMomentumStmts = [] ∧ Gen.ElectionDeleteMomentumStmts = ["return"] :=
  ⟨rfl, rfl, rfl, rfl⟩

/-! ## (B) account pool managers -/

open NodeCache.Pool

/-- `pool_no_trace`: after ANY sequence of reads, block additions, momentum inserts and `RollbackTo` calls of any depth —
    with reads by other goroutines interleaved anywhere inside `RollbackTo`: between a pop and the notification of the
    pool, and between the notification and the next pop — every manager the pool holds was built from the ledger AS IT
    IS NOW, and every pooled block acknowledges a momentum of the current chain. -/
theorem pool_no_trace (g : Nat) (evs : List Ev) (a : Nat) (mg : Mgr) (h : (run g evs).mgrs a = some mg) :
    mg.base = (run g evs).ledger ∧ ∀ b ∈ mg.blocks, onChain g (run g evs).ledger b.ack = true :=
  run_inv g evs a mg h

/-- right after `RollbackTo` returns, whatever the pool held before (even managers that do not satisfy the invariant) -/
theorem rollbackTo_rebuilds_pool (n : PNode) (w : List Nat × List Nat) (ws : List (List Nat × List Nat))
    (a : Nat) (mg : Mgr) (h : ((w :: ws).foldl rollbackStep n).mgrs a = some mg) :
    mg.base = ((w :: ws).foldl rollbackStep n).ledger ∧ mg.blocks = [] :=
  have hf : FreshInv ((w :: ws).foldl rollbackStep n) :=
    rollbackTo_inv (fun _ => ⟨rfl, rfl⟩) ws (rollbackStep_inv (fun _ => ⟨rfl, rfl⟩) n w)
  hf a mg h

/-- negative witness (i), seeded C14-r2-1 = C06-r2-2: the listeners are told BEFORE the pop and account 7 is read in
    between — its manager is built on the momentum that is about to be popped and stays -/
theorem notify_before_pop_leaves_stale_manager :
    let n : PNode := ⟨[⟨2, [7]⟩, ⟨1, []⟩], fun _ => none⟩
    let n' := rollbackStepNotifyFirst n ([7], [])
    n'.ledger = [⟨1, []⟩] ∧ n'.mgrs 7 = some ⟨[⟨2, [7]⟩, ⟨1, []⟩], []⟩ ∧
    (rollbackStep n ([7], [])).mgrs 7 = none := by decide

/-- negative witness (ii), seeded C01-3 = C02-3: only the managers of the accounts with blocks in the deleted momentum
    are dropped — account 7 (no block in momentum 2) keeps a pooled block that acknowledges momentum 2 -/
theorem partial_drop_leaves_block_on_deleted_momentum :
    let n := run 0 [.insert ⟨1, []⟩ [], .insert ⟨2, [5]⟩ [], .add 7 ⟨70, 2⟩, .read 5]
    let n' := rollbackStepPartial n ([], [])
    n'.ledger = [⟨1, []⟩] ∧ n'.mgrs 5 = none ∧
    n'.mgrs 7 = some ⟨[⟨2, [5]⟩, ⟨1, []⟩], [⟨70, 2⟩]⟩ ∧ onChain 0 n'.ledger 2 = false ∧
    (rollbackStep n ([], [])).mgrs 7 = none := by decide

/-- chain/momentum_pool.go `RollbackTo` (regenerated): inside the loop the ledger is popped BEFORE the listeners are
    told, each exactly once (`rollbackStep`, not `rollbackStepNotifyFirst`) -/
theorem rollback_pops_before_notifying :
    0 < Gen.RollbackToPopAt ∧ Gen.RollbackToPopAt < Gen.RollbackToNotifyAt ∧
    Gen.RollbackToPopCalls = 1 ∧ Gen.RollbackToNotifyCalls = 1 ∧
    Gen.RollbackToLoopBody =
      ["store := c.getFrontierStore()", "frontier, err := store.GetFrontierMomentum()", "if err != nil { return err }",
       "if frontier.Height == identifier.Height { break }", "detailed, err := store.PrefetchMomentum(frontier)",
       "if err != nil { return err }", "if err := c.chainManager.Pop(); err != nil { return err }",
       "c.changes.Unlock()", "c.broadcastDeleteMomentum(detailed)", "c.changes.Lock()"] :=
  ⟨by decide, by decide, rfl, rfl, rfl⟩

/-- chain/account_pool.go (regenerated): `DeleteMomentum` replaces the WHOLE manager map (`notify`, not
    `notifyPartial`); a missing manager is built from the ledger's current account state (`read`); the delete event
    reaches every registered listener and the pool is registered -/
theorem pool_delete_drops_every_manager :
    Gen.PoolDeleteMomentumStmts =
      ["ap.changes.Lock()", "defer ap.changes.Unlock()", "ap.managers = make(map[types.Address]db.Manager)"] ∧
    Gen.PoolGetAccountManagerStmts =
      ["manager := ap.managers[address]",
       "if manager == nil { manager = db.NewMemDBManager(ap.stable.GetStableAccountDB(address)) ap.managers[address] = manager }",
       "return manager"] ∧
    Gen.BroadcastDeleteMomentumStmts =
      ["em.changes.Lock()", "defer em.changes.Unlock()",
       "for _, listener := range em.listeners { listener.DeleteMomentum(detailed) }"] ∧
    Gen.ChainRegistersAccountPool = true :=
  ⟨rfl, rfl, rfl, rfl⟩

/-- chain/momentum_events.go, the listener table (regenerated): `Register` appends; `UnRegister` removes a listener only INSIDE the
    comparison `current == listener` - one that is not in the table removes nothing (seeded C06-r4-2: the removal moved behind the
    loop with index 0 as default, so `Stop()` of a module that was never started took the account pool out of the table and the pool
    was no longer told about deleted momentums); both broadcasts walk the whole table. The behaviour is examined on real nodes by the
    pool-node stream (register / unregister traffic with probes, s_poolnode_listeners.go). -/
theorem listener_table_shape :
    Gen.ListenerRegisterStmts =
      ["em.changes.Lock()", "defer em.changes.Unlock()", "em.listeners = append(em.listeners, listener)"] ∧
    Gen.ListenerUnRegisterStmts =
      ["em.changes.Lock()", "defer em.changes.Unlock()",
       "for index, current := range em.listeners { if current == listener { em.listeners = append(em.listeners[:index], em.listeners[index+1:]...) break } }"] ∧
    Gen.BroadcastInsertMomentumStmts =
      ["em.changes.Lock()", "defer em.changes.Unlock()",
       "for _, listener := range em.listeners { listener.InsertMomentum(detailed) }"] :=
  ⟨rfl, rfl, rfl⟩

/-! ### what a node remembers besides its ledger (regenerated from the AST: Gen/NodeState.lean)

A reorganisation replaces the ledger. Whatever else the node keeps about the chain it was on must be keyed by something that names
ONE chain (a hash), be re-validated against the current chain when it is read, or be dropped when a momentum is deleted — otherwise it
answers for the abandoned branch (seeded C06-r3-1: elections remembered by tick NUMBER; C06-r3-2: ledger views remembered by
identifier and never told about a rollback; C17-r3-2: enforcement heights remembered by spork id). The three lists below are the
complete inventory of such state in consensus, consensus/storage, chain (and the containers of chain/account, chain/momentum); a new
container, a new field of a long-lived object or a new key expression changes the generated list and these theorems fail until the
inventory is reviewed again. -/

/-- reviewed inventory of containers:
    * `accountPool.managers` (by address): replaced as a whole by `DeleteMomentum` (`pool_delete_drops_every_manager`, `pool_no_trace`);
    * `DB.electionCache` (by PROOF HASH, `election_cache_keyed_by_proof_hash`): a hash names one chain (`ChainWF`);
    * `DB.pointCache` (by point type and TICK): every reader compares the stored end hash with the end block of the tick on the
      current chain and, for epoch points, that the epoch is finished (`getpoint_compares_end_hash`, `stored_point_only_served_under_end_hash_comparison`);
    * `Point.Pillars`: content of a point value (built per call or decoded from the database), not node state. -/
def reviewedNodeStateHolders : List String := [
  "chain/account_pool.go:accountPool.managers:map[types.Address]db.Manager",
  "consensus/storage/db.go:DB.electionCache:*lru.Cache",
  "consensus/storage/db.go:DB.pointCache:[]*lru.Cache",
  "consensus/storage/point.go:Point.Pillars:map[string]*ProducerDetail"]

theorem node_state_holders_reviewed : Gen.nodeStateHolders = reviewedNodeStateHolders := rfl

/-- reviewed inventory of the fields of every struct type of consensus, consensus/storage and chain. Chain-derived state outside the
    containers above: `points.lastCompletedPeriod` / `lastCompletedEpoch` (never rolled back: they only decide which points
    `InsertMomentum` PRE-computes; a point is judged by its end hash when read — `Model.NodeCache` carries them), and the listener
    lists. Nothing else is remembered between calls: elections, delegations, producers and statistics are values built per call from
    the chain or from the two keyed caches. -/
def reviewedNodeStructFields : List String := [
  "chain/account_pool.go:accountPool.changes:sync.Mutex",
  "chain/account_pool.go:accountPool.log:log15.Logger",
  "chain/account_pool.go:accountPool.managers:map[types.Address]db.Manager",
  "chain/account_pool.go:accountPool.stable:Stable",
  "chain/chain.go:chain.(embedded):*accountPool",
  "chain/chain.go:chain.(embedded):*momentumEventManager",
  "chain/chain.go:chain.(embedded):*momentumPool",
  "chain/chain.go:chain.(embedded):store.Genesis",
  "chain/chain.go:chain.chainManager:db.Manager",
  "chain/chain.go:chain.insert:sync.Mutex",
  "chain/chain.go:chain.log:common.Logger",
  "chain/chain.go:inserter.mutex:*sync.Mutex",
  "chain/chain.go:inserter.reason:string",
  "chain/momentum_events.go:momentumEventManager.changes:sync.Mutex",
  "chain/momentum_events.go:momentumEventManager.listeners:[]MomentumEventListener",
  "chain/momentum_pool.go:momentumPool.(embedded):*momentumEventManager",
  "chain/momentum_pool.go:momentumPool.chainManager:db.Manager",
  "chain/momentum_pool.go:momentumPool.changes:sync.Mutex",
  "chain/momentum_pool.go:momentumPool.genesis:store.Genesis",
  "chain/momentum_pool.go:momentumPool.log:log15.Logger",
  "consensus/api.go:API.er:ElectionReader",
  "consensus/api.go:API.momentumStore:store.Momentum",
  "consensus/api.go:API.points:Points",
  "consensus/chain_ticker.go:chainTicker.(embedded):chain.Chain",
  "consensus/chain_ticker.go:chainTicker.(embedded):common.Ticker",
  "consensus/consensus.go:consensus.(embedded):*eventManager",
  "consensus/consensus.go:consensus.chain:chain.Chain",
  "consensus/consensus.go:consensus.closed:chan struct{}",
  "consensus/consensus.go:consensus.electionManager:*electionManager",
  "consensus/consensus.go:consensus.genesis:time.Time",
  "consensus/consensus.go:consensus.log:common.Logger",
  "consensus/consensus.go:consensus.points:Points",
  "consensus/consensus.go:consensus.testing:bool",
  "consensus/consensus.go:consensus.wg:sync.WaitGroup",
  "consensus/context.go:Context.(embedded):common.Ticker",
  "consensus/context.go:Context.(embedded):constants.Consensus",
  "consensus/context.go:Context.GenesisTime:time.Time",
  "consensus/election.go:electionManager.(embedded):Context",
  "consensus/election.go:electionManager.algo:ElectionAlgorithm",
  "consensus/election.go:electionManager.chain:chain.Chain",
  "consensus/election.go:electionManager.db:*storage.DB",
  "consensus/election.go:electionManager.log:common.Logger",
  "consensus/election.go:electionResult.Delegations:[]*types.PillarDelegation",
  "consensus/election.go:electionResult.ETime:time.Time",
  "consensus/election.go:electionResult.Producers:[]*ProducerEvent",
  "consensus/election.go:electionResult.STime:time.Time",
  "consensus/election.go:electionResult.Tick:uint64",
  "consensus/election_algorithm.go:AlgorithmConfig.delegations:[]*types.PillarDelegation",
  "consensus/election_algorithm.go:AlgorithmConfig.hashH:*types.HashHeight",
  "consensus/election_algorithm.go:electionAlgorithm.group:*Context",
  "consensus/events.go:eventManager.changes:sync.Mutex",
  "consensus/events.go:eventManager.listeners:[]EventListener",
  "consensus/interfaces.go:ProducerEvent.EndTime:time.Time",
  "consensus/interfaces.go:ProducerEvent.Name:string",
  "consensus/interfaces.go:ProducerEvent.Producer:types.Address",
  "consensus/interfaces.go:ProducerEvent.StartTime:time.Time",
  "consensus/points.go:compoundPoints.(embedded):ChainTicker",
  "consensus/points.go:compoundPoints.db:*storage.DB",
  "consensus/points.go:compoundPoints.log:common.Logger",
  "consensus/points.go:compoundPoints.lower:PointsReader",
  "consensus/points.go:compoundPoints.lowerMultiplier:uint64",
  "consensus/points.go:compoundPoints.prefix:byte",
  "consensus/points.go:periodPoints.(embedded):ChainTicker",
  "consensus/points.go:periodPoints.db:*storage.DB",
  "consensus/points.go:periodPoints.electionReader:ElectionReader",
  "consensus/points.go:periodPoints.log:common.Logger",
  "consensus/points.go:points.epochPoints:PointsReader",
  "consensus/points.go:points.epochTickMultiplier:int64",
  "consensus/points.go:points.lastCompletedEpoch:int64",
  "consensus/points.go:points.lastCompletedPeriod:int64",
  "consensus/points.go:points.log:common.Logger",
  "consensus/points.go:points.periodPoints:PointsReader",
  "consensus/storage/db.go:DB.db:db.DB",
  "consensus/storage/db.go:DB.electionCache:*lru.Cache",
  "consensus/storage/db.go:DB.pointCache:[]*lru.Cache",
  "consensus/storage/election_data.go:ElectionData.Delegations:[]*types.PillarDelegation",
  "consensus/storage/election_data.go:ElectionData.Producers:[]types.Address",
  "consensus/storage/point.go:Point.EndHash:types.Hash",
  "consensus/storage/point.go:Point.Pillars:map[string]*ProducerDetail",
  "consensus/storage/point.go:Point.PrevHash:types.Hash",
  "consensus/storage/point.go:Point.TotalWeight:*big.Int",
  "consensus/storage/point.go:ProducerDetail.ExpectedNum:uint32",
  "consensus/storage/point.go:ProducerDetail.FactualNum:uint32",
  "consensus/storage/point.go:ProducerDetail.Weight:*big.Int"]

theorem node_struct_fields_reviewed : Gen.nodeStructFields = reviewedNodeStructFields := rfl

/-- reviewed accesses to the containers, with their key expressions: the election cache is read and written under `hash` (the proof
    block's hash) only, the point caches under `[prefix]` and `height` (= tick; guarded by the end-hash comparison of the readers),
    the pool's managers under `address` and replaced as a whole in `DeleteMomentum`. -/
def reviewedNodeStateAccesses : List String := [
  "chain/account_pool.go:accountPool.DeleteMomentum:managers = make(map[types.Address]db.Manager)",
  "chain/account_pool.go:accountPool.GetAllUncommittedAccountBlocks:range managers",
  "chain/account_pool.go:accountPool.getAccountManager:managers[address]",
  "chain/account_pool.go:accountPool.getAccountManager:managers[address]",
  "chain/account_pool.go:accountPool.getAccountManager:managers[address] = manager",
  "chain/account_pool.go:accountPool.rebuild:delete(managers, address)",
  "chain/account_pool.go:accountPool.rebuild:len(managers, )",
  "chain/account_pool.go:accountPool.rebuild:managers[address]",
  "chain/account_pool.go:accountPool.rebuild:managers[address]",
  "chain/account_pool.go:accountPool.rebuild:managers[address] = manager",
  "chain/account_pool.go:accountPool.rebuild:range managers",
  "chain/account_pool.go:newAccountPool:managers: make(map[types.Address]db.Manager)",
  "consensus/api.go:API.EpochStats:Pillars: make(map[string]*api.EpochPillarStats)",
  "consensus/api.go:API.EpochStats:Pillars[pillarName]",
  "consensus/api.go:API.EpochStats:Pillars[pillarName] = &api.EpochPillarStats{ Epoch: epoch, BlockNum: uint64(v.FactualNum), ExceptedBlockNum: uint64(v.ExpectedNum), Weight: v.Weight, Name: pillarName}",
  "consensus/api.go:API.EpochStats:range Pillars",
  "consensus/api.go:API.GetPillarWeights:range Pillars",
  "consensus/points.go:compoundPoints.generatePointFromLower:range Pillars",
  "consensus/points.go:periodPoints.generatePointFromChain:Pillars[delegation.Name]",
  "consensus/points.go:periodPoints.generatePointFromChain:Pillars[delegation.Name]",
  "consensus/points.go:periodPoints.generatePointFromChain:Pillars[delegation.Name] = &storage.ProducerDetail{ExpectedNum: 0, FactualNum: 0, Weight: big.NewInt(0).Set(delegation.Weight)}",
  "consensus/points.go:periodPoints.generatePointFromChain:Pillars[nameLookup[v.Producer()]]",
  "consensus/points.go:periodPoints.generatePointFromChain:Pillars[nameLookup[v.Producer()]]",
  "consensus/points.go:periodPoints.generatePointFromChain:Pillars[nameLookup[v.Producer()]] = &storage.ProducerDetail{ExpectedNum: 0, FactualNum: 1, Weight: big.NewInt(0)}",
  "consensus/points.go:periodPoints.generatePointFromChain:Pillars[v.Name]",
  "consensus/points.go:periodPoints.generatePointFromChain:Pillars[v.Name]",
  "consensus/points.go:periodPoints.generatePointFromChain:Pillars[v.Name] = &storage.ProducerDetail{ExpectedNum: 1, FactualNum: 0, Weight: big.NewInt(0)}",
  "consensus/storage/db.go:DB.DeletePointByHeight:pointCache[prefix]",
  "consensus/storage/db.go:DB.DeletePointByHeight:pointCache[prefix].Remove(height)",
  "consensus/storage/db.go:DB.GetElectionResultByHash:electionCache.Add(hash)",
  "consensus/storage/db.go:DB.GetElectionResultByHash:electionCache.Get(hash)",
  "consensus/storage/db.go:DB.GetPointByHeight:pointCache[prefix]",
  "consensus/storage/db.go:DB.GetPointByHeight:pointCache[prefix]",
  "consensus/storage/db.go:DB.GetPointByHeight:pointCache[prefix].Add(height)",
  "consensus/storage/db.go:DB.GetPointByHeight:pointCache[prefix].Get(height)",
  "consensus/storage/db.go:DB.StoreElectionResultByHash:electionCache.Add(hash)",
  "consensus/storage/db.go:DB.StorePointByHeight:pointCache[prefix]",
  "consensus/storage/db.go:DB.StorePointByHeight:pointCache[prefix].Add(height)",
  "consensus/storage/db.go:NewConsensusDB:electionCache: electionCache",
  "consensus/storage/db.go:NewConsensusDB:pointCache: pointCache",
  "consensus/storage/point.go:NewEmptyPoint:Pillars: make(map[string]*ProducerDetail)",
  "consensus/storage/point.go:Point.LeftAppend:Pillars[k]",
  "consensus/storage/point.go:Point.LeftAppend:Pillars[k]",
  "consensus/storage/point.go:Point.LeftAppend:Pillars[k] = v.Copy()",
  "consensus/storage/point.go:Point.LeftAppend:range Pillars",
  "consensus/storage/point.go:Point.Marshal:len(Pillars, )",
  "consensus/storage/point.go:Point.Marshal:len(Pillars, )",
  "consensus/storage/point.go:Point.Marshal:range Pillars",
  "consensus/storage/point.go:Point.Unmarshal:Pillars = make(map[string]*ProducerDetail, len(pb.Content))",
  "consensus/storage/point.go:Point.Unmarshal:Pillars[v.Name]",
  "consensus/storage/point.go:Point.Unmarshal:Pillars[v.Name] = &ProducerDetail{ExpectedNum: v.ExpectedNum, FactualNum: v.FactualNum, Weight: big.NewInt(0).SetBytes(v.Weight)}"]

theorem node_state_accesses_reviewed : Gen.nodeStateAccesses = reviewedNodeStateAccesses := rfl

/-! ### the hypotheses are met -/

/-- a three-momentum chain with its hash chaining, and a node that went through a fork on it -/
example : ∃ (pf : Nat → Chain) (n : Node Unit CountPoint), Reach countSpec Witness.cfg pf n ∧ 0 < Witness.cfg.len ∧
    n.chain = [Witness.b3, Witness.b2, Witness.b1] ∧ ChainWF pf Witness.cfg.g n.chain ∧
    finished (10 * 2) n.chain 0 = true ∧ (n.caches.pc 0).isSome = true :=
  ⟨Witness.pf, Witness.node, witness_reachable, by decide, by decide, ⟨rfl, rfl, rfl, rfl⟩, by decide, by decide⟩

/-- `pool_no_trace` speaks about pools that do hold managers after a rollback with interleaved reads -/
example : ((run 0 [.insert ⟨1, []⟩ [], .insert ⟨2, [5]⟩ [], .add 7 ⟨70, 2⟩,
    .rollbackTo [([7, 5], [5])], .add 7 ⟨71, 1⟩]).mgrs 7) = some ⟨[⟨1, []⟩], [⟨71, 1⟩]⟩ := by decide

end ZV.C06Node
