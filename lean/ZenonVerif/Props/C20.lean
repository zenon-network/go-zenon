import ZenonVerif.Model.Genesis
import ZenonVerif.Lemmas.Genesis
/-
C20 — genesis: property theorems only.
Not theorems (covered by the `genesis` stream on the real code only): that the full genesis momentum — patch of the
whole embedded-contract storage, hash — is invariant under permutation of the configuration lists (T3 `genesis_pure`
of DESIGN.md needs a model of the ABI packing and of every `Save`; what IS proved is the two order-sensitive
mechanisms it rests on: sorted momentum content and commuting writes to distinct keys), and "fresh processes".
-/
namespace ZV.C20
open ZV ZV.Genesis

/-! ### T2 content_canonical -/

/-- the facts the model of `NewMomentumContent` was written for are the ones in the tree -/
theorem content_facts :
    Gen.headerComparer = "bytes.Compare <= 0" ∧ Gen.newMomentumContentSortCalls = 1 ∧
      Gen.gnAccountHeaderBytesFields = ["Address", "Height", "Hash"] ∧ Gen.AccountBlockHeaderRawLen = 60 :=
  ⟨rfl, rfl, rfl, rfl⟩

/-- `NewMomentumContent` returns a permutation of its input, sorted by header bytes. -/
theorem content_sorted (l : List Header) :
    (newMomentumContent l).Perm l ∧ (newMomentumContent l).Pairwise (fun a b => hdrLe a b = true) :=
  ⟨List.mergeSort_perm l hdrLe,
   List.pairwise_mergeSort (fun a b c => bytesLe_trans a.bytes b.bytes c.bytes)
     (fun a b => bytesLe_total a.bytes b.bytes) l⟩

/-- Independence of the sorting algorithm: ANY two sorted arrangements of the same well-formed headers are equal —
    so Go's unstable `sort.Slice` and the model's merge sort cannot differ, duplicates included (the comparer is a
    total ORDER on header bytes and `Bytes()` is injective on 20-byte address / uint64 height / 32-byte hash). -/
theorem content_sorted_unique (s₁ s₂ : List Header) (hwf : ∀ h ∈ s₁, h.WF) (hp : s₁.Perm s₂)
    (h₁ : s₁.Pairwise (fun a b => hdrLe a b = true)) (h₂ : s₂.Pairwise (fun a b => hdrLe a b = true)) : s₁ = s₂ := by
  apply List.Perm.eq_of_pairwise (le := fun a b => hdrLe a b = true) _ h₁ h₂ hp
  intro a b ha hb hab hba
  exact Header.bytes_inj a b (hwf a ha) (hwf b (hp.mem_iff.2 hb)) (bytesLe_antisymm _ _ hab hba)

/-- T2 `content_canonical`: the momentum content does not depend on the order in which the account blocks are
    handed over (pool iteration order, configuration list order): `sort (perm l) = sort l`. -/
theorem content_canonical (l₁ l₂ : List Header) (hwf : ∀ h ∈ l₁, h.WF) (hp : l₁.Perm l₂) :
    newMomentumContent l₁ = newMomentumContent l₂ := by
  have s1 := content_sorted l₁
  have s2 := content_sorted l₂
  apply content_sorted_unique _ _ _ (s1.1.trans (hp.trans s2.1.symm)) s1.2 s2.2
  intro h hh
  exact hwf h (s1.1.mem_iff.1 hh)

/-- the header encoding is fixed-width: 60 bytes for every well-formed header -/
theorem header_bytes_length (h : Header) (hwf : h.WF) : h.bytes.length = 60 := Header.bytes_length h hwf

/-! ### T1 (the part that is provable here): writes to distinct keys commute -/

/-- the genesis writers write one key per list entry; when the keys of a list are pairwise distinct the resulting
    store does not depend on the order of the list -/
theorem writes_canonical (s : Bytes → Option Bytes) (w₁ w₂ : List (Bytes × Bytes)) (hp : w₁.Perm w₂)
    (hnd : (w₁.map (·.1)).Nodup) : applyWrites s w₁ = applyWrites s w₂ := by
  induction hp generalizing s with
  | nil => rfl
  | cons x _ ih =>
    obtain ⟨k, v⟩ := x
    simp only [applyWrites]
    exact ih _ (List.nodup_cons.1 (by simpa using hnd)).2
  | swap x y l =>
    obtain ⟨k₁, v₁⟩ := x
    obtain ⟨k₂, v₂⟩ := y
    simp only [applyWrites]
    have hne : k₂ ≠ k₁ := by
      intro h; simp [h] at hnd
    congr 1
    funext z
    simp only [put]
    by_cases h1 : z = k₁
    · simp only [h1, hne.symm, if_true, if_false]
    · simp only [h1, if_false]
  | trans p₁ _ ih₁ ih₂ =>
    rw [ih₁ s hnd]
    exact ih₂ s ((p₁.map (·.1)).nodup_iff.1 hnd)

/-- two entries with one key (e.g. the nine fusions of one owner with the zero id in the mock genesis) are the excluded
    case: the last writer wins, so the order matters -/
theorem writes_duplicate_key_order_dependent :
    applyWrites (fun _ => none) [([1], [10]), ([1], [20])] [1] ≠ applyWrites (fun _ => none) [([1], [20]), ([1], [10])] [1] := by
  decide

/-! ### T4 check_genesis_sound

The validators as repaired by 842d79c (contract without entry), bf6e6a8 (two entries for one address), 5b5b1ec (nil /
negative amount), 4c4dee5 (MaxSupply), feb4686 (nil / negative fusion, pillar and swap amounts). Every statement below is about `checkGenesis`, the function the driver evaluates
on each `gen-check` line of the stream, and about `ledgerBalance` / `ledgerSupply`, the specification of what
`NewGenesis` stores (one balance per (address, token), the absolute value of the last amount written) — which the
stream's ledger monitor compares with a chain really started from the accepted configuration.

The only hypothesis left is `Config.WF` (the keys of one `BalanceList` are distinct), and only for the supply clause: it is
the representation invariant of a Go map, not a class of inputs — no `GenesisConfig` value and no JSON file violates it
(`supply_needs_wf` shows the association-list model would otherwise count a repeated key twice). -/

/-- `CheckGenesis` calls the five validators in the order the model uses -/
theorem check_order_fact : Gen.checkGenesisOrder =
    ["CheckFieldsExist", "CheckPlasmaInfo", "CheckSwapAccount", "CheckPillarBalance", "CheckTokenTotalSupply"] := rfl

/-- the refusals of `checkAccountBalance`, `CheckTokenTotalSupply` and of the loops of `CheckPlasmaInfo`, `CheckSwapAccount`,
    `CheckPillarBalance` (every `return errors.Errorf`, with the loops and
    conditions it sits under, in source order — read from the AST of the tree) are the ones `Model.checkAccountBalance`
    (`blockOK`, then `!found`), `Model.checkTokenTotalSupply` (`scanBlocks`, `tokenOK`, declared), `fusionOK` and `amountOK`
    were written for -/
theorem validator_refusals_fact :
    Gen.gnCheckAccountBalanceRefusals =
      ["range g.GenesisBlocks.Blocks / range block.BalanceList / !ok",
       "range g.GenesisBlocks.Blocks / range block.BalanceList / !(!ok) / requiredAmount.Cmp(amount) != 0",
       "range g.GenesisBlocks.Blocks / range required / !ok && required[token].Cmp(common.Big0) != 0",
       "!found / range required / amount.Cmp(common.Big0) != 0"] ∧
    Gen.gnCheckTokenTotalSupplyRefusals =
      ["range g.GenesisBlocks.Blocks / seen[block.Address]",
       "range g.GenesisBlocks.Blocks / range block.BalanceList / amount == nil || amount.Sign() < 0",
       "range g.TokenConfig.Tokens / !ok",
       "range g.TokenConfig.Tokens / !(!ok) / token.TotalSupply.Cmp(total) != 0",
       "range g.TokenConfig.Tokens / token.MaxSupply == nil || token.TotalSupply.Cmp(token.MaxSupply) > 0",
       "range given / !found"] ∧
    Gen.gnCheckPlasmaInfoRefusals =
      ["range g.PlasmaConfig.Fusions / fusion == nil",
       "range g.PlasmaConfig.Fusions / fusion.Amount == nil || fusion.Amount.Sign() < 0"] ∧
    Gen.gnCheckSwapAccountRefusals =
      ["range g.SwapConfig.Entries / entry.Qsr == nil || entry.Znn == nil || entry.Qsr.Sign() < 0 || entry.Znn.Sign() < 0"] ∧
    Gen.gnCheckPillarBalanceRefusals =
      ["range g.PillarConfig.Pillars / el.Amount == nil || el.Amount.Sign() < 0"] :=
  ⟨rfl, rfl, rfl, rfl, rfl⟩

theorem check_supply_parts (c : Config) (h : checkGenesis c = .ok) :
    scanBlocks [] c.blocks = true ∧ (∀ t ∈ c.tokens, tokenOK c t = true) ∧
      ∀ e ∈ givenEntries c, (c.tokens.any (fun t => t.zts = e.1)) = true := by
  have h5 := (checkGenesis_ok c h).2.2.2.2
  unfold checkTokenTotalSupply at h5
  rw [Bool.and_eq_true, Bool.and_eq_true, List.all_eq_true, List.all_eq_true] at h5
  exact ⟨h5.1.1, h5.1.2, h5.2⟩

/-- T4a: accepted ⇒ for every declared token, the amounts of ALL balance entries of that token add up to TotalSupply,
    and the token is given at least once. -/
theorem check_genesis_entries_sum (c : Config) (h : checkGenesis c = .ok) :
    ∀ t ∈ c.tokens, givenSum c t.zts = t.total ∧ givenHas c t.zts = true := by
  intro t ht
  have := (check_supply_parts c h).2.1 t ht
  simp only [tokenOK, Bool.and_eq_true, beq_iff_eq] at this
  exact ⟨this.1.2.symm, this.1.1⟩

/-- T4b: accepted ⇒ every token given in any balance list is declared. -/
theorem check_genesis_declared (c : Config) (h : checkGenesis c = .ok) :
    ∀ b ∈ c.blocks, ∀ e ∈ b.bal, ∃ t ∈ c.tokens, t.zts = e.1 := by
  intro b hb e he
  have hm : e ∈ givenEntries c := List.mem_flatMap.2 ⟨b, hb, he⟩
  have := (check_supply_parts c h).2.2 e hm
  simp only [List.any_eq_true, decide_eq_true_eq] at this
  exact this

/-- T4g (F13b, F13e repaired): accepted ⇒ no address has two `GenesisBlocks` entries, and no amount of any balance list
    is missing (nil) or negative. No hypothesis. -/
theorem check_genesis_entries_wellformed (c : Config) (h : checkGenesis c = .ok) :
    (c.blocks.map (·.addr)).Nodup ∧ ∀ b ∈ c.blocks, ∀ e ∈ b.bal, ∃ a : Int, e.2 = some a ∧ 0 ≤ a := by
  obtain ⟨_, hnd, hok⟩ := scanBlocks_spec [] c.blocks (check_supply_parts c h).1
  exact ⟨hnd, fun b hb e he => amountOK_spec e.2 (hok b hb e he)⟩

/-- T4h: accepted ⇒ the ledger holds, for every address and token, exactly the amount the (one) entry of the address
    lists — nothing for a token the entry does not list, nothing at all for an address without entry — and no balance
    is negative. No hypothesis. -/
theorem check_genesis_ledger (c : Config) (h : checkGenesis c = .ok) :
    (∀ b ∈ c.blocks, ∀ z, ledgerBalance c b.addr z = listed b.bal z) ∧
      (∀ a, a ∉ c.blocks.map (·.addr) → ∀ z, ledgerBalance c a z = 0) ∧
      ∀ a z, 0 ≤ ledgerBalance c a z := by
  obtain ⟨_, hnd, hok⟩ := scanBlocks_spec [] c.blocks (check_supply_parts c h).1
  have h1 : ∀ b ∈ c.blocks, ∀ z, ledgerBalance c b.addr z = listed b.bal z :=
    fun b hb z => ledgerBalance_single c hnd hok b hb z
  have h2 : ∀ a, a ∉ c.blocks.map (·.addr) → ∀ z, ledgerBalance c a z = 0 :=
    fun a ha z => ledgerBalance_absent c a ha z
  refine ⟨h1, h2, ?_⟩
  intro a z
  by_cases ha : a ∈ c.blocks.map (·.addr)
  · obtain ⟨b, hb, rfl⟩ := List.mem_map.1 ha
    rw [h1 b hb z]
    exact listed_nonneg b.bal z (hok b hb)
  · rw [h2 a ha z]; exact Int.le_refl 0

/-- T4c `check_genesis_supply` (since bf6e6a8 and 5b5b1ec "one entry per address" and "no
    negative amount" are consequences of acceptance, not premises): accepted ⇒ for every declared token the LEDGER balances — one
    per (address, token), as `NewGenesis` stores them — add up to its TotalSupply, MaxSupply is present and
    0 ≤ TotalSupply ≤ MaxSupply. `hwf`: see the header of this section. -/
theorem check_genesis_supply (c : Config) (hwf : c.WF) (h : checkGenesis c = .ok) :
    ∀ t ∈ c.tokens, ledgerSupply c t.zts = t.total ∧ 0 ≤ t.total ∧ ∃ m : Int, t.max = some m ∧ t.total ≤ m := by
  intro t ht
  obtain ⟨hscan, htok, _⟩ := check_supply_parts c h
  have hs : ledgerSupply c t.zts = t.total := by
    rw [ledgerSupply_eq_givenSum c hwf hscan]
    exact (check_genesis_entries_sum c h t ht).1
  refine ⟨hs, ?_, ?_⟩
  · rw [← hs]
    unfold ledgerSupply
    apply isum_nonneg
    intro x hx
    obtain ⟨a, _, rfl⟩ := List.mem_map.1 hx
    exact (check_genesis_ledger c h).2.2 a t.zts
  · have := htok t ht
    simp only [tokenOK, Bool.and_eq_true] at this
    have hm := this.2
    unfold maxOK at hm
    cases hmax : t.max with
    | none => simp [hmax] at hm
    | some m => exact ⟨m, rfl, by simpa [hmax] using hm⟩

/-- the association-list model needs `WF` for the supply clause: one (impossible in Go) balance list with the key
    repeated is accepted with TotalSupply 10 while a map — and the ledger — holds 5 -/
theorem supply_needs_wf :
    ∃ c : Config, checkGenesis c = .ok ∧ ¬ c.WF ∧ ∃ t ∈ c.tokens, ledgerSupply c t.zts ≠ t.total := by
  refine ⟨{ blocks := [⟨[0, 7], [(Gen.ZnnTokenStandard, some 5), (Gen.ZnnTokenStandard, some 5)]⟩],
            tokens := [⟨Gen.ZnnTokenStandard, 10, some 100⟩] }, by decide, ?_, ⟨Gen.ZnnTokenStandard, 10, some 100⟩, by simp, by decide⟩
  intro hwf
  have := hwf ⟨[0, 7], [(Gen.ZnnTokenStandard, some 5), (Gen.ZnnTokenStandard, some 5)]⟩ (by simp)
  simp at this

/-- T4d `check_genesis_plasma` (since 842d79c "the plasma contract has a
    `GenesisBlocks` entry or the fusions add up to zero" is checked by `checkAccountBalance`, not a premise): accepted ⇒ the plasma
    contract holds exactly the sum of the fusions in QSR — the value itself, it is not negative — and nothing else.
    No hypothesis. -/
theorem check_genesis_plasma (c : Config) (h : checkGenesis c = .ok) :
    ledgerBalance c Gen.PlasmaContract Gen.QsrTokenStandard = fusionSum c ∧ 0 ≤ fusionSum c ∧
      ∀ z, z ≠ Gen.QsrTokenStandard → ledgerBalance c Gen.PlasmaContract z = 0 := by
  have h2 := (checkGenesis_ok c h).2.1
  unfold checkPlasmaInfo at h2
  rw [Bool.and_eq_true] at h2
  exact held_single c _ _ _ h2.2 (check_supply_parts c h).1

/-- T4i (F13f, repaired by feb4686): accepted ⇒ every fusion entry is present
    and every fusion amount, pillar stake and swap amount is present and non-negative — so `fusionSum` / `pillarSum` are
    sums of the real, non-negative amounts the contracts store. No hypothesis. -/
theorem check_genesis_amounts (c : Config) (h : checkGenesis c = .ok) :
    (∀ f ∈ c.fusions, ∃ a : Int, f = some (some a) ∧ 0 ≤ a) ∧
    (∀ p ∈ c.pillars, ∃ a : Int, p = some a ∧ 0 ≤ a) ∧
    (∀ e ∈ c.swaps, ∃ z q : Int, e = (some z, some q) ∧ 0 ≤ z ∧ 0 ≤ q) := by
  obtain ⟨_, h2, h3, h4, _⟩ := checkGenesis_ok c h
  unfold checkPlasmaInfo at h2
  unfold checkSwapAccount at h3
  unfold checkPillarBalance at h4
  rw [Bool.and_eq_true, List.all_eq_true] at h2 h3 h4
  refine ⟨?_, ?_, ?_⟩
  · intro f hf
    have := h2.1 f hf
    cases f with
    | none => simp [fusionOK] at this
    | some a =>
      obtain ⟨v, hv, h0⟩ := amountOK_spec a (by simpa [fusionOK] using this)
      exact ⟨v, by rw [hv], h0⟩
  · intro p hp
    exact amountOK_spec p (h4.1 p hp)
  · intro e he
    have := h3.1 e he
    rw [Bool.and_eq_true] at this
    obtain ⟨z, hz, hz0⟩ := amountOK_spec e.1 this.1
    obtain ⟨q, hq, hq0⟩ := amountOK_spec e.2 this.2
    exact ⟨z, q, by rw [← hz, ← hq], hz0, hq0⟩

/-- F13f: fusions of −5 and +12 with a plasma balance of 7 — the signed sum fits — are
    refused by `CheckPlasmaInfo`; so are a missing fusion amount, a negative / missing pillar stake (`CheckPillarBalance`)
    and a negative swap amount (`CheckSwapAccount`); zero amounts are fine -/
theorem fusion_signs_checked :
    checkGenesis { blocks := [⟨Gen.PlasmaContract, [(Gen.QsrTokenStandard, some 7)]⟩],
                   tokens := [⟨Gen.QsrTokenStandard, 7, some 100⟩], fusions := [some (some (-5)), some (some 12)] } = .plasma ∧
    checkGenesis { blocks := [⟨Gen.PlasmaContract, [(Gen.QsrTokenStandard, some 7)]⟩],
                   tokens := [⟨Gen.QsrTokenStandard, 7, some 100⟩], fusions := [some none, some (some 7)] } = .plasma ∧
    checkGenesis { blocks := [⟨Gen.PillarContract, [(Gen.ZnnTokenStandard, some 7)]⟩],
                   tokens := [⟨Gen.ZnnTokenStandard, 7, some 100⟩], pillars := [some (-5), some 12] } = .pillar ∧
    checkGenesis { blocks := [⟨Gen.PillarContract, [(Gen.ZnnTokenStandard, some 7)]⟩],
                   tokens := [⟨Gen.ZnnTokenStandard, 7, some 100⟩], pillars := [none, some 7] } = .pillar ∧
    checkGenesis { blocks := [⟨[0, 7], [(Gen.ZnnTokenStandard, some 9)]⟩], tokens := [⟨Gen.ZnnTokenStandard, 9, some 100⟩],
                   swaps := [(some (-1), some 2)] } = .swap ∧
    checkGenesis { blocks := [⟨[0, 7], [(Gen.ZnnTokenStandard, some 9)]⟩], tokens := [⟨Gen.ZnnTokenStandard, 9, some 100⟩],
                   swaps := [(some 1, some 0)] } = .ok := by decide

/-- T4e `check_genesis_pillar`: accepted ⇒ the pillar contract holds exactly the
    sum of the pillar stakes in ZNN and nothing else. No hypothesis. -/
theorem check_genesis_pillar (c : Config) (h : checkGenesis c = .ok) :
    ledgerBalance c Gen.PillarContract Gen.ZnnTokenStandard = pillarSum c ∧ 0 ≤ pillarSum c ∧
      ∀ z, z ≠ Gen.ZnnTokenStandard → ledgerBalance c Gen.PillarContract z = 0 := by
  have h4 := (checkGenesis_ok c h).2.2.2.1
  unfold checkPillarBalance at h4
  rw [Bool.and_eq_true] at h4
  exact held_single c _ _ _ h4.2 (check_supply_parts c h).1

/-- T4f (swap): accepted ⇒ the swap contract holds nothing, of any token. No hypothesis. -/
theorem check_genesis_swap (c : Config) (h : checkGenesis c = .ok) : ∀ z, ledgerBalance c Gen.SwapContract z = 0 := by
  have h3 := (checkGenesis_ok c h).2.2.1
  unfold checkSwapAccount at h3
  rw [Bool.and_eq_true] at h3
  intro z
  by_cases hz1 : Gen.ZnnTokenStandard = z
  · exact held_required c _ _ h3.2 z 0 (by simp [lookup, hz1])
  · by_cases hz2 : Gen.QsrTokenStandard = z
    · exact held_required c _ _ h3.2 z 0 (by simp [lookup, hz1, hz2])
    · exact held_not_required c _ _ h3.2 z (by simp [lookup, hz1, hz2])

/-- T4 `check_genesis_sound`: the sentence of the property in one statement. A configuration `CheckGenesis` accepts
    yields a ledger in which, for every declared token, the balances add up to TotalSupply with
    0 ≤ TotalSupply ≤ MaxSupply; every token held is declared; no balance is negative; the plasma contract holds exactly
    Σ fusions of QSR, the pillar contract exactly Σ pillar stakes of ZNN, neither anything else, the swap contract
    nothing; every fusion, pillar and swap amount is present and non-negative (so the sums are sums of what the
    contracts really store). -/
theorem check_genesis_sound (c : Config) (hwf : c.WF) (h : checkGenesis c = .ok) :
    (∀ t ∈ c.tokens, ledgerSupply c t.zts = t.total ∧ 0 ≤ t.total ∧ ∃ m : Int, t.max = some m ∧ t.total ≤ m) ∧
    (∀ b ∈ c.blocks, ∀ e ∈ b.bal, ∃ t ∈ c.tokens, t.zts = e.1) ∧
    (∀ a z, 0 ≤ ledgerBalance c a z) ∧
    (ledgerBalance c Gen.PlasmaContract Gen.QsrTokenStandard = fusionSum c ∧
      ∀ z, z ≠ Gen.QsrTokenStandard → ledgerBalance c Gen.PlasmaContract z = 0) ∧
    (ledgerBalance c Gen.PillarContract Gen.ZnnTokenStandard = pillarSum c ∧
      ∀ z, z ≠ Gen.ZnnTokenStandard → ledgerBalance c Gen.PillarContract z = 0) ∧
    (∀ z, ledgerBalance c Gen.SwapContract z = 0) ∧
    ((∀ f ∈ c.fusions, ∃ a : Int, f = some (some a) ∧ 0 ≤ a) ∧ (∀ p ∈ c.pillars, ∃ a : Int, p = some a ∧ 0 ≤ a) ∧
      (∀ e ∈ c.swaps, ∃ z q : Int, e = (some z, some q) ∧ 0 ≤ z ∧ 0 ≤ q)) :=
  ⟨check_genesis_supply c hwf h, check_genesis_declared c h, (check_genesis_ledger c h).2.2,
   ⟨(check_genesis_plasma c h).1, (check_genesis_plasma c h).2.2⟩,
   ⟨(check_genesis_pillar c h).1, (check_genesis_pillar c h).2.2⟩, check_genesis_swap c h, check_genesis_amounts c h⟩

/-- the clause of the property as it is worded ("a configuration whose balances do not add up to the declared token
    supplies and contract holdings is rejected"): contrapositive of `check_genesis_sound` -/
theorem inconsistent_rejected (c : Config) (hwf : c.WF)
    (hbad : (∃ t ∈ c.tokens, ledgerSupply c t.zts ≠ t.total ∨ t.max = none ∨ ∃ m : Int, t.max = some m ∧ m < t.total) ∨
      ledgerBalance c Gen.PlasmaContract Gen.QsrTokenStandard ≠ fusionSum c ∨
      ledgerBalance c Gen.PillarContract Gen.ZnnTokenStandard ≠ pillarSum c ∨
      (∃ z, ledgerBalance c Gen.SwapContract z ≠ 0) ∨
      (∃ b ∈ c.blocks, ∃ e ∈ b.bal, e.2 = none ∨ ∃ a : Int, e.2 = some a ∧ a < 0) ∨
      ¬ (c.blocks.map (·.addr)).Nodup ∨
      (∃ f ∈ c.fusions, f = none ∨ f = some none ∨ ∃ a : Int, f = some (some a) ∧ a < 0) ∨
      (∃ p ∈ c.pillars, p = none ∨ ∃ a : Int, p = some a ∧ a < 0) ∨
      (∃ e ∈ c.swaps, e.1 = none ∨ e.2 = none ∨ (∃ a : Int, e.1 = some a ∧ a < 0) ∨ ∃ a : Int, e.2 = some a ∧ a < 0)) :
    checkGenesis c ≠ .ok := by
  intro h
  rcases hbad with ⟨t, ht, hb⟩ | hb | hb | ⟨z, hz⟩ | ⟨b, hb, e, he, hbad⟩ | hb | ⟨f, hf, hbad⟩ | ⟨p, hp, hbad⟩ |
    ⟨e, he, hbad⟩
  · obtain ⟨h1, _, m, hm, hle⟩ := check_genesis_supply c hwf h t ht
    rcases hb with hb | hb | ⟨m', hm', hlt⟩
    · exact hb h1
    · rw [hm] at hb; cases hb
    · rw [hm] at hm'; cases hm'; omega
  · exact hb (check_genesis_plasma c h).1
  · exact hb (check_genesis_pillar c h).1
  · exact hz (check_genesis_swap c h z)
  · obtain ⟨a, ha, h0⟩ := (check_genesis_entries_wellformed c h).2 b hb e he
    rcases hbad with hn | ⟨a', ha', hneg⟩
    · rw [ha] at hn; cases hn
    · rw [ha] at ha'; cases ha'; omega
  · exact hb (check_genesis_entries_wellformed c h).1
  · obtain ⟨a, ha, h0⟩ := (check_genesis_amounts c h).1 f hf
    subst ha
    rcases hbad with hn | hn | ⟨a', ha', hneg⟩
    · cases hn
    · cases hn
    · cases ha'; omega
  · obtain ⟨a, ha, h0⟩ := (check_genesis_amounts c h).2.1 p hp
    subst ha
    rcases hbad with hn | ⟨a', ha', hneg⟩
    · cases hn
    · cases ha'; omega
  · obtain ⟨z, q, heq, hz0, hq0⟩ := (check_genesis_amounts c h).2.2 e he
    subst heq
    rcases hbad with hn | hn | ⟨a', ha', hneg⟩ | ⟨a', ha', hneg⟩
    · cases hn
    · cases hn
    · cases ha'; omega
    · cases ha'; omega

/-! #### concrete configurations that go-zenon accepted before the repair commits: refused -/

/-- F13e: entries of −7 and +12, TotalSupply 5 — refused by `CheckTokenTotalSupply` -/
theorem supply_negative_entry_rejected :
    checkGenesis { blocks := [⟨[0, 7], [(Gen.ZnnTokenStandard, some (-7))]⟩, ⟨[0, 8], [(Gen.ZnnTokenStandard, some 12)]⟩],
                   tokens := [⟨Gen.ZnnTokenStandard, 5, some 100⟩] } = .supply := by decide

/-- F13e, nil half: a missing amount is refused as well (before 5b5b1ec the validator dereferenced it) -/
theorem supply_missing_amount_rejected :
    checkGenesis { blocks := [⟨[0, 7], [(Gen.ZnnTokenStandard, none)]⟩, ⟨[0, 8], [(Gen.ZnnTokenStandard, some 5)]⟩],
                   tokens := [⟨Gen.ZnnTokenStandard, 5, some 100⟩] } = .supply := by decide

/-- F13b: one address with two entries of 5, TotalSupply 10 — refused -/
theorem supply_duplicate_entry_rejected :
    checkGenesis { blocks := [⟨[0, 7], [(Gen.ZnnTokenStandard, some 5)]⟩, ⟨[0, 7], [(Gen.ZnnTokenStandard, some 5)]⟩],
                   tokens := [⟨Gen.ZnnTokenStandard, 10, some 100⟩] } = .supply := by decide

/-- F13a: fusions of 5 QSR, no plasma-contract entry, supplies consistent — refused by
    `CheckPlasmaInfo` -/
theorem plasma_no_entry_rejected :
    checkGenesis { blocks := [⟨[0, 7], [(Gen.QsrTokenStandard, some 9)]⟩], tokens := [⟨Gen.QsrTokenStandard, 9, some 100⟩],
                   fusions := [some (some 5)] } = .plasma := by decide

/-- F13a: a pillar stake of 15000, no pillar-contract entry — refused by `CheckPillarBalance` -/
theorem pillar_no_entry_rejected :
    checkGenesis { blocks := [⟨[0, 7], [(Gen.ZnnTokenStandard, some 9)]⟩], tokens := [⟨Gen.ZnnTokenStandard, 9, some 100⟩],
                   pillars := [some 15000] } = .pillar := by decide

/-- … while a contract without entry is still fine when nothing is required of it (no fusions, no pillars, swap) -/
theorem no_entry_nothing_required_accepted :
    checkGenesis { blocks := [⟨[0, 7], [(Gen.ZnnTokenStandard, some 9)]⟩], tokens := [⟨Gen.ZnnTokenStandard, 9, some 100⟩] } = .ok := by
  decide

/-- F13c: TotalSupply 9 above MaxSupply 8 — refused; so is a missing MaxSupply;
    TotalSupply = MaxSupply is the accepted boundary -/
theorem max_supply_checked :
    checkGenesis { blocks := [⟨[0, 7], [(Gen.ZnnTokenStandard, some 9)]⟩], tokens := [⟨Gen.ZnnTokenStandard, 9, some 8⟩] } = .supply ∧
    checkGenesis { blocks := [⟨[0, 7], [(Gen.ZnnTokenStandard, some 9)]⟩], tokens := [⟨Gen.ZnnTokenStandard, 9, none⟩] } = .supply ∧
    checkGenesis { blocks := [⟨[0, 7], [(Gen.ZnnTokenStandard, some 9)]⟩], tokens := [⟨Gen.ZnnTokenStandard, 9, some 9⟩] } = .ok := by
  decide

/-- order of the validators when several refuse: an unbacked plasma contract AND a supply above its maximum is the plasma
    refusal (the earlier validator) -/
example : checkGenesis { blocks := [⟨[0, 7], [(Gen.QsrTokenStandard, some 9)]⟩], tokens := [⟨Gen.QsrTokenStandard, 9, some 8⟩],
                         fusions := [some (some 5)] } = .plasma := by decide

/-- consequence used by the stream: changing one declared supply of an accepted configuration (everything else
    equal) is rejected -/
theorem supply_change_rejected (c c' : Config) (h : checkGenesis c = .ok) (hb : c'.blocks = c.blocks)
    (t t' : Token) (ht : t ∈ c.tokens) (ht' : t' ∈ c'.tokens) (hz : t'.zts = t.zts) (hne : t'.total ≠ t.total) :
    checkGenesis c' ≠ .ok := by
  intro h'
  have e1 := (check_genesis_entries_sum c h t ht).1
  have e2 := (check_genesis_entries_sum c' h' t' ht').1
  have : givenSum c' t'.zts = givenSum c t.zts := by simp [givenSum, givenEntries, hb, hz]
  omega

/-- hypotheses are satisfiable: a small consistent configuration with both contract entries is accepted (and is `WF`) -/
example : checkGenesis { blocks := [⟨Gen.PillarContract, [(Gen.ZnnTokenStandard, some 15)]⟩,
                                    ⟨Gen.PlasmaContract, [(Gen.QsrTokenStandard, some 7)]⟩,
                                    ⟨[0, 7], [(Gen.ZnnTokenStandard, some 5), (Gen.QsrTokenStandard, some 3)]⟩],
                         tokens := [⟨Gen.ZnnTokenStandard, 20, some 100⟩, ⟨Gen.QsrTokenStandard, 10, some 100⟩],
                         pillars := [some 15], fusions := [some (some 3), some (some 4)], swaps := [(some 1, some 2)] } = .ok := by decide

/-! ### T5 startup_compare -/

/-- `checkGenesisCompatibility` refuses iff the database is non-empty and its height-1 momentum hash differs from the
    configured genesis hash -/
theorem startup_compare (stored : Option Bytes) (configured : Bytes) :
    (checkGenesisCompatibility stored configured).1 = .refused ↔ ∃ h, stored = some h ∧ h ≠ configured := by
  unfold checkGenesisCompatibility
  cases stored with
  | none => simp
  | some h => by_cases hh : h = configured <;> simp [hh]

/-- an empty database gets the configured genesis; a non-empty one is never changed by the comparison -/
theorem startup_store (stored : Option Bytes) (configured : Bytes) :
    (stored = none → checkGenesisCompatibility stored configured = (.inserted, some configured)) ∧
    (∀ h, stored = some h → (checkGenesisCompatibility stored configured).2 = some h) := by
  constructor
  · intro h; subst h; rfl
  · intro h hs; subst hs; unfold checkGenesisCompatibility; by_cases hh : h = configured <;> simp [hh]

/-- hence: a database created with configuration A restarts with A and refuses every B whose genesis hash differs -/
theorem startup_pair (a b : Bytes) :
    let db := (checkGenesisCompatibility none a).2
    (checkGenesisCompatibility db a).1 = .matches ∧ (a ≠ b → (checkGenesisCompatibility db b).1 = .refused) := by
  simp only [checkGenesisCompatibility, ne_eq, not_true_eq_false, if_false, true_and]
  intro h
  simp [h]

end ZV.C20
