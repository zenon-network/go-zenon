import ZenonVerif.Lemmas.CodecJson
import ZenonVerif.Gen.JsonFields
/-
C13 / C18 — the JSON OBJECT form of account blocks and momentums (Model/CodecJson.lean): "every block survives the
JSON encoding unchanged with its hash preserved" (C13) and "a block returned as JSON and fed back parses to the same
block with the same hash" (C18). The model is tied to chain/nom/account_block.go {MarshalJSON, UnmarshalJSON} and
encoding/json by the `json-mar` / `json-unm` / `jsonm-mar` / `jsonm-unm` lines of the `codec` stream; the member
names, their order and their Go types are the regenerated facts `Gen.abJsonMembers` / `Gen.momJsonMembers` /
`Gen.hashHeightJsonMembers` / `Gen.accountHeaderJsonMembers`, compared with the tag tables of the model below.
NOT a theorem here: order-irrelevance for arbitrary objects (only for the marshalled members of a block:
`unmarshalBlock_all_members`, of which the reversed order `json_member_order_irrelevant_partial` is an instance):
the stream checks shuffles on the real code (model-free monitor + model replay); the api.AccountBlock wrapper
(token / confirmationDetail / pairedAccountBlock) is not modelled beyond "these names match no tag"
(`json_unknown_members_ignored` + the example next to it).
-/
namespace ZV.C13Json
open ZV ZV.Codec ZV.JsonRpc ZV.CodecJson

/-- names, order and Go types of the JSON members of `nom.AccountBlockMarshal` (what `json.Marshal` /
    `json.Unmarshal` see): `TotalPlasma` is `usedPlasma`, `producer` is invisible -/
theorem json_block_members_current :
    abTags.map (fun t => (t.1, abGoType t.2)) = jsonVisible Gen.abJsonMembers ∧
    abTags.map (fun t => goFieldOf t.2) = (Gen.abJsonMembers.filter (fun m => m.2.1 ≠ "")).map (·.1) :=
  ⟨rfl, rfl⟩

/-- `nom.AccountBlock` carries the same tags as `AccountBlockMarshal` (amount and nonce differ in type only) -/
theorem json_block_struct_tags_agree :
    Gen.abStructJsonMembers.map (fun m => (m.1, m.2.1)) = Gen.abJsonMembers.map (fun m => (m.1, m.2.1)) :=
  rfl

/-- `nom.Momentum`: `Timestamp` has `json:"-"`, `TimestampUnix` is `timestamp` -/
theorem json_momentum_members_current :
    momTags.map (fun t => (t.1, momGoType t.2)) = jsonVisible Gen.momJsonMembers :=
  rfl

/-- `types.HashHeight` and `types.AccountHeader` (the embedded `HashHeight` is flattened: address, hash, height) -/
theorem json_header_members_current :
    hhTags.map (·.1) = (jsonVisible Gen.hashHeightJsonMembers).map (·.1) ∧
    Gen.accountHeaderJsonMembers.map (fun m => (m.1, m.2.1)) = [("Address", "address"), ("HashHeight", "<embedded>")] ∧
    ahTags.map (·.1) = "address" :: hhTags.map (·.1) :=
  ⟨rfl, rfl, rfl⟩

/-- no two tags of a struct fold to the same key, so "exact name first, folded name second" never has to choose -/
theorem json_tags_fold_distinct :
    (abTags.map (fun t => foldKey t.1)).Nodup ∧ (momTags.map (fun t => foldKey t.1)).Nodup ∧
    (ahTags.map (fun t => foldKey t.1)).Nodup := by
  simp only [abTags, momTags, ahTags, List.map, foldKey]
  -- a literal is `String.ofList` of its characters by the kernel's own rule, so `toList` of it is read off
  -- (`String.toList_ofList`); running `toList` on the literals is what makes the evaluation dear
  repeat rw [String.toList_ofList]
  decide +kernel

/-- C13 / C18: `UnmarshalJSON(MarshalJSON(b)) = b` for every block the Go types can hold (byte values, array widths
    32 / 20 / 10 / 8, uint64 ranges, at every level of descendants), with ANY integer amount (a negative one
    too: "-5" parses), for any leaf text codecs that round-trip (`Leaves.WF`). Every member is preserved, hence
    the hash (`json_roundtrip_block_hash`). -/
theorem json_roundtrip_block (L : Leaves) (hL : L.WF) (b : Block) (hb : BlockJ b) :
    unmarshalBlock L (marshalBlock L b) = .ok b :=
  (unmarshal_marshal L hL).1 b hb

/-- … with its hash preserved. Nothing beyond `json_roundtrip_block`: the block that comes back IS `b`, so hash
    pre-image and stored hash are the same. -/
theorem json_roundtrip_block_hash (L : Leaves) (hL : L.WF) (H : Bytes → Bytes) (b : Block) (hb : BlockJ b) :
    ∃ r, unmarshalBlock L (marshalBlock L b) = .ok r ∧ abComputeHash H r = abComputeHash H b ∧
      r.body.hash = b.body.hash :=
  ⟨b, json_roundtrip_block L hL b hb, rfl, rfl⟩

/-- hypotheses are satisfiable: hex leaves, a block with a negative amount and one descendant -/
example : toyLeaves.WF ∧ BlockJ ⟨{ bodyZero with amount := -5, version := 1 }, [⟨bodyZero, []⟩]⟩ := by
  refine ⟨toyLeaves_wf, ?_⟩
  simp only [BlockJ, BlocksJ, and_true]
  have hb : BodyJ bodyZero := by
    constructor <;> first | exact zeros_J _ | exact ⟨zeros_J _, by decide⟩ | decide
  exact ⟨{ hb with version := by decide }, hb⟩

/-- `json.Unmarshal(json.Marshal(m)) = m` for every momentum the Go types can hold -/
theorem json_roundtrip_momentum (L : Leaves) (hL : L.WF) (m : Momentum) (w : MomentumJ m) :
    unmarshalMomentum L (marshalMomentum L m) = .ok m := by
  have hc := decHeaders_mar L hL m.content [] w.content
  obtain ⟨⟩ := w
  simp [*, marshalMomentum, unmarshalMomentum, momFill, CodecJson.fieldOf, momTags, List.lookup, bind, Except.bind, pure,
    Except.pure, decU64_u64J, decText, hL.hash, decBytes_ok L hL, decContent, allSome_map_some]

example : MomentumJ { momZero with content := [ahZero], timestampUnix := 7 } := by
  constructor <;> first | exact zeros_J _ | decide | skip
  intro h hh
  rw [List.mem_singleton.1 hh]
  exact ⟨zeros_J _, zeros_J _, by decide⟩

/-- a member whose name matches no tag (neither exactly nor case-folded) is skipped, wherever it stands and
    whatever its value is: `producer`, `Timestamp`, `token`, `confirmationDetail`, `pairedAccountBlock` … -/
theorem json_unknown_members_ignored (L : Leaves) (k : String) (v : Json) (hk : fieldOf abTags k = none)
    (ms₁ ms₂ : List (String × Json)) :
    unmarshalBlock L (.obj (ms₁ ++ (k, v) :: ms₂)) = unmarshalBlock L (.obj (ms₁ ++ ms₂)) := by
  have h : unmMembers L ((k, v) :: ms₂) = unmMembers L ms₂ := funext fun a => by
    rw [unmMembers_cons, hk]; rfl
  simp only [unmarshalBlock, unmMembers_append, h]

/-- the names the api wrapper adds, and the unexported / Go-side names, match no tag -/
example : fieldOf abTags "producer" = none ∧ fieldOf abTags "token" = none ∧
    fieldOf abTags "confirmationDetail" = none ∧ fieldOf abTags "pairedAccountBlock" = none ∧
    fieldOf abTags "totalPlasma" = none ∧ fieldOf abTags "USEDPLASMA" = some .totalPlasma := by decide +kernel

/-- the same for momentums -/
theorem json_unknown_members_ignored_momentum (L : Leaves) (k : String) (v : Json) (hk : fieldOf momTags k = none)
    (ms₁ ms₂ : List (String × Json)) :
    unmarshalMomentum L (.obj (ms₁ ++ (k, v) :: ms₂)) = unmarshalMomentum L (.obj (ms₁ ++ ms₂)) := by
  have h : momFill L ((k, v) :: ms₂) = momFill L ms₂ := funext fun a => by
    rw [momFill, hk]
  simp only [unmarshalMomentum, momFill_append, h]

/-- a missing member leaves the Go zero value — for every member except `nonce`: the marshalled block with the
    member `name` removed parses to the block with that member zeroed (descendantBlocks: none) -/
theorem json_missing_member_default (L : Leaves) (hL : L.WF) (body : ABody) (ds : List Block)
    (hb : BlockJ ⟨body, ds⟩) (name : String) (f : AF) (hf : (name, f) ∈ abTags) (hne : f ≠ .nonce) :
    unmarshalBlock L (dropMember name (marshalBlock L ⟨body, ds⟩)) = .ok (zeroField f ⟨body, ds⟩) := by
  rw [unmarshalBlock_dropMember L hL _ hb.1 ((unmarshal_marshal L hL).2 ds hb.2) hf, finish_auxOn_drop _ hb.1.nonce f hne]

/-- `json_member_order_irrelevant_partial`: the marshalled block with its members in REVERSED order (so the relative
    order of every pair of members is flipped, descendantBlocks before / after every other member) parses to the
    same block. PARTIAL: an arrangement of the marshalled members (any of them would do: `unmarshalBlock_all_members`),
    not every permutation of every object without repeated folded names (missing: pairwise commutation of the 22
    member setters on arbitrary values lifted to `List.Perm`, and the statement modulo WHICH error is reported,
    since the first error in document order changes with the order);
    arbitrary shuffles are replayed against the model and checked model-free on the `codec` stream
    (`jm-shuffle`, `jm-shuffle-desc`, `jmm-shuffle`). -/
theorem json_member_order_irrelevant_partial (L : Leaves) (hL : L.WF) (body : ABody) (ds : List Block)
    (hb : BlockJ ⟨body, ds⟩) :
    unmarshalBlock L (reverseMembers (marshalBlock L ⟨body, ds⟩)) = .ok ⟨body, ds⟩ := by
  rw [marshalBlock_eq, reverseMembers, ← List.map_reverse]
  exact unmarshalBlock_all_members L hL _ hb.1 ((unmarshal_marshal L hL).2 ds hb.2) abTags.reverse
    (fun _ => List.mem_reverse.1) fun g => List.any_reverse.trans (abTags_any g)

/-- … and a missing `nonce` is an ERROR of `UnmarshalJSON` ("invalid nonce length": the empty string decodes to 0
    bytes): `finish` refuses every `aux` whose nonce text is still empty, whatever else it holds. For the marshalled
    block with `nonce` dropped that is the `aux` of `unmarshalBlock_dropMember`; that the member loop leaves the text
    empty on EVERY object without a member matching `nonce` is not stated here. -/
theorem json_missing_nonce_is_error (a : Aux) (h : a.nonce = "") : finish a = .error .badNonce := by
  simp [finish, h, nonceUnmarshalText, ofHexChars]

/-- which of the defaults change the hash: zeroing a member whose Go field is not among the arguments of
    `ComputeHash` (`Gen.abHashFields`; `DescendantBlocks` enters as `DescendantBlocksHash`) leaves the hash
    pre-image unchanged — these are hash, basePlasma, usedPlasma, changesHash, publicKey, signature; the other 16
    are covered (`json_missing_member_covered`) -/
theorem json_missing_member_hash_neutral (H : Bytes → Bytes) (f : AF) (b : Block)
    (hf : goFieldOf f ∉ Gen.abHashFields.map (·.1) ∧ f ≠ .descendantBlocks) :
    abPreimage H (zeroField f b) = abPreimage H b := by
  obtain ⟨body, ds⟩ := b
  cases f
  case hash | basePlasma | totalPlasma | changesHash | publicKey | signature => rfl
  all_goals exact absurd hf (by decide)

theorem json_missing_member_covered :
    (abTags.filter (fun t => goFieldOf t.2 ∈ Gen.abHashFields.map (·.1) ∨ t.2 = .descendantBlocks)).map (·.1) =
      ["version", "chainIdentifier", "blockType", "previousHash", "height", "momentumAcknowledged", "address",
       "toAddress", "amount", "tokenStandard", "fromBlockHash", "descendantBlocks", "data", "fusedPlasma",
       "difficulty", "nonce"] := by
  decide +kernel

/-- what `common.StringToBigInt` makes of the amount member: a leading '+' or '-' is accepted, leading zeros too;
    a fraction, an exponent, a base prefix, the empty string, a blank, a digit separator and "<nil>" (what a nil
    `*big.Int` marshals to) all give 0 and NO error; a value of 2^256 parses to itself (no bound in this layer) -/
theorem json_amount_forms :
    stringToBigInt "+5".toList = 5 ∧ stringToBigInt "-5".toList = -5 ∧ stringToBigInt "007".toList = 7 ∧
    stringToBigInt "1.5".toList = 0 ∧ stringToBigInt "1e3".toList = 0 ∧ stringToBigInt "0x10".toList = 0 ∧
    stringToBigInt "".toList = 0 ∧ stringToBigInt " 5".toList = 0 ∧ stringToBigInt "1_000".toList = 0 ∧
    stringToBigInt "<nil>".toList = 0 ∧ stringToBigInt "-".toList = 0 ∧ stringToBigInt "+-5".toList = 0 ∧
    stringToBigInt "115792089237316195423570985008687907853269984665640564039457584007913129639936".toList
      = 2 ^ 256 := by
  repeat rw [String.toList_ofList]
  decide +kernel

/-- the general statement: the amount of a parsed block is `StringToBigInt` of the last amount text, which is 0
    whenever `SetString(s, 10)` fails — never an error -/
theorem json_amount_unparsable_is_zero (a : Aux) (b : Block) (h : finish a = .ok b) :
    b.body.amount = stringToBigInt a.amount.toList ∧
    (setString10 a.amount.toList = none → b.body.amount = 0) := by
  unfold finish at h
  split at h
  · cases h
  · split at h
    · cases h
    · cases h
      exact ⟨rfl, fun hn => by simp [stringToBigInt, hn]⟩

/-- a JSON number for the amount (or a string for a uint64 member) is a type error, `null` is a no-op -/
theorem json_amount_type_forms (cur : String) :
    decString (.num "5") cur = .error .typeMismatch ∧ decString .null cur = .ok cur ∧
    decU64 (.str "12") 3 = .error .typeMismatch ∧ decU64 .null 3 = .ok 3 ∧
    decU64 (.num "1.0") 3 = .error .badNumber ∧ decU64 (.num "1e2") 3 = .error .badNumber ∧
    decU64 (.num "-1") 3 = .error .badNumber ∧ decU64 (.num "18446744073709551616") 3 = .error .badNumber ∧
    decU64 (.num "18446744073709551615") 3 = .ok 18446744073709551615 := by
  simp [decString, decU64, parseU64, parseDigitsAux, two64]

/-- nil and empty byte slices marshal differently in Go (`null` vs `""`) yet are the same block bytes and parse to
    the same block: the JSON text is NOT a function of the block content (the model prints one form, the stream
    compares modulo null / "") -/
theorem json_nil_vs_empty_data (L : Leaves) (h : L.b64Parse "" = some []) :
    decBytes L .null = .ok [] ∧ decBytes L (.str "") = .ok [] ∧ (Json.null ≠ Json.str "") ∧
    b64Parse "" = some [] ∧ b64Text [] = "" := by
  refine ⟨rfl, by simp [decBytes, h], by simp, by decide, by decide⟩

/-- a `null` element of descendantBlocks is not an error of `UnmarshalJSON`: the result holds a nil pointer
    (outcome `nilDescendant`, not a block) -/
theorem json_null_descendant_not_a_block (L : Leaves) :
    unmBlocks L [.null] = .ok ([], true) ∧
    finish { auxZero with nonce := "0000000000000000", nilSeen := true } = .error .nilDescendant :=
  ⟨rfl, rfl⟩

/-- hash text: exactly 64 hex characters of either case; 63 / 65 characters or a 0x prefix are refused -/
theorem json_hash_forms :
    hexHashParse (String.ofList (List.replicate 64 'A')) = some (List.replicate 32 170) ∧
    hexHashParse (String.ofList (List.replicate 63 'a')) = none ∧
    hexHashParse (String.ofList (List.replicate 65 'a')) = none ∧
    hexHashParse (String.ofList ('0' :: 'x' :: List.replicate 62 'a')) = none := by
  simp only [hexHashParse, String.toList_ofList]
  decide

end ZV.C13Json

