import ZenonVerif.Lemmas.Accept
/-
C13, acceptance side (T2): what a node stores for a delivered account block is a function of the fields the hash covers and
of the node's state — except for the residue that is named here and nowhere else. Model: Model/Accept.lean
(`Supervisor.ApplyBlock` for a block that arrives from outside).
-/
namespace ZV.C13Accept
open ZV ZV.Codec ZV.Accept

/-! ## the tie: the assignments / reads of uncovered fields in the working tree are the ones the model was read from -/

theorem accept_assigns_current : Gen.acceptAssigns = reviewedAssigns := by rfl

theorem accept_uses_current : Gen.acceptUses = reviewedUses := by rfl

/-- on each path the fields ASSIGNED on the delivered object (outside `signFunc != nil`) are exactly the fields the model's
    table calls `recomputed` — a dropped or an added assignment breaks this -/
theorem assigned_fields_match_table :
    ∀ p ∈ [Path.user, Path.contractReceive], Gen.abStructFields.all (fun f =>
      (assignedOn p Gen.acceptAssigns).contains f == (treat p f == .recomputed)) = true := by decide +kernel

/-- the functions that READ an uncovered field of the delivered object, field by field: `ChangesHash` is read only inside
    the contract-receive case of `VM.applyBlock` (so never for a user block: F9), plasma fields only after `enoughPlasma`
    assigned them, key and signature only by the transaction verifier -/
theorem uncovered_reads_by_field :
    readIn "ChangesHash" Gen.acceptUses = ["VM.applyBlock"] ∧
    readIn "BasePlasma" Gen.acceptUses = ["enoughPlasma"] ∧
    readIn "TotalPlasma" Gen.acceptUses = ["enoughPlasma"] ∧
    readIn "PublicKey" Gen.acceptUses = ["accountBlockTransactionVerifier.signature", "accountBlockTransactionVerifier.producer"] ∧
    readIn "Signature" Gen.acceptUses = ["accountBlockTransactionVerifier.signature"] ∧
    readIn "Hash" Gen.acceptUses = ["Supervisor.packBlock", "VM.applyBlock", "accountBlockTransactionVerifier.signature",
      "accountBlockTransactionVerifier.hash"] := by decide +kernel

/-- every struct field has a treatment on both paths and the residue is exactly: `ChangesHash` (kept as delivered: known
    finding F9) and `Signature` (any signature the key holder makes verifies) of USER blocks; nothing for contract receives -/
theorem residue_is_exactly :
    residue .user = ["ChangesHash", "Signature"] ∧ residue .contractReceive = [] := by decide +kernel

/-- what the pool / ledger serialise of the accepted object (`AccountBlockTransaction.GetCommits` → `Serialize()` → `Proto()`,
    generated assignment list): every struct field the table does not call `notStored`, in struct order, on both paths — so
    equal stored objects are equal stored bytes and a field added to the struct without a treatment shows up here -/
theorem stored_fields_are_proto_fields :
    ∀ p ∈ [Path.user, Path.contractReceive],
      Gen.abStructFields.filter (fun f => treat p f != .notStored) = Gen.abProtoAssign.map (·.1) := by decide +kernel

/-! ## user blocks -/

/-- T2 for user blocks, `_partial`: two delivered variants with equal covered fields (what `C13.equal_hash_equal_covered`
    concludes from equal hashes) that the node accepts in the same state are stored with every field equal EXCEPT the residue
    `ChangesHash` (stored as delivered, never read: known finding F9) and `Signature` (every signature that verifies under the
    account's key is accepted; only the key holder can make one — `verifySig` is the Ed25519 oracle). The public key is pinned
    by the address (`pubKeyToAddress` without collision). Missing for the full strength: a comparison of `ChangesHash` with
    the computed changes on the non-signing path. -/
theorem stored_is_function_of_covered_fields_partial (e : Env)
    (hpk : ∀ p q, e.pubKeyToAddress p = e.pubKeyToAddress q → p = q)
    (b1 b2 s1 s2 : Block) (hcov : b1.strip = b2.strip) (hu : e.isEmbedded b1.body.address = false)
    (a1 : applyBlock e b1 = .ok s1) (a2 : applyBlock e b2 = .ok s2) :
    eraseResidue s1 = eraseResidue s2 := by
  have haddr : b1.body.address = b2.body.address :=
    show b1.body.strip.address = b2.body.strip.address by rw [← Block.strip_body, hcov, Block.strip_body]
  obtain ⟨r1, -, k1, -⟩ := applyBlock_user hu a1
  obtain ⟨r2, -, k2, -⟩ := applyBlock_user (haddr ▸ hu) a2
  rw [r1, r2, eraseResidue_userStored, eraseResidue_userStored, hcov, hpk b1.body.publicKey b2.body.publicKey (by rw [k1, k2, haddr])]

/-- The clause as the property states it: two USER blocks with the SAME HASH that one node accepts in one state are stored
    identically except the residue (`ChangesHash` = F9, `Signature` = key holder). Equal hashes give equal covered fields by
    `C13.equal_hash_equal_covered` (hash without collision on the inputs that arise, Go widths, amounts ≥ 0 as the verifier
    demands); that the `Hash` field is the computed hash is not assumed — the acceptance path checks it. That BOTH
    addresses are user addresses is assumed (`hu`, `hu2`). -/
theorem same_hash_accepted_user_blocks_stored_equal_partial (e : Env) (hHlen : ∀ x, (e.H x).length = Gen.HashSize)
    (S : Bytes → Prop) (hH : InjOn e.H S)
    (hpk : ∀ p q, e.pubKeyToAddress p = e.pubKeyToAddress q → p = q)
    (b1 b2 s1 s2 : Block) (hu : e.isEmbedded b1.body.address = false) (hu2 : e.isEmbedded b2.body.address = false)
    (i1 : ∀ x ∈ b1.hashInputs e.H, S x) (i2 : ∀ x ∈ b2.hashInputs e.H, S x)
    (w1 : b1.body.WF ∧ 0 ≤ b1.body.amount) (w2 : b2.body.WF ∧ 0 ≤ b2.body.amount)
    (hh : b1.body.hash = b2.body.hash)
    (a1 : applyBlock e b1 = .ok s1) (a2 : applyBlock e b2 = .ok s2) :
    eraseResidue s1 = eraseResidue s2 := by
  obtain ⟨_, d1, _, c1⟩ := applyBlock_user hu a1
  obtain ⟨_, d2, _, c2⟩ := applyBlock_user hu2 a2
  have hcov : b1.strip = b2.strip := by
    obtain ⟨x, dx⟩ := b1; obtain ⟨y, dy⟩ := b2
    simp only at d1 d2; subst d1; subst d2
    exact strip_eq_of_hash_eq e.H hHlen S hH _ _ i1 i2
      (by simp [Block.DeepWF, DeepWFList]; exact w1) (by simp [Block.DeepWF, DeepWFList]; exact w2)
      (by simp [Block.Consistent, ConsistentList]; exact c1) (by simp [Block.Consistent, ConsistentList]; exact c2) hh
  exact stored_is_function_of_covered_fields_partial e hpk b1 b2 s1 s2 hcov hu a1 a2

/-- a toy node: constant hash, every two-byte signature verifies, one embedded address -/
def toyEnv : Env where
  H := fun _ => List.replicate 32 1
  isEmbedded := fun a => a == [9]
  verifierOK := fun _ => true
  available := fun _ => 100
  powPlasma := fun _ => 0
  maxPlasma := 1000
  basePlasma := fun _ => 5
  applyOK := fun _ => true
  generate := fun _ => none
  verifySig := fun _ _ s => s.length == 2
  pubKeyToAddress := fun p => p
  descOK := fun _ => true

def toyBody : ABody :=
  { (default : ABody) with
    blockType := 2
    hash := List.replicate 32 1
    address := [7]
    publicKey := [7]
    signature := [1, 2]
    fusedPlasma := 10
    changesHash := [1] }

/-- what the toy node stores for a delivered block (body; `none` = refused) -/
def toyStored (b : Block) : Option ABody := (applyBlock toyEnv b).toOption.map (·.body)

/-- non-vacuity and negative witness in one: the toy node accepts two variants of one block that differ only in `ChangesHash`
    and stores them differently (F9) -/
theorem changes_hash_variant_stored_differently :
    toyStored ⟨toyBody, []⟩ = some { toyBody with basePlasma := 5, totalPlasma := 10 } ∧
    toyStored (alter ⟨toyBody, []⟩ (.changesHash [2])) = some { toyBody with basePlasma := 5, totalPlasma := 10, changesHash := [2] } ∧
    toyBody.strip = (alter ⟨toyBody, []⟩ (.changesHash [2])).body.strip := by decide

/-- the second residue: another signature that verifies (only the key holder can make one) is a second stored form -/
theorem second_signature_stored_differently :
    toyStored ⟨toyBody, []⟩ = some { toyBody with basePlasma := 5, totalPlasma := 10 } ∧
    toyStored (alter ⟨toyBody, []⟩ (.signature [3, 4])) = some { toyBody with basePlasma := 5, totalPlasma := 10, signature := [3, 4] } ∧
    toyBody.strip = (alter ⟨toyBody, []⟩ (.signature [3, 4])).body.strip := by decide

/-- per uncovered field of a USER block: an alteration is refused, or what is stored is the same — for `BasePlasma`,
    `TotalPlasma` (recomputed) and `PublicKey` (pinned by the address) in every field, for the residue `ChangesHash` and
    `Signature` in every other field -/
theorem uncovered_field_alterations_refused_or_normalised (e : Env)
    (hpk : ∀ p q, e.pubKeyToAddress p = e.pubKeyToAddress q → p = q)
    (b s : Block) (hu : e.isEmbedded b.body.address = false) (a : applyBlock e b = .ok s) (u : UField) :
    match applyBlock e (alter b u) with
    | .error _ => True
    | .ok s' => eraseResidue s' = eraseResidue s ∧ ((residue .user).contains u.name = false → s' = s) := by
  split
  · trivial
  · rename_i s' a'
    have hcov : (alter b u).strip = b.strip := by
      obtain ⟨x, dx⟩ := b
      cases u <;> rfl
    have haddr : (alter b u).body.address = b.body.address := by cases u <;> rfl
    refine ⟨stored_is_function_of_covered_fields_partial e hpk _ _ _ _ hcov (haddr ▸ hu) a' a, ?_⟩
    intro hres
    obtain ⟨r1, -, k1, -⟩ := applyBlock_user hu a
    obtain ⟨r2, -, k2, -⟩ := applyBlock_user (haddr ▸ hu) a'
    rw [r1, r2, hcov]
    cases u with
    | basePlasma v | totalPlasma v => rfl
    | publicKey v =>
      rw [show (alter b (.publicKey v)).body.publicKey = b.body.publicKey from hpk _ _ (by rw [k1, k2, haddr])]
      rfl
    | changesHash v | signature v =>
      rw [residue_is_exactly.1] at hres
      cases hres

/-! ## contract receives -/

/-- T2 for contract receives: what the node stores IS the block it regenerates from its own state — it depends on no
    delivered field beyond the covered ones that select the regeneration (`generate` reads `b.strip`). Hypotheses: the hash
    function has 32-byte digests and no collision on the inputs that arise (`S`), Go field widths, and the regenerated block
    is what `finalizeEmbedded` makes (its `Hash` is the computed hash, no key, no signature). -/
theorem contract_receive_stored_is_regenerated (e : Env) (hHlen : ∀ x, (e.H x).length = Gen.HashSize)
    (S : Bytes → Prop) (hH : InjOn e.H S) (b s g : Block)
    (he : e.isEmbedded b.body.address = true) (hg : e.generate b.strip = some g)
    (gh : g.body.hash = abComputeHash e.H g) (gk : g.body.publicKey = []) (gs : g.body.signature = [])
    (wb : b.body.WF) (wg : g.body.WF) (ab : 0 ≤ b.body.amount) (ag : 0 ≤ g.body.amount)
    (sS : S (abPreimage e.H s)) (sG : S (abPreimage e.H g)) (sd : S b.body.data) (sgd : S g.body.data)
    (a : applyBlock e b = .ok s) : s = g := by
  obtain ⟨g', hg', hch, hgh, hs, hsh, hpk, hsig⟩ := applyBlock_contract he a
  rw [hg] at hg'
  injection hg' with hg'
  subst hg'
  have hpre : abPreimage e.H s = abPreimage e.H g := hH _ _ sS sG (hsh.trans hgh.symm)
  have ws : s.body.WF := by rw [hs]; exact { wb with }
  have as : 0 ≤ s.body.amount := by rw [hs]; exact ab
  obtain ⟨hd, _, hdata⟩ := abPreimage_split e.H hHlen s g ws wg as ag hpre
  have hdata' : s.body.data = g.body.data := hH _ _ (by rw [hs]; exact sd) sgd hdata
  have hhash : s.body.hash = g.body.hash := by rw [hs, gh, hgh]
  -- `s` and `g` agree on the directly covered fields (`hd`), on data, hash and changes hash; key and signature are empty in
  -- both; plasma fields and descendants of `s` were copied from `g`
  obtain ⟨h1, h2, h3, h4, h5, h6, h7, h8, h9, h10, h11, h12, h13, h14⟩ := hd
  obtain ⟨gb, gd⟩ := g
  obtain ⟨bb, bd⟩ := b
  subst hs
  cases gb; cases bb
  simp_all

def toyGen : ABody :=
  { (default : ABody) with blockType := 5, hash := List.replicate 32 1, address := [9], changesHash := [4], basePlasma := 0, totalPlasma := 0 }

def toyEnvC : Env := { toyEnv with generate := fun _ => some ⟨toyGen, []⟩ }

def toyStoredC (b : Block) : Option (ABody × Nat) := (applyBlock toyEnvC b).toOption.map (fun s => (s.body, s.desc.length))

/-- non-vacuity of `contract_receive_stored_is_regenerated`'s acceptance hypothesis and the refusals around it: a toy node
    whose regenerated block is `toyGen` accepts the delivered copy with altered plasma fields and descendants, stores the
    regenerated values, and refuses a copy with a key or another changes hash -/
theorem contract_receive_variants_witness :
    toyStoredC ⟨{ toyGen with basePlasma := 7, totalPlasma := 9 }, [⟨toyGen, []⟩]⟩ = some (toyGen, 0) ∧
    toyStoredC ⟨{ toyGen with publicKey := [1] }, []⟩ = none ∧
    toyStoredC ⟨{ toyGen with signature := [1] }, []⟩ = none ∧
    toyStoredC ⟨{ toyGen with changesHash := [5] }, []⟩ = none := by decide

end ZV.C13Accept
