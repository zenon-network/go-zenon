import ZenonVerif.Lemmas.Sync
/-
C16 — sync adopts only verified, strictly longer chains within the rollback window.
Property theorems only, over the line-by-line model of `chainBridge.InsertChain` (Model/Sync.lean).
`valid` is the verification oracle (C03/C05 own what it stands for); every theorem holds for every oracle.
-/
namespace ZV.C16
open ZV ZV.Proto ZV.Sync

/-- the decisive lines of `InsertChain` as they stand in the working tree (AST facts): the window constant
    and both comparison operators, the offset of every index returned out of the insert loop, the order of
    the tests — the emptiness test first, `target == nil` before the first use of `target` (264f72a) — the
    first `return` being `0, nil`, and that `RollbackTo` is called before the loop. The model uses
    `Gen.InsertChainWindow`; the operators `>` / `<=` are the ones written in `insertSuffix`. -/
theorem insertChain_shape_in_code :
    Gen.InsertChainWindow = 30 ∧ Gen.InsertChainWindowOp = ">" ∧ Gen.InsertChainLongerOp = "<=" ∧
    Gen.InsertChainLoopReturnIndex = ["index + start", "index + start", "index + start", "index + start"] ∧
    Gen.InsertChainIfConds = ["len(momentums) == 0", "err != nil", "our == nil",
      "our.Hash != momentums[start].Momentum.Hash",
      "start == len(momentums)", "err != nil", "head.Previous() != ourFrontier.Identifier()", "err != nil",
      "target == nil", "target.Identifier() != head.Previous()", "ourFrontier.Height-target.Height > 30",
      "tail.Height <= ourFrontier.Height", "err != nil", "block.BlockType == nom.BlockTypeContractSend",
      "patch != nil", "err != nil", "err != nil", "err != nil", "err != nil"] ∧
    Gen.InsertChainReturns.head? = some "0 / nil" ∧
    Gen.InsertChainReturns.length = 15 ∧
    Gen.InsertChainRollbackBeforeApplyLoop = true :=
  ⟨rfl, rfl, rfl, rfl, rfl, rfl, rfl, rfl⟩

/-- the node state `n` of the model is the chain the node has AT INSERTION TIME: in the working tree `InsertChain` takes the
    chain's insert lock (`c.chain.AcquireInsert`), releases it by a deferred `Unlock`, and reads NOTHING from the node — no call on
    the receiver `c` (chain, consensus, supervisor) or on a value obtained from such a call (a frontier store taken early is a
    snapshot of the chain as it was BEFORE the wait for the lock) — before the lock is held (AST facts). A delivery that waits for
    the lock while the pillar or another import extends the chain is therefore judged (known prefix, strictly longer, window of
    `InsertChainWindow`) against the frontier it finds when it is inserted; the stream delivers such batches (deliveries that wait
    for the lock while the chain grows, `locked-*` lines) and replays them through `insertChain` on the grown node. -/
theorem insertChain_reads_under_lock :
    Gen.InsertChainLockAcquired = true ∧ Gen.InsertChainUnlockDeferred = true ∧
    Gen.InsertChainNodeReadsBeforeLock = [] :=
  ⟨rfl, rfl, rfl⟩

/-- T1 `adopt_conditions`: if the chain after the call is not an extension of the chain before, then the
    delivered suffix (what is left after the known prefix) starts one above an own momentum `target` whose
    hash it names as previous, `target` lies at most `InsertChainWindow` = 30 below the old frontier, and
    the height claimed by the last delivered momentum is strictly greater than the old frontier's. -/
theorem adopt_conditions (valid : DM → Bool) (n : Node) (ms : List DM) (hwf : n.WF)
    (hleave : ¬ (n.chain <+: (insertChain valid n ms).1.chain)) :
    ∃ head more target, dropKnown n ms = head :: more ∧ target ∈ n.chain ∧
      head.prev = target.hash ∧ head.height = target.height + 1 ∧
      n.frontier.height - target.height ≤ Gen.InsertChainWindow ∧
      n.frontier.height < ((head :: more).getLastD head).height := by
  rcases insertChain_cases valid n ms with ⟨o, he, _⟩ | ⟨h, he, hh⟩
  · rw [he] at hleave; exact absurd (List.prefix_refl _) hleave
  · obtain ⟨new, h1, _⟩ := applyLoop_spec valid (dropKnown n ms) (n.rollbackTo h) (ms.length - (dropKnown n ms).length)
    rw [he, applyLoop_chain h1] at hleave
    rcases hh with rfl | ⟨head, more, target, hd, hb, hid, hfar, hlong, rfl⟩
    · -- no rollback: the loop only appends
      rw [rollbackTo_frontier] at hleave; exact absurd (List.prefix_append _ _) hleave
    · obtain ⟨hh, hp⟩ := Prod.mk.inj hid
      obtain ⟨_, _, hle⟩ := byHeight_wf hwf hb
      have hbound := hwf.bound
      refine ⟨head, more, target, hd, byHeight_mem hb, hh.symm, ?_, ?_, hlong⟩
      · -- height 0 would name height 2^64-1, which a well-formed node does not hold
        rw [hp]; exact pred64_small rfl (by omega)
      · unfold sub64 at hfar
        split at hfar <;> omega

/-- T1, second half: when the call succeeds and the node has left its chain, the new frontier is the last
    delivered momentum and it is strictly higher than the old frontier. (On a verification error after
    the rollback this is false — see `rollback_before_verification`.) -/
theorem adopt_longer_on_success (valid : DM → Bool) (n : Node) (ms : List DM)
    (hok : (insertChain valid n ms).2.2 = .ok)
    (hleave : ¬ (n.chain <+: (insertChain valid n ms).1.chain)) :
    n.frontier.height < (insertChain valid n ms).1.frontier.height := by
  rcases insertChain_cases valid n ms with ⟨o, he, _⟩ | ⟨h, he, hh⟩
  · rw [he] at hleave; exact absurd (List.prefix_refl _) hleave
  · obtain ⟨new, h1, _, h3⟩ := applyLoop_spec valid (dropKnown n ms) (n.rollbackTo h) (ms.length - (dropKnown n ms).length)
    rw [he] at hok hleave ⊢
    rcases hh with rfl | ⟨head, more, target, hd, _, _, _, hlong, rfl⟩
    · rw [applyLoop_chain h1, rollbackTo_frontier] at hleave; exact absurd (List.prefix_append _ _) hleave
    · rcases h3 with ⟨_, hnew⟩ | ⟨o, _⟩
      · -- everything was applied: the frontier is the last delivered momentum
        rw [h1, hnew, hd, frontier_append_cons]; exact hlong
      · rw [o] at hok; cases hok

/-- T2 `only_verified`: whatever is delivered, the chain after the call is a non-empty prefix of the old
    chain followed by `new`, where `new` is an initial segment of the delivered suffix (same order, nothing
    skipped), every element of `new` passed the verification oracle, and — for a well-formed node with room
    below 2^64 — the resulting node is well-formed again, i.e. each new momentum names the one below it as
    previous and sits one above it: it was verified on the chain it extends. -/
theorem only_verified (valid : DM → Bool) (n : Node) (ms : List DM) :
    (∃ k new, 1 ≤ k ∧ (insertChain valid n ms).1.chain = n.chain.take k ++ new ∧
        new <+: dropKnown n ms ∧ ∀ d ∈ new, valid d = true) ∧
    (n.WF → n.chain.length + ms.length + 1 < two64 → (insertChain valid n ms).1.WF) := by
  rcases insertChain_cases valid n ms with ⟨o, he, _⟩ | ⟨h, he, _⟩
  · rw [he]
    exact ⟨⟨n.chain.length, [], by rw [chain_length]; omega, by simp, List.nil_prefix, by simp⟩, fun h _ => h⟩
  · obtain ⟨new, h1, h2, h3⟩ := applyLoop_spec valid (dropKnown n ms) (n.rollbackTo h) (ms.length - (dropKnown n ms).length)
    rw [he]
    refine ⟨⟨max h 1, new, by omega, by rw [applyLoop_chain h1, rollbackTo_chain], ?_, h2⟩, fun hwf hroom => ?_⟩
    · rcases h3 with ⟨_, hn⟩ | ⟨_, d, r, hn, _⟩ <;> rw [hn]
      · exact List.prefix_refl _
      · exact List.prefix_append _ _
    · have := dropKnown_length_le n ms
      have := rollbackTo_length_le n h
      exact applyLoop_wf valid _ _ _ (rollbackTo_wf hwf h) (by omega)

/-- T3 `failure_index`: on a verification error the batch splits as
    `known ++ new ++ d :: rest'` — `known` the skipped momentums the node already holds, `new` the
    momentums applied by this call (all passed the oracle), `d` the first momentum that does not apply on
    the node as it now stands — the returned index is the position of `d` in the ORIGINAL batch, and the
    node holds exactly a prefix of its old chain followed by `new`. -/
theorem failure_index (valid : DM → Bool) (n : Node) (ms : List DM)
    (herr : (insertChain valid n ms).2.2 = .errVerify) :
    ∃ known new d rest', ms = known ++ new ++ d :: rest' ∧ (∀ x ∈ known, n.held x = true) ∧
      new ++ d :: rest' = dropKnown n ms ∧
      (insertChain valid n ms).2.1 = known.length + new.length ∧
      (∀ x ∈ new, valid x = true) ∧ applies valid (insertChain valid n ms).1 d = false ∧
      ∃ k, 1 ≤ k ∧ (insertChain valid n ms).1.chain = n.chain.take k ++ new := by
  obtain ⟨known, hk1, hk2⟩ := dropKnown_split n ms
  have hstart : ms.length - (dropKnown n ms).length = known.length := by
    have := congrArg List.length hk1
    rw [List.length_append] at this
    omega
  rcases insertChain_cases valid n ms with ⟨o, he, _, ho, _⟩ | ⟨h, he, _⟩
  · rw [he] at herr; exact absurd herr ho
  · obtain ⟨new, h1, h2, h3⟩ := applyLoop_spec valid (dropKnown n ms) (n.rollbackTo h) (ms.length - (dropKnown n ms).length)
    rw [he] at herr ⊢
    rcases h3 with ⟨o, _⟩ | ⟨hidx, d, r, hn, hna⟩
    · rw [o] at herr; cases herr
    · exact ⟨known, new, d, r, by rw [List.append_assoc, ← hn]; exact hk1, hk2, hn.symm, by rw [hidx, hstart], h2, hna,
        max h 1, by omega, by rw [applyLoop_chain h1, rollbackTo_chain]⟩

/-- T4 `idempotent_on_known`: a batch of momentums the node already holds — the empty batch included —
    returns (0, nil) and leaves the node exactly as it was. -/
theorem idempotent_on_known (valid : DM → Bool) (n : Node) (ms : List DM)
    (hall : ∀ d ∈ ms, n.held d = true) : insertChain valid n ms = (n, 0, .ok) := by
  rw [insertChain_eq, ← List.append_nil ms, dropKnown_append n _ [] hall]
  rfl

/-- T4, overlap: a known prefix in front of a batch changes nothing but the offset of a reported failure
    index: same resulting node, same outcome, index + |known| on a verification error. (Also when nothing
    follows the known prefix: both sides are then (node, 0, nil).) -/
theorem overlap_skips_known (valid : DM → Bool) (n : Node) (known rest : List DM)
    (hall : ∀ d ∈ known, n.held d = true) :
    insertChain valid n (known ++ rest) = shiftIdx known.length (insertChain valid n rest) := by
  rw [insertChain_eq, insertChain_eq, dropKnown_append n known rest hall]
  have hle := dropKnown_length_le n rest
  have : (known ++ rest).length - (dropKnown n rest).length
       = known.length + (rest.length - (dropKnown n rest).length) := by
    rw [List.length_append]; omega
  rw [this]
  exact insertSuffix_shift valid known.length n _ _

/-- T5 `insert_total`: no panic — for every verification oracle, every node (well-formed or not) and every
    batch: empty, starting above frontier + 1, claiming height 0 or 1, anything. No premise. -/
theorem insert_total (valid : DM → Bool) (n : Node) (ms : List DM) :
    (insertChain valid n ms).2.2 ≠ .panic := by
  rcases insertChain_cases valid n ms with ⟨o, he, _, _, hp⟩ | ⟨h, he, _⟩
  · rw [he]; exact hp
  · rw [he]; exact applyLoop_ne_panic valid _ _ _

/-- T5, the empty batch (it used to panic on `momentums[0]`; F7c, repaired in 264f72a): (0, nil), node
    untouched — on every node. -/
theorem insert_empty (valid : DM → Bool) (n : Node) : insertChain valid n [] = (n, 0, .ok) := rfl

/-- T5, the batches that used to dereference a nil `target` (F7c): when the first momentum the node does not
    hold claims height 0, height 1 (then its hash is not the genesis hash, or it would have been skipped) or a
    height of frontier + 2 and above, the call returns index 0 with the link error and the node is exactly
    as it was — whatever follows in the batch and whatever the oracle says. -/
theorem insert_unlinkable_refused (valid : DM → Bool) (n : Node) (ms : List DM) (hwf : n.WF) (head : DM)
    (more : List DM) (hd : dropKnown n ms = head :: more)
    (hh : head.height ≤ 1 ∨ n.frontier.height + 2 ≤ head.height) :
    insertChain valid n ms = (n, 0, .errLink) := by
  have hf := wf_frontier_height hwf
  have hb := hwf.bound
  have hcl := chain_length n
  -- no own momentum sits at the height the head names as its previous
  have hnone : n.byHeight (pred64 head.height) = none := by
    cases hbh : n.byHeight (pred64 head.height) with
    | none => rfl
    | some t =>
      have hw := byHeight_wf hwf hbh
      have := pred64_small (h := head.height) rfl (by omega)
      omega
  -- nor can the head name the frontier
  have hne : head.prevId ≠ n.frontier.id := fun hl => by
    have h2 : pred64 head.height = n.frontier.height := (Prod.mk.inj hl).2
    have := pred64_small h2 (by omega)
    omega
  rw [insertChain_eq, hd]
  simp only [insertSuffix, if_pos hne, hnone]

/-- every refusal that is not a verification error (link, too far, not longer) leaves the node exactly as it
    was and reports index 0. -/
theorem refused_unchanged (valid : DM → Bool) (n : Node) (ms : List DM)
    (h1 : (insertChain valid n ms).2.2 ≠ .ok) (h2 : (insertChain valid n ms).2.2 ≠ .errVerify) :
    (insertChain valid n ms).1 = n ∧ (insertChain valid n ms).2.1 = 0 := by
  rcases insertChain_cases valid n ms with ⟨o, he, _⟩ | ⟨h, he, _⟩
  · rw [he]; exact ⟨rfl, rfl⟩
  · obtain ⟨_, _, _, h3⟩ := applyLoop_spec valid (dropKnown n ms) (n.rollbackTo h) (ms.length - (dropKnown n ms).length)
    rw [he] at h1 h2
    rcases h3 with ⟨o, _⟩ | ⟨o, _⟩ <;> rw [o] at h1 h2
    · exact absurd rfl h1
    · exact absurd rfl h2

/-- T5 on the node [g(1), a(2)], the batches that dereference a nil `target` or index an empty slice before 264f72a
    (F7c): a batch that starts above frontier + 1, a head claiming height 0, and a head claiming height 1 with a hash
    other than genesis are all refused with the link error, index 0, node unchanged; the empty batch is a no-op. -/
theorem insert_former_counterexamples :
    let n : Node := { genesis := ⟨1, 10, 0, 1⟩, rest := [⟨2, 20, 10, 1⟩] }
    insertChain (fun _ => true) n [⟨4, 40, 30, 1⟩] = (n, 0, .errLink) ∧
    insertChain (fun _ => true) n [⟨0, 50, 20, 1⟩] = (n, 0, .errLink) ∧
    insertChain (fun _ => true) n [⟨1, 99, 0, 1⟩] = (n, 0, .errLink) ∧
    insertChain (fun _ => true) n [] = (n, 0, .ok) := by decide

/-- negative witness for "leaves its chain only for a verified, strictly longer chain": the rollback is
    done before anything is verified. Node [g(1), a(2), b(3), c(4)]; the batch is a side chain off `g`
    whose head fails verification and whose tail merely claims height 9: the call returns index 0 with a
    verification error and the node is left with its genesis only. -/
theorem rollback_before_verification :
    let n : Node := { genesis := ⟨1, 10, 0, 1⟩, rest := [⟨2, 20, 10, 1⟩, ⟨3, 30, 20, 1⟩, ⟨4, 40, 30, 1⟩] }
    insertChain (fun _ => false) n [⟨2, 21, 10, 0⟩, ⟨9, 91, 81, 0⟩] = ({ n with rest := [] }, 0, .errVerify) := by
  decide

/-! ### hypotheses are satisfiable / the model moves -/

/-- a clean extension by two momentums, then a longer side chain off height 2 replaces them -/
example :
    let n : Node := { genesis := ⟨1, 10, 0, 1⟩, rest := [⟨2, 20, 10, 1⟩] }
    let r := insertChain (fun _ => true) n [⟨3, 30, 20, 1⟩, ⟨4, 40, 30, 1⟩]
    r = ({ n with rest := [⟨2, 20, 10, 1⟩, ⟨3, 30, 20, 1⟩, ⟨4, 40, 30, 1⟩] }, 0, .ok) ∧
    insertChain (fun _ => true) r.1 [⟨2, 20, 10, 1⟩, ⟨3, 31, 20, 1⟩, ⟨4, 41, 31, 1⟩, ⟨5, 51, 41, 1⟩] =
      ({ n with rest := [⟨2, 20, 10, 1⟩, ⟨3, 31, 20, 1⟩, ⟨4, 41, 31, 1⟩, ⟨5, 51, 41, 1⟩] }, 0, .ok) := by decide

/-- a failure in the middle, with a known prefix in front: index 3 = position in the original batch -/
example :
    let n : Node := { genesis := ⟨1, 10, 0, 1⟩, rest := [⟨2, 20, 10, 1⟩] }
    insertChain (fun d => d.body == 1) n [⟨1, 10, 0, 1⟩, ⟨2, 20, 10, 1⟩, ⟨3, 30, 20, 1⟩, ⟨4, 40, 30, 0⟩, ⟨5, 50, 40, 1⟩] =
      ({ n with rest := [⟨2, 20, 10, 1⟩, ⟨3, 30, 20, 1⟩] }, 3, .errVerify) := by decide

/-- equal height is refused, one more is taken; 31 below the frontier is refused -/
example :
    let n : Node := { genesis := ⟨1, 10, 0, 1⟩, rest := [⟨2, 20, 10, 1⟩, ⟨3, 30, 20, 1⟩] }
    (insertChain (fun _ => true) n [⟨2, 21, 10, 1⟩, ⟨3, 31, 21, 1⟩]).2.2 = .errNotLonger ∧
    (insertChain (fun _ => true) n [⟨2, 21, 10, 1⟩, ⟨3, 31, 21, 1⟩, ⟨4, 41, 31, 1⟩]).2.2 = .ok := by decide

/-- the example nodes are well-formed -/
example : ({ genesis := ⟨1, 10, 0, 1⟩, rest := [⟨2, 20, 10, 1⟩, ⟨3, 30, 20, 1⟩] } : Node).WF :=
  ⟨rfl, by simp [Node.chain, Linked], by simp [Node.chain]; decide⟩

end ZV.C16
