import ZenonVerif.Lemmas.RewardEpoch
import ZenonVerif.Props.C11
import ZenonVerif.Props.C11Node
import ZenonVerif.Props.C11Points
/-
C11 — END TO END: the reward computation of every contract composed with the epoch cursor and the deposits
(Model/RewardEpoch.lean). Property theorems only.

Per epoch and contract: what ONE `compute…ForEpoch` call credits (summed over all accounts) is within that epoch's
emission for the contract, for every contract storage. Over a run: the epochs rewarded are exactly cursor₀+1 … cursor,
each once, and everything credited (and everything minted by CollectReward) is within the emission summed over exactly
those epochs.

Premises that remain hypotheses (`Premises`, `ConsOK`, `StoreOK`) — all of them are about INPUTS of the reward code:
  * `epochSec < 2^63`: the epoch length is an int64 number of seconds (so `endTime - startTime` does not wrap);
  * `0 < mpe`: constants.MomentumsPerEpoch is positive;
  * pillar only, consensus facts of the epoch statistics (C05): produced ≤ expected per pillar, weights ≥ 0,
    Σ weights ≤ TotalWeight (a THEOREM for a statistics object built by `Points.compound`: `weights_premise_of_point`),
    Σ expected ≤ MomentumsPerEpoch, and the delegation record being a Go map (distinct pillar names);
  * pillar only, storage: PillarInfo entries have distinct names (the storage key is the hash of the name).
Nothing is assumed about stake / sentinel / liquidity storage: weights are parts of the total because the total is
computed from the same entries in the same call; the liquidity bound is the contract's own ErrInvalidRewards guard.
-/
namespace ZV.C11Epoch
open ZV ZV.Rewards ZV.EpochCursor ZV.RewardEpoch

/-! ### one epoch -/

/-- the emissions of the three tables the stake, sentinel and liquidity contracts read, for every epoch (`C11.emission_tables`) -/
private theorem emissions_nonneg (e : Nat) :
    ∃ T Sz Sq Lz Lq, stakeQsrRewardPerEpoch e = some T ∧ sentinelRewardForEpoch e = some (Sz, Sq) ∧
      liquidityRewardForEpoch e = some (Lz, Lq) ∧ 0 ≤ T ∧ 0 ≤ Sz ∧ 0 ≤ Sq ∧ 0 ≤ Lz ∧ 0 ≤ Lq := by
  obtain ⟨_, _, _, _, Sz, Sq, Lz, Lq, T, _, _, _, hS, hL, hT, _, _, hSz, hSq, hLz, hLq, hT0, _, _⟩ := C11.emission_tables e
  exact ⟨T, Sz, Sq, Lz, Lq, hT, hS, hL, hT0, hSz, hSq, hLz, hLq⟩

/-- stake: the QSR credited by one epoch's computation, over all entries, is at most `StakeQsrRewardPerEpoch(e)`; no ZNN -/
theorem stake_epoch_within_emission (rc : RCfg) (cons : Cons) (st : Store) (e : Nat) (o : EpochOut)
    (hdur : rc.c.epochSec < (two63 : Int)) (h : updateEpoch .stake rc cons st e = some o) :
    ∃ T, stakeQsrRewardPerEpoch e = some T ∧ sumZ o.credits = 0 ∧ (sumQ o.credits : Int) ≤ T ∧
      o.mint = (0, 0) ∧ o.burn = (0, 0) := by
  obtain ⟨T, _, _, _, _, hT, _, _, hT0, _⟩ := emissions_nonneg e
  obtain ⟨_, ic, t1, t2, hic, hm, hb⟩ := updateEpoch_some h
  obtain ⟨s1, s2⟩ := stake_sum rc.c hdur st.stakes e T hT0 hT ic hic
  exact ⟨T, hT, Int.natCast_eq_zero.mp (t1.trans s1), t2 ▸ s2, hm, hb⟩

/-- sentinel: both coins within `SentinelRewardForEpoch(e)` -/
theorem sentinel_epoch_within_emission (rc : RCfg) (cons : Cons) (st : Store) (e : Nat) (o : EpochOut)
    (h : updateEpoch .sentinel rc cons st e = some o) :
    ∃ Tz Tq, sentinelRewardForEpoch e = some (Tz, Tq) ∧ (sumZ o.credits : Int) ≤ Tz ∧ (sumQ o.credits : Int) ≤ Tq ∧
      o.mint = (0, 0) ∧ o.burn = (0, 0) := by
  obtain ⟨_, Tz, Tq, _, _, _, hT, _, _, hz, hq, _⟩ := emissions_nonneg e
  obtain ⟨_, ic, t1, t2, hic, hm, hb⟩ := updateEpoch_some h
  obtain ⟨s1, s2⟩ := sentinel_sum rc.c st.sentinels e Tz Tq hz hq hT ic hic
  exact ⟨Tz, Tq, hT, t1 ▸ s1, t2 ▸ s2, hm, hb⟩

/-- liquidity (bridge&liquidity spork onwards): credits + the remainder minted to the contract are EXACTLY the epoch's
    `LiquidityRewardForEpoch(e)` plus the additional reward burned from the contract's own balance in the same block
    (net issuance of the epoch = the emission), the remainder is not negative, and what is burned is covered by the
    balance. Holds for every storage (token tuples, percentages, entries): the method checks it itself
    (ErrInvalidRewards resets the call). -/
theorem liquidity_epoch_within_emission (rc : RCfg) (cons : Cons) (st : Store) (e : Nat) (o : EpochOut)
    (h : updateEpoch .liqStake rc cons st e = some o) :
    ∃ Tz Tq, liquidityRewardForEpoch e = some (Tz, Tq) ∧
      (sumZ o.credits : Int) + o.mint.1 = Tz + (o.burn.1 : Int) ∧ (sumQ o.credits : Int) + o.mint.2 = Tq + (o.burn.2 : Int) ∧
      0 ≤ o.mint.1 ∧ 0 ≤ o.mint.2 ∧ o.burn.1 ≤ st.liq.balZnn ∧ o.burn.2 ≤ st.liq.balQsr := by
  obtain ⟨_, _, _, Tz, Tq, _, _, hT, _, _, _, hz, hq⟩ := emissions_nonneg e
  obtain ⟨_, _, t1, t2, lo, hlo, rfl, hm, hb⟩ := updateEpoch_some h
  obtain ⟨s1, s2, s3, s4, s5, s6⟩ := liq_stake_sum rc.c st.liq e Tz Tq hT hz hq lo hlo
  rw [hm, hb, t1, t2]
  exact ⟨Tz, Tq, hT, s1, s2, s3, s4, s5, s6⟩

/-- liquidity below the spork (origin / accelerator tables): nothing is credited, the epoch's amount is minted to the contract -/
theorem liquidity_origin_epoch (rc : RCfg) (cons : Cons) (st : Store) (e : Nat) (o : EpochOut)
    (h : updateEpoch .liqOrigin rc cons st e = some o) :
    ∃ Tz Tq, liquidityRewardForEpoch e = some (Tz, Tq) ∧ o.credits = [] ∧ o.mint = (Tz, Tq) ∧ o.burn = (0, 0) ∧ 0 ≤ Tz ∧ 0 ≤ Tq := by
  obtain ⟨_, _, _, Tz, Tq, _, _, hT, _, _, _, hz, hq⟩ := emissions_nonneg e
  unfold updateEpoch at h
  simp only [liqOriginOut, hT] at h
  obtain ⟨cs, hcs, rfl⟩ := Option.map_eq_some_iff.mp h
  cases hcs
  exact ⟨Tz, Tq, hT, rfl, rfl, rfl, hz, hq⟩

/-! ### the pillar contract -/

/-- regenerated tables: the delegation and the producing share of every table entry are computed without overflow
    and are not negative (finite check over the whole table) -/
theorem pillar_shares_ok :
    (Gen.NetworkZnnRewardConfig.all fun n =>
      match pctOf n Gen.DelegationZnnRewardPercentage, pctOf n Gen.MomentumProducingZnnRewardPercentage with
      | some a, some b => decide (0 ≤ a ∧ 0 ≤ b ∧ a + b ≤ n)
      | _, _ => false) = true := by decide

/-- `PillarRewardPerMomentum` for ANY positive number of momentums per epoch: defined, not negative, and a whole epoch
    of it, `(delegation + producing) · MomentumsPerEpoch` (= `emission .pillar`), is within the pillars' 24% + 50% of the
    epoch's network emission -/
theorem pillar_emission_le_network_share (mpe : Int) (hm : 0 < mpe) (e : Nat) :
    ∃ n d p, networkZnnRewardPerEpoch e = some n ∧ pillarPerMomentum mpe e = some (d, p) ∧ 0 ≤ d ∧ 0 ≤ p ∧
      (d + p) * mpe ≤ n := by
  obtain ⟨_, _, hzne, _, hR⟩ := C11.tables_ok
  obtain ⟨n, hnm, hnl⟩ := network_mem Gen.NetworkZnnRewardConfig e hzne hR
  have hall := List.all_eq_true.mp pillar_shares_ok n hnm
  split at hall
  · rename_i a b ha hb
    obtain ⟨ha0, hb0, hab⟩ := of_decide_eq_true hall
    obtain ⟨d, hd, hd0, hdm⟩ := div64_pos a mpe ha0 (pctOf_lt ha) hm
    obtain ⟨p, hp, hp0, hpm⟩ := div64_pos b mpe hb0 (pctOf_lt hb) hm
    refine ⟨n, d, p, hnl, ?_, hd0, hp0, ?_⟩
    · simp [pillarPerMomentum, show networkZnnRewardPerEpoch e = some n from hnl, ha, hb, hd, hp]
    · rw [Int.add_mul]; omega
  · cases hall

/-- pillar: the ZNN credited by one epoch's `computeDetailedPillarReward` — to the pillars' reward addresses and to all
    backers — is at most `(delegation + producing per momentum) · MomentumsPerEpoch`; no QSR. -/
theorem pillar_epoch_within_emission (rc : RCfg) (cons : Cons) (st : Store) (e : Nat) (o : EpochOut)
    (hm : 0 < rc.mpe) (hm63 : rc.mpe < (two63 : Int)) (hstore : (st.pillars.map (fun i => i.name)).Nodup)
    (hcons : ConsOK rc.mpe (cons.stats e) (cons.delegs e))
    (h : updateEpoch .pillar rc cons st e = some o) :
    ∃ d p, pillarPerMomentum rc.mpe e = some (d, p) ∧ (sumZ o.credits : Int) ≤ (d + p) * rc.mpe ∧ sumQ o.credits = 0 ∧
      o.mint = (0, 0) ∧ o.burn = (0, 0) := by
  obtain ⟨n, d, p, _, hdp, hd, hp, _⟩ := pillar_emission_le_network_share rc.mpe hm e
  obtain ⟨_, ic, t1, t2, hic, hmint, hburn⟩ := updateEpoch_some h
  obtain ⟨s1, s2⟩ := pillar_sum_le_totals rc.mpe d p hd hp st.pillars hstore _ _ hcons e hdp ic hic
  -- the raw rewards of the epoch's pillars against the emission
  obtain ⟨hpe, hw, hsumw, hW, hslots⟩ := hcons.stats
  have hE : (((cons.stats e).pillars.map (·.2)).map (·.expected)).sum < two64 :=
    Int.ofNat_lt.mp (Int.lt_of_le_of_lt hslots (Int.lt_trans hm63 (by decide)))
  have b1 := C11.pillar_epoch_bound d p _ _ hd hp hW hpe hw hsumw hE
  have b2 := Int.mul_le_mul_of_nonneg_left hslots (Int.add_nonneg hd hp)
  exact ⟨d, p, hdp, t1 ▸ Int.le_trans s2 (Int.le_trans b1 b2), Int.natCast_eq_zero.mp (t2.trans s1), hmint, hburn⟩

/-! ### every contract, one statement -/

/-- the premises, bundled (see the head of the file) -/
structure Premises (k : Kind) (rc : RCfg) (cons : Cons) : Prop where
  dur : rc.c.epochSec < (two63 : Int)
  mpe_pos : 0 < rc.mpe
  mpe_int64 : rc.mpe < (two63 : Int)
  cons_ok : k = .pillar → ∀ e, ConsOK rc.mpe (cons.stats e) (cons.delegs e)

/-- storage premise: PillarInfo entries have distinct names (pillar contract only) -/
def StoreOK (k : Kind) (st : Store) : Prop := k = .pillar → (st.pillars.map (fun i => i.name)).Nodup

/-- "epoch `e`'s computation stayed within the emission": credited to all accounts plus minted to the contract itself,
    minus what was burned from the contract's balance, per coin -/
def Within (k : Kind) (mpe : Int) (e : Nat) (o : EpochOut) : Prop :=
  ∃ Ez Eq, emission k mpe e = some (Ez, Eq) ∧
    (sumZ o.credits : Int) + o.mint.1 ≤ Ez + (o.burn.1 : Int) ∧ (sumQ o.credits : Int) + o.mint.2 ≤ Eq + (o.burn.2 : Int) ∧
    0 ≤ o.mint.1 ∧ 0 ≤ o.mint.2

/-- for EVERY contract and EVERY storage: one epoch's computation is within that contract's emission of the epoch -/
theorem epoch_within_emission (k : Kind) (rc : RCfg) (cons : Cons) (st : Store) (e : Nat) (o : EpochOut)
    (hp : Premises k rc cons) (hs : StoreOK k st) (h : updateEpoch k rc cons st e = some o) : Within k rc.mpe e o := by
  cases k with
  | stake =>
    obtain ⟨T, hT, h1, h2, h3, h4⟩ := stake_epoch_within_emission rc cons st e o hp.dur h
    refine ⟨0, T, by simp [emission, hT], ?_, ?_, ?_, ?_⟩ <;> simp [h1, h3, h4, h2]
  | sentinel =>
    obtain ⟨Tz, Tq, hT, h1, h2, h3, h4⟩ := sentinel_epoch_within_emission rc cons st e o h
    refine ⟨Tz, Tq, by simp [emission, hT], ?_, ?_, ?_, ?_⟩ <;> simp [h3, h4, h1, h2]
  | pillar =>
    obtain ⟨d, p, hdp, h1, h2, h3, h4⟩ := pillar_epoch_within_emission rc cons st e o hp.mpe_pos hp.mpe_int64 (hs rfl)
      (hp.cons_ok rfl e) h
    refine ⟨(d + p) * rc.mpe, 0, by simp [emission, hdp], ?_, ?_, ?_, ?_⟩ <;> simp [h2, h3, h4, h1]
  | liqOrigin =>
    obtain ⟨Tz, Tq, hT, h1, h2, h3, hz, hq⟩ := liquidity_origin_epoch rc cons st e o h
    refine ⟨Tz, Tq, by simp [emission, hT], ?_, ?_, ?_, ?_⟩ <;> simp [h1, h2, h3, sumZ, sumQ, hz, hq]
  | liqStake =>
    obtain ⟨Tz, Tq, hT, h1, h2, h3, h4, _, _⟩ := liquidity_epoch_within_emission rc cons st e o h
    exact ⟨Tz, Tq, by simp [emission, hT], by omega, by omega, h3, h4⟩

/-! ### runs -/

/-- the emission of a list of epochs, per coin -/
def emissionSum (k : Kind) (mpe : Int) : List Int → Int × Int
  | [] => (0, 0)
  | e :: es => (((emission k mpe e.toNat).getD (0, 0)).1 + (emissionSum k mpe es).1,
                ((emission k mpe e.toNat).getD (0, 0)).2 + (emissionSum k mpe es).2)

/-- net issuance to the contract itself (liquidity): minted to it minus burned from its balance -/
def netToContract : List (Int × EpochOut) → Int × Int
  | [] => (0, 0)
  | x :: xs => (x.2.mint.1 - (x.2.burn.1 : Int) + (netToContract xs).1, x.2.mint.2 - (x.2.burn.2 : Int) + (netToContract xs).2)

private theorem within_sum (k : Kind) (mpe : Int) : ∀ outs : List (Int × EpochOut),
    (∀ x ∈ outs, Within k mpe x.1.toNat x.2) →
    (sumZ (creditsOf outs) : Int) + (netToContract outs).1 ≤ (emissionSum k mpe (outs.map (·.1))).1 ∧
    (sumQ (creditsOf outs) : Int) + (netToContract outs).2 ≤ (emissionSum k mpe (outs.map (·.1))).2
  | [], _ => by simp [creditsOf, sumZ, sumQ, netToContract, emissionSum]
  | x :: outs, h => by
    obtain ⟨i1, i2⟩ := within_sum k mpe outs (fun y hy => h y (by simp [hy]))
    obtain ⟨Ez, Eq, hE, w1, w2, _, _⟩ := h x (by simp)
    simp only [creditsOf, sumZ, sumQ, List.flatMap_cons, List.map_append, List.sum_append, List.map_cons, emissionSum,
      netToContract, hE, Option.getD_some, Int.natCast_add] at i1 i2 w1 w2 ⊢
    omega

/-- THE END-TO-END STATEMENT. For every contract, every initial storage and cursor, every sequence of Update /
    CollectReward calls and arbitrary changes of the contract's entries in between, every chain of timestamps:
      * everything credited to all accounts over the run (plus the net issuance to the liquidity contract itself) is,
        per coin, at most the protocol emission summed over EXACTLY the epochs rewarded in the run;
      * those epochs are strictly increasing (no epoch twice), all after the initial cursor and up to the final one;
      * unless the contract runs the origin-table liquidity method (F14), they are exactly cursor₀+1 … cursor: no gaps. -/
theorem total_credited_le_total_emission (k : Kind) (rc : RCfg) (cons : Cons) (hp : Premises k rc cons)
    (s : RState) (ops : List ROp) (hs : StoreOK k s.store) (hm : ∀ st, ROp.mutate st ∈ ops → StoreOK k st) :
    (sumZ (allCredits (run k rc cons s ops).2) : Int) + (netToContract (epochOuts (run k rc cons s ops).2)).1 ≤
      (emissionSum k rc.mpe (rewardedEpochs (run k rc cons s ops).2)).1 ∧
    (sumQ (allCredits (run k rc cons s ops).2) : Int) + (netToContract (epochOuts (run k rc cons s ops).2)).2 ≤
      (emissionSum k rc.mpe (rewardedEpochs (run k rc cons s ops).2)).2 ∧
    (rewardedEpochs (run k rc cons s ops).2).Pairwise (· < ·) ∧
    (∀ e ∈ rewardedEpochs (run k rc cons s ops).2, s.cs.cursor < e ∧ e ≤ (run k rc cons s ops).1.cs.cursor) ∧
    (k ≠ .liqOrigin → ∃ n : Nat, (run k rc cons s ops).1.cs.cursor = s.cs.cursor + n ∧
      rewardedEpochs (run k rc cons s ops).2 = consecutive s.cs.cursor n) := by
  -- `StoreOK` speaks of the registered pillars only, which no reward computation changes
  have hall := run_computed k rc cons (StoreOK k) (fun st e o hi hu hk => (updateEpoch_some hu).1 ▸ hi hk) ops s hs hm
  obtain ⟨w1, w2⟩ := within_sum k rc.mpe _ (fun x hx =>
    have ⟨st0, h0, hu⟩ := hall x hx
    epoch_within_emission k rc cons st0 x.1.toNat x.2 hp h0 hu)
  obtain ⟨l1, l2, _, _⟩ := lower_run k rc cons ops s
  have o := C11Node.rewarded_once_in_order rc.c (variantOf k) s.cs (lower k rc cons s ops)
  rw [l1, l2] at o
  refine ⟨w1, w2, o.1, o.2.1, fun hk => ?_⟩
  have hv : variantOf k ≠ .liqOrigin := by cases k <;> simp [variantOf] at hk ⊢
  have n := C11Node.rewarded_exactly_once rc.c (variantOf k) hv s.cs (lower k rc cons s ops)
  rwa [l1, l2] at n

/-- the origin-table liquidity method: the bound holds all the same, only "no gaps" is lost (known finding F14:
    `C11Node.epoch_cursor_liq_origin_partial`, witness `C11Node.liq_origin_skips_epoch`) — the skipped epoch is never
    minted, so less than the emission is issued -/
theorem total_credited_liq_origin_partial (rc : RCfg) (cons : Cons) (hp : Premises .liqOrigin rc cons) (s : RState) (ops : List ROp) :
    (netToContract (epochOuts (run .liqOrigin rc cons s ops).2)).1 ≤ (emissionSum .liqOrigin rc.mpe (rewardedEpochs (run .liqOrigin rc cons s ops).2)).1 ∧
    (rewardedEpochs (run .liqOrigin rc cons s ops).2).Pairwise (· < ·) := by
  have h := total_credited_le_total_emission .liqOrigin rc cons hp s ops (fun hk => by cases hk) (fun _ _ hk => by cases hk)
  refine ⟨?_, h.2.2.1⟩
  have := h.1
  omega

/-! ### collecting -/

/-- conservation per account over any run: minted to `a` + still collectable by `a` = collectable at the start +
    credited to `a` by the reward computations (composition of the simulation with `C11Node.deposit_conservation`) -/
theorem minted_eq_credited (k : Kind) (rc : RCfg) (cons : Cons) (s : RState) (ops : List ROp) (a : Addr) :
    mintedTo a (run k rc cons s ops).2 + (run k rc cons s ops).1.cs.dep a =
      s.cs.dep a + creditedTo a (allCredits (run k rc cons s ops).2) := by
  obtain ⟨l1, _, l3, l4⟩ := lower_run k rc cons ops s
  have h := C11Node.deposit_conservation rc.c (variantOf k) s.cs (lower k rc cons s ops) a
  rw [l1, l3 a, l4 a] at h
  exact h

/-- CollectReward never mints more than was credited: from empty deposits, per account and coin -/
theorem minted_le_credited (k : Kind) (rc : RCfg) (cons : Cons) (s : RState) (ops : List ROp) (a : Addr)
    (h0 : s.cs.dep a = Coins.zero) :
    (mintedTo a (run k rc cons s ops).2).znn ≤ (creditedTo a (allCredits (run k rc cons s ops).2)).znn ∧
    (mintedTo a (run k rc cons s ops).2).qsr ≤ (creditedTo a (allCredits (run k rc cons s ops).2)).qsr := by
  have h := minted_eq_credited k rc cons s ops a
  rw [h0, Coins.zero_add'] at h
  exact ⟨Nat.le.intro (congrArg Coins.znn h), Nat.le.intro (congrArg Coins.qsr h)⟩

/-- … and exactly what was credited once the account's deposit is empty again, which is the case right after its
    CollectReward (`collect_empties`) -/
theorem minted_eq_credited_when_collected (k : Kind) (rc : RCfg) (cons : Cons) (s : RState) (ops : List ROp) (a : Addr)
    (hcol : (run k rc cons s ops).1.cs.dep a = Coins.zero) :
    mintedTo a (run k rc cons s ops).2 = s.cs.dep a + creditedTo a (allCredits (run k rc cons s ops).2) := by
  have h := minted_eq_credited k rc cons s ops a
  rw [hcol, Coins.add_zero'] at h
  exact h

/-- after a CollectReward call of `a` — granted or refused — `a`'s deposit is empty -/
theorem collect_empties (k : Kind) (rc : RCfg) (cons : Cons) (s : RState) (a : Addr) :
    (RewardEpoch.step k rc cons s (.collect a)).1.cs.dep a = Coins.zero := by
  cases hc : collect s.cs a with
  | none =>
    simp only [RewardEpoch.step, hc]
    exact (C11Node.collect_refused_iff_empty s.cs a).mp hc
  | some r =>
    obtain ⟨ms, cs'⟩ := r
    simp only [RewardEpoch.step, hc]
    exact (C11Node.collect_once s.cs cs' a ms hc).2.2.2.1

/-- distinct accounts share the credits: what a list of credits gives to any set of distinct accounts is at most its
    total, for either coin `π` -/
private theorem creditedTo_sum_le (π : Coins → Nat) (h0 : π Coins.zero = 0) (hadd : ∀ a b, π (a + b) = π a + π b)
    (l : List Addr) (hnd : l.Nodup) : ∀ cs : List Credit,
    (l.map (fun a => (π (creditedTo a cs) : Int))).sum ≤ (cs.map (fun x => (π x.2 : Int))).sum
  | [] => by
    simp only [creditedTo, List.foldr_nil, h0, Int.natCast_zero, sum_map_zero, List.map_nil, List.sum_nil]
    exact Int.le_refl 0
  | x :: cs => by
    have ih := creditedTo_sum_le π h0 hadd l hnd cs
    have e : l.map (fun a => (π (creditedTo a (x :: cs)) : Int)) =
        l.map (fun a => (if a = x.1 then (π x.2 : Int) else 0) + (π (creditedTo a cs) : Int)) := by
      apply List.map_congr_left
      intro a _
      simp only [creditedTo, List.foldr_cons, hadd, Int.natCast_add]
      by_cases hx : a = x.1
      · rw [if_pos hx, if_pos hx.symm]
      · rw [if_neg hx, if_neg (fun h => hx h.symm), h0]; rfl
    have := sum_ite_le (fun a : Addr => a) x.1 (π x.2 : Int) (fun _ => 0) (Int.natCast_nonneg _) (fun _ => Int.le_refl 0)
      l (by simpa using hnd)
    rw [e, sum_map_add]
    simp only [List.map_cons, List.sum_cons, sum_map_zero] at this ⊢
    omega

/-- everything minted by CollectReward to ANY set of distinct accounts over a run that starts with empty deposits is,
    per coin, within the emission of exactly the epochs rewarded in the run (stake, sentinel, pillar: nothing is
    minted to the contract itself) -/
theorem total_minted_le_total_emission (k : Kind) (rc : RCfg) (cons : Cons) (hp : Premises k rc cons)
    (s : RState) (ops : List ROp) (hs : StoreOK k s.store) (hm : ∀ st, ROp.mutate st ∈ ops → StoreOK k st)
    (accounts : List Addr) (hnd : accounts.Nodup) (h0 : ∀ a ∈ accounts, s.cs.dep a = Coins.zero) :
    ((accounts.map (fun a => (mintedTo a (run k rc cons s ops).2).znn)).sum : Int) +
        (netToContract (epochOuts (run k rc cons s ops).2)).1 ≤
      (emissionSum k rc.mpe (rewardedEpochs (run k rc cons s ops).2)).1 ∧
    ((accounts.map (fun a => (mintedTo a (run k rc cons s ops).2).qsr)).sum : Int) +
        (netToContract (epochOuts (run k rc cons s ops).2)).2 ≤
      (emissionSum k rc.mpe (rewardedEpochs (run k rc cons s ops).2)).2 := by
  obtain ⟨t1, t2, _⟩ := total_credited_le_total_emission k rc cons hp s ops hs hm
  have mz := sum_map_le (fun a => ((mintedTo a (run k rc cons s ops).2).znn : Int))
    (fun a => ((creditedTo a (allCredits (run k rc cons s ops).2)).znn : Int)) accounts
    (fun a ha => Int.ofNat_le.mpr (minted_le_credited k rc cons s ops a (h0 a ha)).1)
  have mq := sum_map_le (fun a => ((mintedTo a (run k rc cons s ops).2).qsr : Int))
    (fun a => ((creditedTo a (allCredits (run k rc cons s ops).2)).qsr : Int)) accounts
    (fun a ha => Int.ofNat_le.mpr (minted_le_credited k rc cons s ops a (h0 a ha)).2)
  have cz := creditedTo_sum_le Coins.znn rfl (fun _ _ => rfl) accounts hnd (allCredits (run k rc cons s ops).2)
  have cq := creditedTo_sum_le Coins.qsr rfl (fun _ _ => rfl) accounts hnd (allCredits (run k rc cons s ops).2)
  simp only [sumZ, sumQ, natCast_sum_map] at t1 t2 ⊢
  constructor <;> omega

/-! ### "a function of the chain alone": order independence -/

/-- the effect of a list of `addReward` calls on any account depends only on the multiset of calls -/
theorem deposit_effect_order_independent (a : Addr) {cs cs' : List Credit} (h : cs.Perm cs') :
    creditedTo a cs = creditedTo a cs' :=
  h.foldr_eq' (fun _ _ _ _ _ => Coins.ext' (Nat.add_left_comm ..) (Nat.add_left_comm ..)) _

/-- stake entries: the storage iteration order does not matter. The cumulated
    weight is a sum and every entry's share is computed from its own weight and that sum, so a permuted entry list
    yields the permuted credit list (hence the same deposits: `deposit_effect_order_independent`); the `match` says
    that the two computations fail together (the constants panic) or both succeed with permuted lists. -/
theorem credited_order_independent (c : Cfg) (e : Nat) {es es' : List StakeEntry} (h : es.Perm es') :
    match stakeCredits c es e, stakeCredits c es' e with
    | some x, some y => x.Perm y
    | none, none => True
    | _, _ => False := by
  unfold stakeCredits
  cases stakeQsrRewardPerEpoch e with
  | none => trivial
  | some T =>
    simp only
    have hs : (es.map (stakeW c e)).sum = (es'.map (stakeW c e)).sum := sum_perm (h.map _)
    rw [hs]
    by_cases h0 : (es'.map (stakeW c e)).sum = 0
    · simp [h0]
    · simp only [h0, if_false]
      exact h.map _

/-- the two Go `range`s over maps in the reward code (`range pillarDetail.Backers`, and `range details`, each iteration
    of which only calls addReward): the backers' credits of a pillar for a permuted backer list are the permuted
    credits — `backersAmount` is a sum, each share depends on the backer's own amount and that sum -/
theorem backer_credits_order_independent (infos : List PillarInfo) (name : String) (tb : Int)
    {bs bs' : List (Addr × Nat)} (h : bs.Perm bs') :
    (backerCredits infos name tb bs).Perm (backerCredits infos name tb bs') := by
  unfold backerCredits
  simp only
  have hs : (bs.map (fun b => (b.2 : Int))).sum = (bs'.map (fun b => (b.2 : Int))).sum := sum_perm (h.map _)
  rw [hs]
  split
  · exact List.Perm.refl _
  · exact h.map _

/-! ### premises: what is a theorem elsewhere, what the bound really needs -/

/-- the statistics object consensus/api.go `EpochStats` builds from an epoch point -/
def statsOfPoint (names : Nat → String) (pt : Points.Point) : EpochStats :=
  ⟨pt.pillars.map (fun x => (names x.1, ⟨x.2.factual, x.2.expected, (x.2.weight : Int)⟩)), (pt.total : Int)⟩

/-- premise `weights_le_total` (and `weight_nonneg`) is a THEOREM when the statistics come from an epoch point built by
    `Points.compound` (the aggregation `generatePointFromLower`): `C11Points.epoch_point_total` -/
theorem weights_premise_of_point (names : Nat → String) (lowers : List Points.Point) :
    ((statsOfPoint names (Points.compound lowers)).pillars.map (fun x => x.2.weight)).sum ≤
      (statsOfPoint names (Points.compound lowers)).totalWeight ∧
    ∀ x ∈ (statsOfPoint names (Points.compound lowers)).pillars, 0 ≤ x.2.weight := by
  refine ⟨?_, List.forall_mem_map.mpr fun _ _ => Int.natCast_nonneg _⟩
  unfold statsOfPoint
  simp only [List.map_map, Function.comp_def, C11Points.epoch_point_total lowers, natCast_sum_map]
  exact Int.le_refl _

/-- premise `expected_le_slots` reduces to the period points: an epoch of `k` period points each expecting at most `n`
    momentums expects at most `k·n` (`C11Points.epoch_point_expects_once`) -/
theorem expected_premise_of_point (names : Nat → String) (lowers : List Points.Point) (n : Nat)
    (h : ∀ l ∈ lowers, Points.sumExpected l.pillars ≤ n) :
    ((statsOfPoint names (Points.compound lowers)).pillars.map (fun x => x.2.expected)).sum ≤ lowers.length * n := by
  have e : ((statsOfPoint names (Points.compound lowers)).pillars.map (fun x => x.2.expected)).sum =
      Points.sumExpected (Points.compound lowers).pillars := by
    unfold statsOfPoint Points.sumExpected
    simp [List.map_map, Function.comp_def]
  rw [e, C11Points.epoch_point_expects_once]
  exact sum_map_le_length_mul _ n lowers h

/-- negative witness: the premise "the delegation record is a map (distinct pillar names)" is NECESSARY — a record
    naming the same pillar twice pays its backers' part twice and the epoch exceeds the emission -/
theorem pillar_bound_needs_distinct_delegation_names :
    ∃ (infos : List PillarInfo) (st : EpochStats) (dl : Delegs) (ic : List ICredit),
      pillarCredits 1 infos st dl 0 = some ic ∧
      (∀ x ∈ st.pillars, x.2.produced ≤ x.2.expected) ∧ (st.pillars.map (fun x => x.2.weight)).sum ≤ st.totalWeight ∧
      ¬ (dl.map (fun x => x.1)).Nodup ∧
      ∃ d p, pillarPerMomentum 1 0 = some (d, p) ∧ ¬ isumZ ic ≤ (d + p) * 1 :=
  ⟨[⟨"p", "w", 100, 100⟩], ⟨[("p", ⟨1, 1, 1⟩)], 1⟩, [("p", [("b", 1)]), ("p", [("b", 1)])], _, rfl,
    by decide, by decide, by decide, _, _, rfl, by decide⟩

/-! ### non-vacuity -/

/-- two stake entries, the second one cancelled in the middle of epoch 0 of a 100-second-epoch chain: the epoch's QSR
    is split 2:1, the cancelled entry is deleted -/
example :
    let c : Cfg := ⟨0, 100, 0, 1, 20, by decide⟩
    let es : List StakeEntry := [⟨"a", -50, 0, 10⟩, ⟨"b", -50, 50, 10⟩]
    (stakeCredits c es 0).map (fun l => l.map (fun x => x.2.2)) = some [666666666666, 333333333333] ∧
      stakeAfter c es 0 = [⟨"a", -50, 0, 10⟩] := by decide

/-- a pillar that produced 1 of 2 expected momentums, gives 50% / 100%, three backers leaving truncation remainders;
    hypotheses of `pillar_epoch_within_emission` hold for it -/
example :
    let infos : List PillarInfo := [⟨"p", "w", 50, 100⟩]
    let st : EpochStats := ⟨[("p", ⟨1, 2, 7⟩)], 7⟩
    let dl : Delegs := [("p", [("x", 1), ("y", 1), ("z", 1)])]
    ConsOK 2 st dl ∧ (infos.map (fun i => i.name)).Nodup ∧ (pillarCredits 2 infos st dl 0).isSome = true :=
  ⟨⟨by decide, by decide, by decide, by decide, by decide⟩, by decide, by decide⟩

example : Premises .stake (RCfg.live 0) ⟨fun _ => ⟨[], 0⟩, fun _ => []⟩ :=
  ⟨by decide, by decide, by decide, fun h => by cases h⟩

end ZV.C11Epoch
