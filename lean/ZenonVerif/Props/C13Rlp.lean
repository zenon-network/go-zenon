import ZenonVerif.Model.CodecRLPTyped
import ZenonVerif.Lemmas.Codec
import ZenonVerif.Lemmas.CodecRLP
/-
C13 T3, RLP: the typed layer of the decoder (go-ethereum reflection over `nom.AccountBlock`) is the inverse of the typed
encoder on every block the Go types can hold.
-/
namespace ZV.C13Rlp
open ZV ZV.Codec

private theorem rU64_rNat (n : Nat) (h : n < two64) : rU64 (rNat n) = some n := by
  simp [rU64, rNat, natBytesBE_length_le8 n h, natBytesBE_head?_ne n, beVal_natBytesBE]

private theorem rBig_rNat (a : Int) (h : 0 ≤ a) : rBig (rNat a.toNat) = some a := by
  have := Int.toNat_of_nonneg h
  simp [rBig, rNat, natBytesBE_head?_ne, beVal_natBytesBE, this]

private theorem unrlpBody_rlpOfBody (b : ABody) (w : b.RlpWF) (desc : List RItem) :
    ∃ items, rlpOfBody b desc = .list items ∧ unrlpBody items = some (b, .list desc) := by
  obtain ⟨⟨w1, w2, w3, w4, w5, w6, ⟨w7a, w7b⟩, w8, w9, w10, w11, w12, w13, w14⟩, wa, wb, wt, wc⟩ := w
  exact ⟨_, rfl, by simp [unrlpBody, rU64_rNat, rBig_rNat, rArr, rBytes, rHashHeight, rNonce, *]⟩

/-- T3 (typed RLP layer): decoding the item tree of a block gives the block back — every field, descendants recursively, for
    every fuel that covers the nesting (`Block.rlpFuel`). Hypothesis = what the Go types hold: uint64 ranges, array widths,
    amount ≥ 0 (a negative amount has no RLP form: `C13.rlp_refuses_negative_amount`). -/
theorem rlp_typed_roundtrip_block (b : Block) : b.RlpWF → ∀ f, b.rlpFuel ≤ f → unrlpBlock f (rlpOfBlock b) = some b := by
  induction b using Block.rec (motive_2 := fun ds => RlpWFList ds → ∀ f, rlpFuelList ds ≤ f →
      unrlpBlocks f (rlpOfBlocks ds) = some ds) with
  | mk body ds ih =>
    intro w f hf
    simp only [Block.RlpWF] at w
    simp only [Block.rlpFuel] at hf
    obtain ⟨f', rfl⟩ : ∃ f', f = f' + 1 := ⟨f - 1, by omega⟩
    obtain ⟨items, hx, hb⟩ := unrlpBody_rlpOfBody body w.1 (rlpOfBlocks ds)
    simp only [rlpOfBlock, hx, unrlpBlock, hb, ih w.2 f' (by omega), Option.map_some]
  | nil =>
    rename_i f _
    cases f <;> simp [rlpOfBlocks, unrlpBlocks]
  | cons d ds ihd ihds =>
    rename_i w f hf
    simp only [RlpWFList] at w
    simp only [rlpFuelList] at hf
    obtain ⟨f', rfl⟩ : ∃ f', f = f' + 1 := ⟨f - 1, by omega⟩
    simp only [rlpOfBlocks, unrlpBlocks, ihd w.1 f' (by omega), ihds w.2 f' (by omega)]

/-- bytes level, `_partial`: with the generic round trip (`C13.rlp_roundtrip_partial`) the real entry point
    `rlp.DecodeBytes(rlp.EncodeToBytes(b))` returns `b`. Missing: the fuel bound `b.rlpFuel ≤ 2·len + 2` is a hypothesis (true:
    every block takes more than one byte; not proved here — on the stream the driver runs with exactly this fuel). -/
theorem rlp_typed_roundtrip_bytes_partial (b : Block) (w : b.RlpWF) (data : Bytes) (he : rlpBlock b = some data)
    (hlen : data.length < two64) (hfuel : b.rlpFuel ≤ 2 * data.length + 2) : rlpDecodeBlock data = some b := by
  unfold rlpBlock at he
  split at he
  · injection he with he
    subst he
    simp only [rlpDecodeBlock, rlpDec_rlpEnc (rlpOfBlock b) hlen]
    exact rlp_typed_roundtrip_block b w _ hfuel
  · cases he

/-- what the typed layer refuses (each is an error of go-ethereum): a uint64 with a leading zero or of 9 bytes (the empty
    string IS accepted, as 0), a big integer with a leading zero, a hash of 31 bytes or given as a list, a nonce struct with two
    members, a block with no member at all, a string in place of the block -/
theorem rlp_typed_refusals :
    rU64 (.str [0, 1]) = none ∧ rU64 (.str [1, 0, 0, 0, 0, 0, 0, 0, 0]) = none ∧ rU64 (.str []) = some 0 ∧
    rBig (.str [0]) = none ∧ rArr 32 (.str (List.replicate 31 7)) = none ∧ rArr 32 (.list []) = none ∧
    rNonce (.list [.str (List.replicate 8 1), .str []]) = none ∧
    unrlpBlock 5 (.list []) = none ∧ unrlpBlock 5 (.str []) = none := by decide

def wfBody : ABody :=
  { (default : ABody) with
    hash := List.replicate 32 0
    previousHash := List.replicate 32 0
    momentumAcknowledged := ⟨List.replicate 32 0, 0⟩
    address := List.replicate 20 0
    toAddress := List.replicate 20 0
    tokenStandard := List.replicate 10 0
    fromBlockHash := List.replicate 32 0
    nonce := List.replicate 8 0
    changesHash := List.replicate 32 0
    amount := 5 }

example : (⟨wfBody, [⟨wfBody, []⟩]⟩ : Block).RlpWF := by
  have hb : wfBody.RlpWF :=
    ⟨⟨by decide, by decide, by decide, by decide, by decide, by decide, ⟨by decide, by decide⟩, by decide, by decide,
      by decide, by decide, by decide, by decide, by decide⟩, by decide, by decide, by decide, by decide⟩
  simp only [Block.RlpWF, RlpWFList, and_true]
  exact ⟨hb, hb⟩

end ZV.C13Rlp
