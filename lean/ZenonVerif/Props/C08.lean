import ZenonVerif.Model.Crash
/-
C08 — committing or rolling back a momentum is atomic across a crash.
-/
namespace ZV.C08
open ZV ZV.Kv ZV.Versioned ZV.Crash

theorem foldl_front (p : Patch) (s : Ldb) :
    (frontWrites p).foldl applyW s = { s with frontier := edApply s.frontier p } := by
  rw [frontWrites, List.foldl_map]
  refine List.foldl_hom (fun r => { s with frontier := r }) (g₁ := edApplyOp) fun r o => ?_
  cases o <;> rfl

/-- the single batch of a commit takes the disk exactly to the state the manager model reaches -/
theorem add_plan_effect (s s' : Ldb) (prev id : Id) (ops : Patch)
    (hp : prev = s.frontierId) (h : s.add prev id ops = some s') :
    ∃ b, planAdd s prev id ops = [b] ∧ applyBatch s b = s' := by
  subst hp
  unfold Ldb.add at h
  unfold planAdd
  cases hv : s.get s.frontierId with
  | none => simp [hv] at h
  | some view =>
    simp only [hv, if_true] at h ⊢
    refine ⟨_, rfl, ?_⟩
    simp only [applyBatch, List.foldl_cons, applyW, putH]
    rw [foldl_front]
    cases h
    rfl

/-- the single batch of a rollback takes the disk exactly to the state the manager model reaches -/
theorem pop_plan_effect (s s' : Ldb) (h : s.pop = some s') :
    ∃ b, planPop s = [b] ∧ applyBatch s b = s' := by
  unfold Ldb.pop at h
  unfold planPop
  cases hr : lookupH s.rollbacks s.frontierId.height with
  | none => simp [hr] at h
  | some rb =>
    simp only [hr] at h ⊢
    refine ⟨_, rfl, ?_⟩
    simp only [applyBatch, List.foldl_append, List.foldl_cons, List.foldl_nil, applyW, putH]
    rw [foldl_front]
    cases h
    rfl

/-- a plan of ONE batch: after any number of completed writes the disk is the state before or the state after it -/
private theorem single_batch_atomic (s : Ldb) (b : Batch) (k : Nat) :
    afterWrites s [b] k = s ∨ afterWrites s [b] k = applyBatch s b := by
  cases k with
  | zero => exact Or.inl rfl
  | succ n => exact Or.inr (by simp [afterWrites])

/-- T1 `crash_atomic`: whatever number k of the operation's leveldb writes completed before the process died,
    the disk is exactly the state before or exactly the state after the commit. -/
theorem crash_atomic_add (s s' : Ldb) (prev id : Id) (ops : Patch)
    (hp : prev = s.frontierId) (h : s.add prev id ops = some s') (k : Nat) :
    afterWrites s (planAdd s prev id ops) k = s ∨ afterWrites s (planAdd s prev id ops) k = s' := by
  obtain ⟨b, hb, he⟩ := add_plan_effect s s' prev id ops hp h
  rw [hb, ← he]; exact single_batch_atomic s b k

theorem crash_atomic_pop (s s' : Ldb) (h : s.pop = some s') (k : Nat) :
    afterWrites s (planPop s) k = s ∨ afterWrites s (planPop s) k = s' := by
  obtain ⟨b, hb, he⟩ := pop_plan_effect s s' h
  rw [hb, ← he]; exact single_batch_atomic s b k

/-- a commit on a stale parent issues no write at all -/
theorem stale_add_writes_nothing (s : Ldb) (prev id : Id) (ops : Patch) (hp : prev ≠ s.frontierId) :
    planAdd s prev id ops = [] := by
  unfold planAdd
  cases s.get prev <;> simp [hp]

/-- T2 `redeliver_after_crash`: a crash state that is not the after-state is the before-state (T1), from which
    re-issuing the same commit reaches the after-state. -/
theorem redeliver_after_crash (s s' : Ldb) (prev id : Id) (ops : Patch)
    (hp : prev = s.frontierId) (h : s.add prev id ops = some s') (k : Nat)
    (hk : afterWrites s (planAdd s prev id ops) k ≠ s') :
    (afterWrites s (planAdd s prev id ops) k).add prev id ops = some s' := by
  rcases crash_atomic_add s s' prev id ops hp h k with h1 | h1
  · rw [h1]; exact h
  · exact absurd h1 hk

/-- scenario for the negative witness: a commit touching two keys on the empty store -/
def twoKey : Ldb × Patch := (Ldb.empty, [Op.put [3] [1], Op.put [4] [2]])

/-- the plan of that commit with every write as its own leveldb call, as the code issued it before the fix of F6 -/
def twoKeyPlan : List Batch := splitPlan (planAdd twoKey.1 Id.zero ⟨1, [9]⟩ twoKey.2)

/-- N1 (negative witness, finding F6): if every write of the plan is its own leveldb call, a process death after the
    third write leaves a disk that is neither the state before nor after. -/
theorem split_plan_not_atomic :
    afterWrites twoKey.1 twoKeyPlan 3 ≠ twoKey.1 ∧
    some (afterWrites twoKey.1 twoKeyPlan 3) ≠ twoKey.1.add Id.zero ⟨1, [9]⟩ twoKey.2 ∧
    some (afterWrites twoKey.1 twoKeyPlan twoKeyPlan.length) = twoKey.1.add Id.zero ⟨1, [9]⟩ twoKey.2 := by
  decide +kernel

-- the hypothesis `s.add prev id ops = some s'` of the theorems above can be met
example : (Ldb.empty.add Id.zero ⟨1, [9]⟩ [Op.put [3] [1]]).isSome = true := by decide

end ZV.C08
