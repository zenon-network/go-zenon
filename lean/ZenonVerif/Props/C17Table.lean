import ZenonVerif.Lemmas.Spork
/-
C17 — the gate table: every (contract, method) pair's availability in every spork regime is fixed by a REVIEWED table
(Model/Spork.lean `introducedBy`: method ↦ the spork that introduces it) and the regenerated tables of the real
GetEmbeddedMethod (Gen/Spork.lean, all 8 regimes) are proved to be exactly what the reviewed table says. A method that
leaks into an earlier table, a method a spork forgets to switch on, a method that appears without review: each breaks
`tables_exact` / `method_names_reviewed`. Property theorems only. (F17, cited below, is the finding of that number in
the findings table of DESIGN.md and in known_findings.json.)
-/
namespace ZV.C17Table
open ZV.Spork

/-- every method the real GetEmbeddedMethod resolves in at least one regime has a reviewed entry, in the same
    (sorted) order, and there is no entry without such a method -/
theorem method_names_reviewed : Gen.methodNames = introducedBy.map (·.1) := rfl

/-- the reference the stream's model-free monitors decide by (harness/cmd/zvh/s_spork_gate.go sporkGateTable and
    sporkReceiveGated, printed into Gen/ on every run) is this reviewed table -/
theorem harness_tables_are_the_reviewed_ones :
    Gen.harnessGateTable = introducedBy ∧ Gen.harnessReceiveGated = receiveGated := ⟨rfl, rfl⟩

/-- a reviewed owner is one of: genesis (0), accelerator (1), bridge&liquidity (2), htlc (3) -/
theorem owners_in_range : ∀ e ∈ introducedBy, e.2 ≤ 3 := by decide +kernel

/-- owner of the method with index `i` of the generated name list -/
def ownerIdx (i : Nat) : Nat := ((introducedBy.map (·.2))[i]?).getD 4

/-- T-table: for EVERY regime (all 8 combinations of enforced sporks) and EVERY method, the real
    GetEmbeddedMethod resolves the method iff the spork that introduces it is at or below the regime's level, the level
    being the last enforced spork in the order accelerator < bridge&liquidity < htlc. In particular nothing a spork
    introduces - a new contract's method or a method added to a contract that already exists - is in the table of a
    regime below that spork's level. -/
theorem tables_exact :
    ∀ r ∈ List.range 8, ∀ i ∈ List.range Gen.methodNames.length,
      available r i = decide (ownerIdx i ≤ levelOfRegime r) := by
  simp only [available_eq_testBit]
  decide +kernel

/-- … and no row of the generated table names a method outside the name list -/
theorem tables_rows_in_range : ∀ row ∈ Gen.methodTable, row.1 < 8 ∧ row.2.1 < Gen.methodNames.length := by
  decide +kernel

/-- T-gate: along the activation order accelerator → bridge&liquidity → htlc (regimes 0, 1, 3, 7:
    the enforced sporks are downward closed) the level rule IS the property: a method is available exactly when the
    spork that introduces it is enforced -/
theorem gate_exact_in_order :
    ∀ r ∈ [0, 1, 3, 7], ∀ k ∈ List.range 4,
      decide (k ≤ levelOfRegime r) = sporkOn k (regimeAcc r) (regimeBridge r) (regimeHtlc r) := by
  decide +kernel

/-- T-F17 (the structure of finding F17 made explicit, all 8 regimes): a method is available iff its
    own spork OR a spork later in the order is enforced. The part "a later spork is enforced, its own is not" is the
    whole of F17 at send time; nothing else is available below its own spork. -/
theorem f17_inclusion (acc bridge htlc : Bool) (k : Nat) (hk : k ≤ 3) :
    decide (k ≤ level acc bridge htlc) =
      (sporkOn k acc bridge htlc || (decide (k < 1) || (decide (k < 2) && bridge) || (decide (k < 3) && htlc))) := by
  revert acc bridge htlc k
  decide

/-- the regimes in which the level rule and the property differ are exactly the out-of-order ones (2, 4, 5, 6), and
    there it only ever ADDS methods (negative witness for the full-strength statement: liquidity.Fund, an accelerator
    feature, is available with only the bridge&liquidity spork enforced) -/
theorem f17_only_out_of_order :
    (∀ r ∈ List.range 8, ∀ k ∈ List.range 4,
      sporkOn k (regimeAcc r) (regimeBridge r) (regimeHtlc r) = true → k ≤ levelOfRegime r) ∧
    (∀ r ∈ List.range 8, (∃ k ∈ List.range 4, k ≤ levelOfRegime r ∧
      sporkOn k (regimeAcc r) (regimeBridge r) (regimeHtlc r) = false) ↔ r ∈ [2, 4, 5, 6]) ∧
    availableSpec false true false "liquidity.Fund" = some true := by
  decide +kernel

/-- T-recv: for the methods whose receive body tests its own spork again (reviewed list
    `receiveGated`), execution follows the property in ALL 8 regimes - also the out-of-order ones: the call can change
    something iff the spork that introduces the method is enforced for the acknowledged momentum. F17 exposes these
    methods to send-time acceptance only. -/
theorem receive_gate_closes_f17 (acc bridge htlc : Bool) :
    ∀ key ∈ receiveGated, ∃ k, ownerOf key = some k ∧ 1 ≤ k ∧
      mayExecute acc bridge htlc key = some (sporkOn k acc bridge htlc) := by
  have hown : ∀ key ∈ receiveGated, ownerOf key = some 1 := by decide +kernel
  intro key hk
  refine ⟨1, hown key hk, Nat.le_refl 1, ?_⟩
  simp only [mayExecute, hown key hk, List.contains_iff_mem.2 hk, Option.map_some, if_true]
  -- the accelerator spork is enforced only at level 1 or above
  cases acc <;> cases bridge <;> cases htlc <;> rfl

/-- for every method, in order, execution is allowed iff its own spork is enforced (receive time agrees with send time) -/
theorem execute_exact_in_order :
    ∀ r ∈ [0, 1, 3, 7], ∀ e ∈ introducedBy,
      mayExecute (regimeAcc r) (regimeBridge r) (regimeHtlc r) e.1 =
        some (sporkOn e.2 (regimeAcc r) (regimeBridge r) (regimeHtlc r)) ∧
      availableSpec (regimeAcc r) (regimeBridge r) (regimeHtlc r) e.1 =
        some (sporkOn e.2 (regimeAcc r) (regimeBridge r) (regimeHtlc r)) := by
  intro r hr e he
  -- in order the level rule is the property (`gate_exact_in_order`), and the receive gate repeats the same test
  have hk : decide (e.2 ≤ level (regimeAcc r) (regimeBridge r) (regimeHtlc r)) = sporkOn e.2 _ _ _ :=
    gate_exact_in_order r hr e.2 (List.mem_range.2 (Nat.lt_succ_of_le (owners_in_range e he)))
  simp only [mayExecute, availableSpec, ownerOf_of_mem e he, Option.map_some, hk, and_true]
  split <;> simp

/-- the verdict of the driver on an observed receive: an effect is never accepted where `mayExecute` is false, a
    designed call is never accepted without effect where it is true -/
theorem execVerdict_sound (acc bridge htlc : Bool) (key : String) (effect designed : Bool)
    (h : execVerdict acc bridge htlc key effect designed = some "ok") :
    ∃ may, mayExecute acc bridge htlc key = some may ∧ (effect = true → may = true) ∧
      (designed = true → may = true → effect = true) := by
  obtain ⟨may, hm, hv⟩ := Option.map_eq_some_iff.1 h
  refine ⟨may, hm, ?_⟩
  revert hv
  cases effect <;> cases may <;> cases designed <;> decide

/-- plasma asked for a method: the regenerated value under regime r -/
def plasmaAt (r i : Nat) : Option Nat := (Gen.methodTable.find? (fun row => row.1 == r && row.2.1 == i)).map (·.2.2)

/-- the lookup, within the rows of the regime -/
private theorem plasmaAt_in_regime (r : Nat) :
    plasmaAt r = fun i => ((Gen.methodTable.filter (·.1 == r)).find? (·.2.1 == i)).map (·.2.2) := by
  funext i
  simp only [plasmaAt, List.find?_filter, Bool.decide_and, Bool.decide_eq_true]

/-- REVIEWED: the methods whose price a spork changes (vm/embedded/embedded.go getAccelerator replaces the CollectReward
    of pillar, sentinel and stake by a cheaper one) -/
def repricedByAccelerator : List String := ["pillar.CollectReward", "sentinel.CollectReward", "stake.CollectReward"]

/-- T-plasma: the plasma a method asks for is the same in every regime in which the method is
    available - except the three reviewed CollectReward methods, whose price differs between level 0 and every level
    ≥ 1 (the accelerator spork's change), and only between those -/
theorem plasma_by_level :
    ∀ r ∈ List.range 8, ∀ i ∈ List.range Gen.methodNames.length, available r i = true →
      (plasmaAt r i).isSome ∧
      (plasmaAt r i = plasmaAt 7 i ↔
        ¬ (levelOfRegime r = 0 ∧ repricedByAccelerator.contains (Gen.methodNames.getD i "") = true)) := by
  -- one pass over the rows, each compared with the price of its method in regime 7; those 76 prices are listed once, by
  -- position (a closed term, which the kernel evaluates once), each looked up among the rows of regime 7 only
  have hrows : ∀ row ∈ Gen.methodTable,
      (some (some row.2.2) = ((List.range Gen.methodNames.length).map (plasmaAt 7))[row.2.1]? ↔
        ¬ (levelOfRegime row.1 = 0 ∧ repricedByAccelerator.contains (Gen.methodNames.getD row.2.1 "") = true)) := by
    simp only [plasmaAt_in_regime]
    decide +kernel
  intro r _ i hi ha
  obtain ⟨p, hp, hq⟩ := lookup_of_forall_rows Gen.methodTable
    (fun r i p => some (some p) = ((List.range Gen.methodNames.length).map (plasmaAt 7))[i]? ↔
      ¬ (levelOfRegime r = 0 ∧ repricedByAccelerator.contains (Gen.methodNames.getD i "") = true)) hrows r i ha
  rw [List.getElem?_map, List.getElem?_range (List.mem_range.1 hi), Option.map_some, Option.some_inj] at hq
  rw [show plasmaAt r i = some p from hp]
  exact ⟨rfl, hq⟩

/-- non-vacuity / reading aid: what the reviewed table says about the methods the accelerator spork adds to the
    liquidity contract, which exists from genesis -/
example :
    ownerOf "liquidity.Fund" = some 1 ∧ ownerOf "liquidity.Donate" = some 0 ∧ ownerOf "liquidity.SetTokenTuple" = some 2 ∧
    availableSpec false false false "liquidity.Fund" = some false ∧ availableSpec true false false "liquidity.Fund" = some true ∧
    mayExecute false true false "liquidity.Fund" = some false ∧ mayExecute false true false "accelerator.CreateProject" = some true ∧
    mayExecute true true false "liquidity.Fund" = some true ∧
    execVerdict false true false "liquidity.Fund" true true = some "forbidden" ∧
    execVerdict true false false "liquidity.Fund" false true = some "missing" ∧
    execVerdict false true false "liquidity.Fund" false true = some "ok" ∧ ownerOf "liquidity.Nope" = none := by
  decide +kernel

end ZV.C17Table
