import ZenonVerif.Lemmas.Spork
/-
C17 — spork-gated rules switch on by chain height only. Property theorems only. (F17, cited below, is the finding of that
number in the findings table of DESIGN.md and in known_findings.json.)
-/
namespace ZV.C17
open ZV.Spork

/-- T1 (over the whole generated table, which is the full quantifier here): activating more
    sporks never removes a method: for all regimes r ⊑ r', every method resolved under r is resolved under r'.
    Consequence: a call that passed send-time validation against momentum M_a is still resolvable at the
    confirming momentum M_c ≥ M_a of the same chain (activity is monotone, T2), so the receive-time lookup cannot
    fail with method-not-found. -/
theorem tables_monotone :
    ∀ r ∈ List.range 8, ∀ r' ∈ List.range 8, regimeLe r r' = true → ∀ m ∈ methodsOf r, available r' m = true := by
  have h : ∀ r ∈ List.range 8, ∀ r' ∈ List.range 8, regimeLe r r' = true →
      bitsOf (methodsOf r) &&& bitsOf (methodsOf r') = bitsOf (methodsOf r) := by decide +kernel
  exact fun r hr r' hr' hle => contains_of_bitsOf_subset _ _ (h r hr r' hr' hle)

/-- the features each spork guards, read off the generated tables along the activation order
    accelerator → bridge&liquidity → htlc -/
def accFeatures : List Nat := (methodsOf 1).filter (fun m => !available 0 m)
def bridgeFeatures : List Nat := (methodsOf 3).filter (fun m => !available 1 m)
def htlcFeatures : List Nat := (methodsOf 7).filter (fun m => !available 3 m)

/-- T3a: when sporks are enforced in the order accelerator, bridge&liquidity, htlc (regimes
    0, 1, 3, 7), a gated method is available exactly when its own spork is enforced.
    PARTIAL: the statement for all 8 regimes is false — see `gate_out_of_order_leaks`. -/
theorem gate_in_order_partial :
    (∀ m ∈ accFeatures, available 0 m = false ∧ available 1 m = true ∧ available 3 m = true ∧ available 7 m = true) ∧
    (∀ m ∈ bridgeFeatures, available 0 m = false ∧ available 1 m = false ∧ available 3 m = true ∧ available 7 m = true) ∧
    (∀ m ∈ htlcFeatures, available 0 m = false ∧ available 1 m = false ∧ available 3 m = false ∧ available 7 m = true) := by
  simp only [accFeatures, bridgeFeatures, htlcFeatures, available_eq_testBit]
  decide +kernel

/-- non-vacuity: each spork guards something -/
theorem features_nonempty : accFeatures ≠ [] ∧ bridgeFeatures ≠ [] ∧ htlcFeatures ≠ [] := by decide +kernel

/-- N1 (negative witness, finding F17): GetEmbeddedMethod picks the table by priority htlc > bridge > accelerator and
    the later tables are built on top of the earlier ones, so with ONLY the htlc spork enforced (regime 4) every
    bridge&liquidity and accelerator feature is available although its own spork is not enforced; likewise with
    only bridge&liquidity enforced (regime 2) the accelerator features are available. -/
theorem gate_out_of_order_leaks :
    (∀ m ∈ bridgeFeatures, available 4 m = true) ∧ (∀ m ∈ accFeatures, available 4 m = true) ∧
    (∀ m ∈ accFeatures, available 2 m = true) := by
  simp only [accFeatures, bridgeFeatures, available_eq_testBit]
  decide +kernel

/-- T2 (activity is monotone), activate step: a spork that is active for the store at height h stays active at every
    later height after any further activation is received (activation is recorded once; the enforcement height of an
    activated spork never changes). -/
theorem activate_keeps_active (st st' : SState) (s : Sender) (fh id' id h h' : Nat) (hu : UniqueIds st)
    (hact : activate st s fh id' = some st') (ha : isActive st h id = true) (h0 : 0 < h) (hh : h ≤ h') :
    isActive st' h' id = true := by
  rw [isActive_iff] at ha ⊢
  obtain ⟨h1, sp, hm, hA, hE, hI⟩ := ha
  obtain ⟨_, sp0, hf, hna, rfl⟩ := activate_eq_some hact
  -- the active spork is not the one being activated: that one was found not activated
  have hne : sp.id ≠ id' := fun hid => by
    have := find_of_mem_unique st hu sp hm
    rw [hid, hf] at this
    cases this
    rw [hA] at hna
    cases hna
  exact ⟨by omega, sp, List.mem_cons_of_mem _ (List.mem_filter.2 ⟨hm, by simpa using hne⟩), hA, by omega, hI⟩

/-- T2, create step: creating another spork (a new id — the id is the hash of the creating send block) does not
    affect the activity of existing ones -/
theorem create_keeps_active (st st' : SState) (s : Sender) (fh id' id h h' : Nat)
    (hfresh : ∀ sp ∈ st, sp.id ≠ id')
    (hc : create st s fh id' = some st') (ha : isActive st h id = true) (h0 : 0 < h) (hh : h ≤ h') :
    isActive st' h' id = true := by
  rw [isActive_iff] at ha ⊢
  obtain ⟨h1, sp, hm, hA, hE, hI⟩ := ha
  obtain ⟨_, rfl⟩ := create_eq_some hc
  exact ⟨by omega, sp, List.mem_cons_of_mem _ (List.mem_filter.2 ⟨hm, by simpa using hfresh sp hm⟩), hA, by omega, hI⟩

/-- T3: after the activation of `id` is received against a momentum of height fh, the spork is
    active for exactly the stores of height ≥ fh + SporkMinHeightDelay (and never for the genesis store): below the
    enforcement height it is unavailable to every block, from that height on it is available.
    (`UniqueIds st` is carried like in T2 but not needed here: the activation removes every other record of the id.) -/
theorem gate_by_height (st st' : SState) (s : Sender) (fh id h : Nat) (hu : UniqueIds st)
    (hact : activate st s fh id = some st') :
    isActive st' h id = true ↔ (h ≠ 1 ∧ fh + Gen.SporkMinHeightDelay ≤ h) := by
  obtain ⟨_, _, _, _, rfl⟩ := activate_eq_some hact
  rw [isActive_cons_filter ⟨id, true, _⟩]
  simp

/-- the minimum delay: the enforcement height is strictly above the momentum the activation was evaluated against -/
theorem activation_delayed (st st' : SState) (s : Sender) (fh id : Nat) (hu : UniqueIds st)
    (hact : activate st s fh id = some st') (h : Nat) (hle : h < fh + Gen.SporkMinHeightDelay) :
    isActive st' h id = false := by
  cases hb : isActive st' h id with
  | false => rfl
  | true => have := (gate_by_height st st' s fh id h hu hact).1 hb; omega

/-- activation cannot be repeated (again without use of `UniqueIds st`: the lookup finds the record just written) -/
theorem activate_once (st st' : SState) (s s2 : Sender) (fh fh2 id : Nat) (hu : UniqueIds st)
    (hact : activate st s fh id = some st') : activate st' s2 fh2 id = none := by
  obtain ⟨_, _, _, _, rfl⟩ := activate_eq_some hact
  unfold activate
  split
  · rfl
  · rw [find_cons_self ⟨id, true, _⟩]
    rfl

/-- T4: create and activate succeed only for the designated keys; the community key only while the
    frontier height is inside its window -/
theorem spork_authority (st st' : SState) (s : Sender) (fh id : Nat)
    (h : create st s fh id = some st' ∨ activate st s fh id = some st') :
    s = .sporkKey ∨ (s = .community ∧ Gen.CommunitySporkAddressStartHeight ≤ fh ∧ fh < Gen.CommunitySporkAddressEndHeight) := by
  rcases h with h | h
  · exact (authorisedW_iff mainnetWindow s fh).1 (create_eq_some h).1
  · exact (authorisedW_iff mainnetWindow s fh).1 (activate_eq_some h).1

/-- the window-parametrised definitions the driver evaluates are the model's at the regenerated mainnet window -/
theorem createW_mainnet (st : SState) (s : Sender) (fh id : Nat) :
    createW mainnetWindow st s fh id = create st s fh id := rfl

theorem activateW_mainnet (st : SState) (s : Sender) (fh id : Nat) :
    activateW mainnetWindow st s fh id = activate st s fh id := rfl

/-- T4 for every window (the statement the correspondence stream exercises with a window of a few momentums): whatever
    the state, the spork id and the height, a create or activate call succeeds only for the spork key, or for the
    community key while the frontier height the call is evaluated against lies inside the window. The height is the
    frontier of the executing contract's context — not a value the sender chooses. -/
theorem spork_authority_window (w : Nat × Nat) (st st' : SState) (s : Sender) (fh id : Nat)
    (h : createW w st s fh id = some st' ∨ activateW w st s fh id = some st') :
    s = .sporkKey ∨ (s = .community ∧ w.1 ≤ fh ∧ fh < w.2) := by
  rcases h with h | h
  · exact (authorisedW_iff w s fh).1 (createW_eq_some h).1
  · exact (authorisedW_iff w s fh).1 (activateW_eq_some h).1

/-- outside the window the community key changes nothing, inside it acts like the spork key -/
theorem community_outside_window (w : Nat × Nat) (st : SState) (fh id : Nat) (h : ¬ (w.1 ≤ fh ∧ fh < w.2)) :
    createW w st .community fh id = none ∧ activateW w st .community fh id = none := by
  have : authorisedW w .community fh = false :=
    Bool.eq_false_iff.2 fun ha => h (by simpa using (authorisedW_iff w _ fh).1 ha)
  simp [createW, activateW, this]

theorem community_inside_window (w : Nat × Nat) (st : SState) (fh id : Nat) (h : w.1 ≤ fh ∧ fh < w.2) :
    createW w st .community fh id = createW w st .sporkKey fh id ∧
    activateW w st .community fh id = activateW w st .sporkKey fh id := by
  simp [createW, activateW, authorisedW, h.1, h.2]

example : createW (5, 10) [] .community 4 1 = none ∧ createW (5, 10) [] .community 10 1 = none ∧
    (createW (5, 10) [] .community 5 1).isSome ∧ (createW (5, 10) [] .community 9 1).isSome := by decide

/-- lookups at or below the fork point are untouched by a rollback -/
theorem histAt_rollback_le (hist : Hist) (h h' : Nat) (hle : h' ≤ h) :
    histAt (rollbackHist hist h) h' = histAt hist h' := by
  rw [histAt_rollbackHist, if_pos hle]

/-- nothing of the abandoned branch is left -/
theorem histAt_rollback_gt (hist : Hist) (h h' : Nat) (hgt : h < h') :
    histAt (rollbackHist hist h) h' = none := by
  rw [histAt_rollbackHist, if_neg (by omega)]

/-- T6 (the step the driver takes on an `S-rollback` line): after a reorganisation
    down to height `h` the contract state is the one of the momentum of height `h`; every answer for a store at or
    below the fork point (state, hence `isActive` and the method tables) is what it was, and NOTHING recorded on the
    abandoned branch above it survives — what holds at the heights above `h` is decided by the momentums that are
    inserted afterwards, as on a node that only ever saw the surviving branch. -/
theorem rollback_follows_surviving_chain (hist hist' : Hist) (st : SState) (h : Nat)
    (hr : rollbackTo hist h = some (st, hist')) :
    histAt hist' h = some st ∧ (∀ h', h' ≤ h → histAt hist' h' = histAt hist h') ∧
    (∀ h' id, h' ≤ h → (histAt hist' h').map (isActive · h' id) = (histAt hist h').map (isActive · h' id)) ∧
    (∀ h', h < h' → histAt hist' h' = none) := by
  unfold rollbackTo at hr
  split at hr
  · rename_i st0 hs
    cases hr
    exact ⟨(histAt_rollback_le hist h h (Nat.le_refl h)).trans hs, histAt_rollback_le hist h,
      fun h' id hle => by rw [histAt_rollback_le hist h h' hle], histAt_rollback_gt hist h⟩
  · cases hr

/-- non-vacuity (the reorganisation across an enforcement height): branch A activates spork 42 against height 3
    (enforced from 9) and reaches height 12; the node switches at height 2 to a branch on which nobody activates it:
    at heights 9 and 12 of the surviving branch the spork is NOT active, although it was on the abandoned one; when the
    surviving branch activates it later (against height 7) it is active from 13, not from 9 -/
example :
    let stC := (create [] .sporkKey 1 42).get!
    let stA := (activate stC .sporkKey 3 42).get!
    let histA : Hist := [(12, stA), (9, stA), (4, stA), (3, stC), (2, stC)]
    let r := (rollbackTo histA 2).get!
    let stB := (activate r.1 .sporkKey 7 42).get!
    (histAt histA 9).map (isActive · 9 42) = some true ∧ r.1 = stC ∧ r.2 = [(2, stC)] ∧
    histAt r.2 9 = none ∧ isActive r.1 9 42 = false ∧ isActive r.1 12 42 = false ∧
    isActive stB 9 42 = false ∧ isActive stB 12 42 = false ∧ isActive stB 13 42 = true ∧
    rollbackTo histA 7 = none := by
  decide

/-- T5: the node reports unimplemented sporks (and its callers stop) exactly when some activated
    spork whose enforcement height has been reached is not among the implemented ones -/
theorem halt_on_unknown (st : SState) (h : Nat) (impl : List Nat) :
    unimplemented st h impl ≠ [] ↔ ∃ sp ∈ st, sp.activated = true ∧ sp.enf ≤ h ∧ sp.id ∉ impl := by
  -- a filter is non-empty iff some element passes its test
  rw [unimplemented, Ne, List.filter_eq_nil_iff]
  simp [and_assoc]

/-- G0: defining a genesis spork keeps the ids of the contract state unique (so every theorem above applies to a chain
    whose genesis configuration defines sporks) -/
theorem genesis_unique (st : SState) (id enf : Nat) (a : Bool) (hu : UniqueIds st) :
    UniqueIds (defineGenesis st id a enf) :=
  unique_filter_cons st hu ⟨id, a, enf⟩

/-- G1: a spork the genesis configuration defines as activated with enforcement height `e` is
    active on the store of every momentum of height h ≥ e above the genesis momentum - with e = 0 (the usual set-up of
    a network that starts with the feature on) from the FIRST momentum after genesis (height 2) on: there is no
    "too early for any spork" range of heights - -/
theorem genesis_gate_by_height (st : SState) (id e h : Nat) (h1 : h ≠ 1) (he : e ≤ h) :
    isActive (defineGenesis st id true e) h id = true := by
  rw [defineGenesis, isActive_cons_filter ⟨id, true, e⟩]
  simp [h1, he]

theorem genesis_active_from_first_momentum (st : SState) (id h : Nat) (h2 : 2 ≤ h) :
    isActive (defineGenesis st id true 0) h id = true :=
  genesis_gate_by_height st id 0 h (by omega) (Nat.zero_le h)

/-- … and not before its configured height, nor ever when it is only defined (not activated) -/
theorem genesis_gate_not_before (st : SState) (id e h : Nat) (a : Bool) (hlt : a = false ∨ h < e) :
    isActive (defineGenesis st id a e) h id = false := by
  rw [defineGenesis, isActive_cons_filter ⟨id, a, e⟩]
  rcases hlt with rfl | hlt
  · simp
  · simp [Nat.not_le.2 hlt]

theorem genesis_activation_not_repeatedW (w : Nat × Nat) (st : SState) (s : Sender) (id e fh : Nat) :
    activateW w (defineGenesis st id true e) s fh id = none := by
  unfold activateW
  split
  · rfl
  · rw [defineGenesis, find_cons_self ⟨id, true, e⟩]
    rfl

/-- G2: ActivateSpork for a spork that the genesis configuration defines as activated is
    refused for every sender and height - whatever its enforcement height (0 included): the stored record, hence the
    enforcement height, stays what the configuration says -/
theorem genesis_activation_not_repeated (st : SState) (s : Sender) (id e fh : Nat) :
    activate (defineGenesis st id true e) s fh id = none :=
  genesis_activation_not_repeatedW mainnetWindow st s id e fh

/-- G3: once a genesis-activated spork is enforced (height h), no activation call -
    for this or any other spork, by any sender - switches it off for a later height -/
theorem genesis_feature_never_switched_off (st st' : SState) (s : Sender) (fh id' id e h h' : Nat) (hu : UniqueIds st)
    (h2 : 2 ≤ h) (he : e ≤ h) (hh : h ≤ h') (hact : activate (defineGenesis st id true e) s fh id' = some st') :
    isActive st' h' id = true :=
  activate_keeps_active _ st' s fh id' id h h' (genesis_unique st id e true hu) hact
    (genesis_gate_by_height st id e h (by omega) he) (by omega) hh

/-- non-vacuity (the genesis family the stream runs): htlc defined as activated at 0, another spork activated from 9, a
    third only created: first momentum, boundary 8/9, the created one after its activation at frontier 4 -/
example :
    let g := defineGenesis (defineGenesis (defineGenesis [] 1 true 0) 2 true 9) 3 false 0
    isActive g 1 1 = false ∧ isActive g 2 1 = true ∧ isActive g 6 1 = true ∧ isActive g 8 2 = false ∧ isActive g 9 2 = true ∧
    isActive g 50 3 = false ∧ activate g .sporkKey 4 1 = none ∧ activate g .sporkKey 4 2 = none ∧
    (activate g .sporkKey 4 3).map (fun st => (isActive st 9 3, isActive st 10 3, isActive st 10 1)) = some (false, true, true) := by
  decide

/-- reviewed protocol constants (regenerated from the tree on every run): the minimum activation delay and the
    window of the community spork key. A change of consensus-critical constants must be a reviewed decision. -/
theorem spork_constants_reviewed :
    Gen.SporkMinHeightDelay = 6 ∧ Gen.CommunitySporkAddressStartHeight = 10109240 ∧
    Gen.CommunitySporkAddressEndHeight = 13243712 ∧ Gen.implementedSporkCount = 3 := by decide

/-- non-vacuity: create, activate at height 10 → active from 16 on, not at 15, second activation refused -/
example :
    let st1 := (create [] .sporkKey 5 42).get!
    let st2 := (activate st1 .sporkKey 10 42).get!
    isActive st2 15 42 = false ∧ isActive st2 16 42 = true ∧ activate st2 .sporkKey 20 42 = none ∧
    create [] .other 5 1 = none ∧ unimplemented st2 16 [7] ≠ [] ∧ unimplemented st2 15 [7] = [] := by
  decide

end ZV.C17
