import ZenonVerif.Lemmas.ConsensusStore
import ZenonVerif.Gen.Consensus
/-
C05 / C11 — the consensus store: what a node persists of its elections (C05 "… from its cache, after a restart …")
and of its period / epoch statistics (C11 "… a function of the chain alone, so every node computes the same ones")
is read back unchanged — by the storing instance from its LRU, after the entry was evicted, and by a restarted node.
Model: `Model/ConsensusStore.lean` (values, proto3 codec on top of the wire model of `Model/CodecPB.lean`, key-value
map under the real keys with the LRUs in front). Property theorems only; lemmas in `Lemmas/ConsensusStore.lean`.
The driver (`Driver/ConsensusStore.lean`) evaluates exactly these definitions on the real bytes, values and keys
(`cs-*` lines of the election and rewards-pure streams).

Canonical / not canonical: `marshalED` is a function of the value (slices, written in order) and the real bytes are
compared byte for byte. `marshalPoint` depends on the order in which Go iterates `Point.Pillars` (a map): the byte
string of a point is NOT canonical (`point_bytes_not_canonical`), the decoded value is (`point_value_canonical`);
nothing but `db.Put` receives those bytes (`marshal_bytes_only_stored`).
-/
namespace ZV.C05Store
open ZV ZV.Codec ZV.CStore

/-! ## (a), (b) codec round trips -/

/-- (a) `Unmarshal(Marshal(e)) = e` for every election result with 20-byte addresses, ASCII
    names and an encoding that fits a Go slice — any number of producers (equal or different), any number of
    delegations, weight 0 (EMPTY weight bytes, field omitted) included. -/
theorem election_roundtrip (e : ElectionData) (w : e.WF) : unmarshalED (marshalED e) = some e :=
  unmarshalED_marshalED e w

/-- (b) `Unmarshal(Marshal(p)) = p` for every point with 32-byte hashes, `uint32` counters and
    pairwise different ASCII names — empty maps, pillars with weight 0, counters 0 (omitted fields) included -/
theorem point_roundtrip (p : Point) (w : p.WF) : unmarshalPoint (marshalPoint p) = some p :=
  unmarshalPoint_marshalPoint p w

/-- the weight bytes are `big.Int.Bytes()`: EMPTY for 0, and read back as 0 -/
theorem zero_weight_is_empty_bytes : weightBytes 0 = [] ∧ weightOf [] = 0 ∧ ∀ w, weightOf (weightBytes w) = w :=
  ⟨by decide, by decide, weightOf_weightBytes⟩

/-- a schedule of three slots with two DIFFERENT producers, a delegation with weight 0 and an empty name -/
def exampleED : ElectionData :=
  { producers := [List.replicate 20 1, List.replicate 20 2, List.replicate 20 1],
    delegations := [⟨[80, 49], List.replicate 20 1, 300⟩, ⟨[80, 50], List.replicate 20 2, 0⟩, ⟨[], List.replicate 20 3, 1⟩] }

theorem exampleED_wf : exampleED.WF := by decide +kernel

theorem exampleED_roundtrip : unmarshalED (marshalED exampleED) = some exampleED :=
  election_roundtrip _ exampleED_wf

/-- a point with a zero-weight pillar, a pillar that produced nothing, counters at the `uint32` maximum -/
def examplePoint : Point :=
  { prevHash := List.replicate 32 0, endHash := List.replicate 32 7, totalWeight := 65536,
    pillars := [([80, 50], ⟨14, 14, 0⟩), ([80, 49], ⟨4294967295, 0, 65536⟩)] }

theorem examplePoint_wf : examplePoint.WF := by decide +kernel

/-- the empty point of `NewEmptyPoint` (no pillars, total weight 0: only the two hashes are written) -/
theorem empty_point_roundtrip (h : Bytes) (hh : h.length = Gen.HashSize) :
    unmarshalPoint (marshalPoint ⟨h, h, [], 0⟩) = some ⟨h, h, [], 0⟩ := by
  apply point_roundtrip
  refine ⟨hh, hh, by intro e he; simp at he, by simp [namesOf], ?_⟩
  have e : marshalPoint ⟨h, h, [], 0⟩ = encFields (fBytes 1 h ++ fBytes 2 h) := by
    simp [marshalPoint, pointFields, pillarRecs, weightBytes, natBytesBE, natBytesLEAux, fBytes]
  have hne : h.isEmpty = false := by
    cases h with
    | nil => exact absurd hh (by decide)
    | cons _ _ => rfl
  have h32 : Gen.HashSize = 32 := rfl
  rw [e]
  -- two records of 1 + 1 + 32 bytes: 68 < 2^64
  simp [fBytes, hne, encFields, encField, tag, hh, h32, varint, varintAux, two64]

/-! ## (f) the bytes of a point are not canonical, its value is -/

/-- two iteration orders of one map (permutations of one another) decode to the same value
    (entries sorted by name) — decode∘encode does not depend on the order in which Marshal ranged over the map -/
theorem point_value_canonical (p q : Point) (wp : p.WF) (wq : q.WF) (h1 : p.prevHash = q.prevHash)
    (h2 : p.endHash = q.endHash) (h3 : p.totalWeight = q.totalWeight) (hperm : p.pillars.Perm q.pillars) :
    (unmarshalPoint (marshalPoint p)).map Point.canon = (unmarshalPoint (marshalPoint q)).map Point.canon := by
  rw [point_roundtrip p wp, point_roundtrip q wq]
  simp only [Option.map_some, Option.some.injEq, Point.canon, h1, h2, h3]
  rw [sortPillars_eq_of_perm _ _ hperm wq.2.2.2.1]

/-- the canonical form is a permutation of the entries, sorted by name -/
theorem canon_sorted (p : Point) :
    p.canon.pillars.Perm p.pillars ∧ p.canon.pillars.Pairwise (fun a b => a.1 ≤ b.1) :=
  ⟨perm_sortPillars _, by simpa [nameLe, Point.canon] using sorted_sortPillars p.pillars⟩

/-- one value, two byte strings (both decode to it) — which is why the stream compares
    VALUES for points, and why these bytes must never be hashed or compared -/
theorem point_bytes_not_canonical :
    ∃ p q : Point, p.WF ∧ q.WF ∧ p.canon = q.canon ∧ marshalPoint p ≠ marshalPoint q ∧
      (unmarshalPoint (marshalPoint p)).map Point.canon = (unmarshalPoint (marshalPoint q)).map Point.canon := by
  have wq : ({ examplePoint with pillars := examplePoint.pillars.reverse } : Point).WF := by decide +kernel
  exact ⟨examplePoint, _, examplePoint_wf, wq, by decide +kernel, by decide +kernel,
    point_value_canonical _ _ examplePoint_wf wq rfl rfl rfl (List.reverse_perm _).symm⟩

/-- the marshalled bytes of both types reach `db.Put` and nothing else: the only zero-argument `.Marshal()` calls of
    the tree are in the two Store functions of db.go, and the only use of their results is the `Put` -/
theorem marshal_bytes_only_stored :
    Gen.csMarshalCallers = reviewed_marshalCallers ∧ Gen.csMarshalResultUses = reviewed_marshalResultUses ∧
    Gen.csPointMarshalRangesOverMap = true ∧ Gen.csPointMarshalRanges = ["p.Pillars"] ∧
    Gen.csElectionMarshalRanges = ["d.Delegations", "d.Producers"] ∧
    Gen.csElectionDataFields = [("Producers", "[]types.Address"), ("Delegations", "[]*types.PillarDelegation")] :=
  ⟨rfl, rfl, rfl, rfl, rfl, rfl⟩

/-! ## (d) keys -/

/-- different heights / point tables give different keys (heights are `uint64`) -/
theorem point_key_injective (i1 i2 t1 t2 : Nat) (b1 : t1 < two64) (b2 : t2 < two64)
    (h : pointKey i1 t1 = pointKey i2 t2) : i1 = i2 ∧ t1 = t2 :=
  pointKey_inj b1 b2 h

theorem election_key_injective (h1 h2 : Bytes) (h : electionKey h1 = electionKey h2) : h1 = h2 :=
  electionKey_inj h

/-- a point key is never an election key — with the prefix bytes of the tree: 0 and 1 for the
    two point tables (the only ones: `NumPointTypes` = 2), 10 for election results; the key lengths differ too -/
theorem keys_disjoint (i t : Nat) (h : Bytes) (hi : i < Gen.csNumPointTypes) : pointKey i t ≠ electionKey h :=
  pointKey_ne_electionKey hi

theorem key_prefixes :
    Gen.csPrefixPeriodPoint = 0 ∧ Gen.csPrefixEpochPoint = 1 ∧ Gen.csNumPointTypes = 2 ∧
    Gen.csPrefixElectionResult = 10 ∧ Gen.csPrefixPeriodPoint < Gen.csNumPointTypes ∧
    Gen.csPrefixEpochPoint < Gen.csNumPointTypes ∧ ¬ Gen.csPrefixElectionResult < Gen.csNumPointTypes ∧
    Gen.csPrefixPeriodPoint ≠ Gen.csPrefixEpochPoint := by
  decide

theorem key_lengths (i t : Nat) (h : Bytes) (hh : h.length = Gen.HashSize) :
    (pointKey i t).length = Gen.csPointKeyLen ∧ (electionKey h).length = Gen.csElectionKeyLen := by
  refine ⟨by simp [pointKey, u64_length]; rfl, ?_⟩
  simp only [electionKey, List.length_cons, hh]; rfl

/-- the key constructors of the tree are the ones the model was written against -/
theorem key_sources_current :
    Gen.src_CreatePointKey = reviewed_CreatePointKey ∧
    Gen.src_CreateElectionResultKey = reviewed_CreateElectionResultKey :=
  ⟨rfl, rfl⟩

/-! ## (c) the database: LRU in front of the backing map -/

/-- hit: the storing instance answers the stored value from its cache (any value; the cache holds at least one
    entry — `lru.New` refuses size 0) -/
theorem store_get_hit (s : Store) (h : Bytes) (e : ElectionData) (hc : 0 < s.elect.cap) :
    ∃ s', getElection (storeElection s h e) h = some (s', some e) := by
  obtain ⟨c', hg⟩ := Lru.get?_add_self s.elect h e hc
  exact ⟨{ storeElection s h e with elect := c' }, by simp [getElection, storeElection, hg]⟩

/-- in a coherent store a get answers what a node WITHOUT cache would decode from the backing
    bytes — a hit, a miss after eviction and a miss after a restart cannot be told apart -/
theorem cache_transparent (s : Store) (hs : s.Coherent) (h : Bytes) :
    (getElection s h).map (·.2) = answerED s.kv h :=
  (getElection_spec s hs h).1

theorem cache_transparent_point (s : Store) (hs : s.Coherent) (i t : Nat) (hi : i < Gen.csNumPointTypes)
    (ht : t < two64) : (getPoint s i t).map (·.2) = answerPoint s.kv i t :=
  (getPoint_spec s hs i t hi ht).1

/-- the running instance (whatever its cache holds) and a restarted one (caches empty) give
    the same answer to every election query (points: `restart_same_answer_point`) -/
theorem restart_same_answer (s : Store) (hs : s.Coherent) (h : Bytes) :
    (getElection s h).map (·.2) = (getElection s.reopen h).map (·.2) := by
  rw [cache_transparent s hs h, cache_transparent s.reopen (coherent_reopen s hs) h]
  rfl

theorem restart_same_answer_point (s : Store) (hs : s.Coherent) (i t : Nat) (hi : i < Gen.csNumPointTypes)
    (ht : t < two64) : (getPoint s i t).map (·.2) = (getPoint s.reopen i t).map (·.2) := by
  rw [cache_transparent_point s hs i t hi ht, cache_transparent_point s.reopen (coherent_reopen s hs) i t hi ht]
  rfl

/-- the invariant holds in a freshly opened store, over ANY backing map, and after every sequence of operations
    with well-formed arguments (stores, gets, deletes, restarts) -/
theorem reachable_coherent (kv : KV) (ecap pcap : Nat) (ops : List Op) (w : ∀ op ∈ ops, op.WF) (s : Store)
    (h : run (Store.openOn kv ecap pcap) ops = some s) : s.Coherent :=
  (run_spec ops _ (coherent_openOn kv ecap pcap) w s h).1

/-- elections: after `StoreElectionResultByHash(h, e)` and ANY further well-formed operations that do
    not store under `h` again — other elections and points stored (evicting the entry), gets, deletes, restarts —
    `GetElectionResultByHash(h)` answers `e` -/
theorem store_get (s : Store) (hs : s.Coherent) (h : Bytes) (e : ElectionData) (we : e.WF) (ops : List Op)
    (w : ∀ op ∈ ops, op.WF) (hk : ∀ op ∈ ops, op.writes ≠ some (electionKey h)) (s' : Store)
    (hr : run (storeElection s h e) ops = some s') : (getElection s' h).map (·.2) = some (some e) := by
  obtain ⟨h1, hf⟩ := run_spec ops _ (coherent_storeElection s hs h e we) w s' hr
  rw [cache_transparent s' h1 h]
  simp [answerED, hf _ hk, storeElection, kvGet_put, election_roundtrip e we]

/-- points: the same for `StorePointByHeight(prefix, height, p)` … `GetPointByHeight` -/
theorem store_get_point (s s0 : Store) (hs : s.Coherent) (i t : Nat) (p : Point) (hi : i < Gen.csNumPointTypes)
    (ht : t < two64) (wp : p.WF) (h0 : storePoint s i t p = some s0) (ops : List Op) (w : ∀ op ∈ ops, op.WF)
    (hk : ∀ op ∈ ops, op.writes ≠ some (pointKey i t)) (s' : Store) (hr : run s0 ops = some s') :
    (getPoint s' i t).map (·.2) = some (some p) := by
  obtain ⟨c1, hf⟩ := run_spec ops _ (coherent_storePoint s hs i t p ht wp s0 h0) w s' hr
  rw [cache_transparent_point s' c1 i t hi ht]
  obtain ⟨c, _, rfl⟩ := storePoint_eq h0
  simp [answerPoint, hf _ hk, kvGet_put, point_roundtrip p wp]

/-- a deleted point is gone for every instance -/
theorem delete_get_point (s s0 : Store) (hs : s.Coherent) (i t : Nat) (hi : i < Gen.csNumPointTypes)
    (ht : t < two64) (h0 : deletePoint s i t = some s0) : (getPoint s0 i t).map (·.2) = some none := by
  rw [cache_transparent_point s0 (coherent_deletePoint s hs i t ht s0 h0) i t hi ht]
  obtain ⟨c, _, rfl⟩ := deletePoint_eq h0
  simp [answerPoint, kvGet_del_eq]

/-- the LRU sizes of a node: `NewConsensus` passes one expression for both caches; its value for the live
    constants (a week of ticks) -/
theorem cache_size :
    Gen.csCacheSizeExpr = reviewed_cacheSizeExpr ∧ Gen.csNewConsensusDBArgs = ["db", "int(cacheSize)", "int(cacheSize)"] ∧
    Gen.csCacheSize = 7 * 24 * 60 * 60 / (Gen.BlockTime * Gen.NodeCount) ∧ Gen.csCacheSize = 2016 ∧ 0 < Gen.csCacheSize :=
  ⟨rfl, rfl, by decide, by decide, by decide⟩

/-! ## schema -/

/-- the records the model's encoders emit for messages with every field set carry exactly the
    field numbers and wire kinds of the protobuf descriptors of the generated Go types, in order (proto3) -/
theorem store_schema_match :
    usedWire3 (electionFields probeED) = Gen.csElectionDataSchema.map descWire ∧
    usedWire3 (delegationFields probeDelegation) = Gen.csPillarDelegationSchema.map descWire ∧
    usedWire3 (pointFields probePoint) = Gen.csConsensusPointSchema.map descWire ∧
    usedWire3 (detailFields [97] probeDetail) = Gen.csProducerDetailSchema.map descWire ∧
    Gen.csProtoSyntax = ["proto3", "proto3"] ∧
    (Gen.csElectionDataSchema.map (fun e => e.2.2.2)) = ["repeated", "repeated"] ∧
    (Gen.csConsensusPointSchema.map (fun e => e.2.2.2)) = ["singular", "singular", "singular", "repeated"] ∧
    (Gen.csPillarDelegationSchema.map (fun e => e.2.2.2)) = ["singular", "singular", "singular"] ∧
    (Gen.csProducerDetailSchema.map (fun e => e.2.2.2)) = ["singular", "singular", "singular", "singular"] := by
  decide +kernel

/-- the hand-written Marshal / Unmarshal methods assign the fields the model was written against, and the Go types
    behind the model's value types are the reviewed ones (counters `uint32`, weights `*big.Int`, pillars a map) -/
theorem store_assignments_current :
    Gen.csDelegationProtoAssign = reviewed_delegationProtoAssign ∧
    Gen.csDelegationAssign = reviewed_delegationAssign ∧
    Gen.csProducerDetailAssign = reviewed_producerDetailAssign ∧
    Gen.csProducerDetailFields = [("ExpectedNum", "uint32"), ("FactualNum", "uint32"), ("Weight", "*big.Int")] ∧
    Gen.csPointFields = [("PrevHash", "types.Hash"), ("EndHash", "types.Hash"),
      ("Pillars", "map[string]*ProducerDetail"), ("TotalWeight", "*big.Int")] :=
  ⟨rfl, rfl, rfl, rfl, rfl⟩

/-! ## (e) negative witnesses: the two seeded variants -/

/-- seeded/C05-r2-1 (every persisted producer record aliases one array = carries the LAST producer): such a Marshal
    is not injective on schedules with two different producers, and the real Unmarshal cannot give the schedule back -/
theorem aliased_marshal_loses_schedule :
    ∃ e1 e2 : ElectionData, e1.WF ∧ e2.WF ∧ e1 ≠ e2 ∧ marshalEDAliased e1 = marshalEDAliased e2 ∧
      unmarshalED (marshalEDAliased e1) ≠ some e1 ∧
      unmarshalED (marshalEDAliased e1) = some { e1 with producers := e1.producers.map (fun _ => List.replicate 20 2) } := by
  refine ⟨⟨[List.replicate 20 1, List.replicate 20 2], []⟩, ⟨[List.replicate 20 2, List.replicate 20 2], []⟩,
    by decide +kernel, by decide +kernel, by decide +kernel, by decide +kernel, by decide +kernel, by decide +kernel⟩

/-- … while it is the identity on schedules with a single producer (why every test with one pillar passes) -/
theorem aliased_marshal_agrees_on_one_producer (a : Bytes) (n : Nat) (ds : List Delegation) :
    marshalEDAliased ⟨List.replicate (n + 1) a, ds⟩ = marshalED ⟨List.replicate (n + 1) a, ds⟩ := by
  have : (List.replicate (n + 1) a).getLast?.getD [] = a := by
    rw [List.getLast?_replicate]; simp
  simp [marshalEDAliased, marshalED, electionFields, this]

/-- seeded/C11-r2-2 (Unmarshal skips content entries with an empty name or EMPTY weight bytes): a pillar with
    weight 0 — whose weight bytes are empty by `big.Int.Bytes()` — vanishes from the point a restarted node reads -/
theorem skipping_unmarshal_loses_zero_weight_pillar :
    examplePoint.WF ∧ unmarshalPointSkipping (marshalPoint examplePoint) ≠ some examplePoint ∧
    unmarshalPointSkipping (marshalPoint examplePoint) =
      some { examplePoint with pillars := [([80, 49], ⟨4294967295, 0, 65536⟩)] } ∧
    unmarshalPoint (marshalPoint examplePoint) = some examplePoint := by
  have h : unmarshalPointSkipping (marshalPoint examplePoint) =
      some { examplePoint with pillars := [([80, 49], ⟨4294967295, 0, 65536⟩)] } := by decide +kernel
  exact ⟨examplePoint_wf, by rw [h]; decide, h, point_roundtrip _ examplePoint_wf⟩

end ZV.C05Store
