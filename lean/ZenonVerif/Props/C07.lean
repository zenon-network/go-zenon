import ZenonVerif.Model.Versioned
import ZenonVerif.Lemmas.KvLogic
import ZenonVerif.Lemmas.KvOrder
import ZenonVerif.Lemmas.LdbInv
import ZenonVerif.Lemmas.KvChanges
import ZenonVerif.Lemmas.ViewScan
/-
C07 — versioned store: a view at commit X shows exactly the state as of X.
(C06-T2 `rollback_exact` lives in Props/C06.lean.)
-/
namespace ZV.C07
open ZV ZV.Kv ZV.KvLogic ZV.Versioned

/-- One commit step of the reconstruction invariant. If the overlay `o` on top of the current frontier `cur`
    shows the viewed version `sX`, then after committing patch `p` (frontier becomes `applyP cur p`, the undo
    patch `rollbackPatch cur p` is folded into the overlay without overriding) it still shows `sX`. -/
theorem view_step (sX cur : Store) (o : Overlay) (p : Patch)
    (h : viewOf o cur = sX) :
    viewOf (woP o (rollbackPatch cur p)) (applyP cur p) = sX := viewOf_step sX cur o p h

/-- the frontier after a list of commits -/
def frontierAfter (s : Store) : List Patch → Store
  | [] => s
  | p :: ps => frontierAfter (applyP s p) ps

/-- the overlay `ldbManager.Get` builds for version `s`: undo patches of all later commits, oldest first,
    never overriding (each undo patch is the one recorded against the frontier it was committed on) -/
def overlayAfter (s : Store) (o : Overlay) : List Patch → Overlay
  | [] => o
  | p :: ps => overlayAfter (applyP s p) (woP o (rollbackPatch s p)) ps

/-- T1 (logical level) `view_reconstructs`: for every version `sX` and every sequence of later commits,
    the rollback overlay over the final frontier shows exactly `sX` — for every key. -/
theorem view_reconstructs (sX : Store) (ps : List Patch) :
    viewOf (overlayAfter sX Overlay.empty ps) (frontierAfter sX ps) = sX := by
  suffices h : ∀ (cur : Store) (o : Overlay), viewOf o cur = sX →
      viewOf (overlayAfter cur o ps) (frontierAfter cur ps) = sX by
    exact h sX Overlay.empty (viewOf_empty sX)
  induction ps with
  | nil => intro cur o h; exact h
  | cons p ps ih =>
    intro cur o h
    simp only [overlayAfter, frontierAfter]
    exact ih _ _ (view_step sX cur o p h)

/-- T1 (byte level, lookup and existence test): what `Get`/`Has` return through a historical root
    (rollback layer over the frontier snapshot, enable-delete decoding) is `viewOf` of the abstractions. -/
theorem hist_get_refines (rb base : Raw) (k : Bytes) :
    (Root.hist rb base).get k = viewOf (oabs rb) (abs base) k := edDecode_mget2 rb base k

/-- the byte-level overlay built by ApplyWithoutOverride abstracts to the logical overlay -/
theorem overlay_refines (rb : Raw) (p : Patch) : oabs (woApply rb p) = woP (oabs rb) p := oabs_woApply p rb

/-- applying a patch through Put/Delete at the byte level abstracts to the logical patch application -/
theorem apply_refines (r : Raw) (p : Patch) : abs (edApply r p) = applyP (abs r) p := abs_edApply p r

/-- T3 `write_visible`: a write through a view is what that view reads afterwards, other keys are unaffected -/
theorem write_visible (top : Raw) (o : Op) (x : Bytes) :
    abs (edApplyOp top o) x = if x = o.key then (match o with | .put _ v => some v | .del _ => none) else abs top x := by
  rw [abs_edApplyOp, applyOp_eq]
  cases o <;> rfl


/-! ### T5 — the merged iterator and the scans of the two kinds of roots -/

/-- T5 `merged_scan_correct`: over layers in key order, the merged iterator of the two prefix iterators
    (first layer wins on equal keys) is the key-ordered list of exactly the entries `(k, v)` with `k` under the
    prefix and `v` the answer of the merged lookup (`mergedDB.Get`) for `k`. -/
theorem merged_scan_correct {a b : Raw} (ha : Sorted a) (hb : Sorted b) (p : Bytes) :
    OrderedEntries (merge2 (rscan a p) (rscan b p)) (fun k v => isPrefix p k = true ∧ mget2 a b k = some v) :=
  merged_scan_entries ha hb p

/-- T5, iterator form: merging the prefix iterators = prefix iterator of the merge -/
theorem merged_scan_commutes {a b : Raw} (ha : Sorted a) (hb : Sorted b) (p : Bytes) :
    merge2 (rscan a p) (rscan b p) = rscan (merge2 a b) p := merge2_rscan ha hb p

/-- the specification `OrderedEntries l P` determines the list `l` -/
theorem scan_spec_unique {l l' : Raw} {P : Bytes → Bytes → Prop}
    (h : OrderedEntries l P) (h' : OrderedEntries l' P) : l = l' := h.unique h'

/-- the merged lookup agrees with the merged iterator, key by key -/
theorem merged_get_scan_agree {a b : Raw} (ha : Sorted a) (hb : Sorted b) (k : Bytes) :
    rget (merge2 a b) k = mget2 a b k := rget_merge2 ha hb k

/-- scan through a historical root (rollback overlay over the frontier snapshot, seen through the delete-enabled
    iterator, which skips the deleted entries and nothing else): the key-ordered list of exactly the entries of the
    viewed version under the prefix — keys holding the empty value included. (Before 734ff49 the overlay and the
    snapshot were additionally wrapped in `skipDeletedIterator`, which dropped those keys: former finding F3b.) -/
theorem hist_scan_spec {rb base : Raw} (hrb : Sorted rb) (hbase : Sorted base) (p : Bytes) :
    OrderedEntries (edEntries ((Root.hist rb base).rawScan p))
      (fun k v => isPrefix p k = true ∧ viewOf (oabs rb) (abs base) k = some v) :=
  hist_scan_entries hrb hbase p

/-- scan through the frontier root: the key-ordered list of exactly the entries under the prefix -/
theorem front_scan_spec {base : Raw} (hbase : Sorted base) (p : Bytes) :
    OrderedEntries (edEntries ((Root.front base).rawScan p))
      (fun k v => isPrefix p k = true ∧ abs base k = some v) :=
  front_scan_entries hbase p

/-- scan and lookup of a historical root agree: the scan under prefix `p` lists `(k, v)` exactly when `k` is under
    `p` and `Get k` answers `v` (so: no key that `Get`/`Has` report present is missing, no key they report absent
    is listed). This is the sentence the model-free scan monitor of the `vdb` stream tests on the real store. -/
theorem hist_scan_agrees_get {rb base : Raw} (hrb : Sorted rb) (hbase : Sorted base) (p k v : Bytes) :
    (k, v) ∈ edEntries ((Root.hist rb base).rawScan p) ↔ isPrefix p k = true ∧ (Root.hist rb base).get k = some v := by
  rw [hist_get_refines]
  exact (hist_scan_spec hrb hbase p).2 k v

/-- in particular (the former F3b case): a key that holds the empty value in the viewed version is listed, with
    the empty value, by every scan of the historical view whose prefix covers it -/
theorem hist_scan_lists_empty_value {rb base : Raw} (hrb : Sorted rb) (hbase : Sorted base) (p k : Bytes)
    (hp : isPrefix p k = true) (hk : (Root.hist rb base).get k = some []) :
    (k, []) ∈ edEntries ((Root.hist rb base).rawScan p) :=
  (hist_scan_agrees_get hrb hbase p k []).2 ⟨hp, hk⟩

/-- a key deleted in the overlay (created after X) or deleted in the snapshot is never listed by a scan of the
    historical view -/
theorem hist_scan_hides_deleted {rb base : Raw} (hrb : Sorted rb) (hbase : Sorted base) (p k : Bytes)
    (hk : (Root.hist rb base).get k = none) :
    ∀ v, (k, v) ∉ edEntries ((Root.hist rb base).rawScan p) :=
  fun v hm => nomatch hk.symm.trans ((hist_scan_agrees_get hrb hbase p k v).1 hm).2

/-- the concrete witness of the former finding F3b, now positive: key `[9]` holds the empty value at X; a later
    commit created key `[11]` (the overlay holds its tombstone). The view at X answers `Get [9] = ""`, `Get [11]` =
    not found, and its scan is exactly `[9] ↦ ""` — the same list as a scan of the frontier root with that content. -/
example :
    let rb : Raw := [([11], [])]
    let base : Raw := [([9], [0]), ([11], [0, 1])]
    (Root.hist rb base).get [9] = some [] ∧
    (Root.hist rb base).get [11] = none ∧
    edEntries ((Root.hist rb base).rawScan []) = [([9], [])] ∧
    edEntries ((Root.front [([9], [0])]).rawScan []) = [([9], [])] := by
  refine ⟨by decide, by decide, ?_, by decide⟩
  simp [Root.rawScan, rscan, isPrefix, merge2, bytesLt, edEntries]

/-- the same witness with a one-byte value next to it and a key deleted since X that the overlay restores -/
example :
    let rb : Raw := [([10], [0]), ([11], [])]
    let base : Raw := [([9], [0]), ([10], []), ([11], [0, 1]), ([12], [0, 7])]
    edEntries ((Root.hist rb base).rawScan []) = [([9], []), ([10], []), ([12], [7])] := by
  simp [Root.rawScan, rscan, isPrefix, merge2, bytesLt, edEntries]


/-! ### the executable manager (`Ldb` = ldbManager without caches) over arbitrary operation sequences

`Reach s h` (Lemmas/LdbInv.lean): `s` is reachable from the empty store by any sequence of commits on the
frontier (`Ldb.add s.frontierId …` with height = frontier height + 1 < 2^64, a hash not used on the chain, user
keys outside the hash-index prefix), commits on any other parent, and pops; `h` is the ghost history of the
current chain, newest first; `v.store` is the logical content (meta keys included) at the moment `v` was
committed: `applyP (content of the predecessor) (ops ++ frontierOps id)`. -/

/-- the frontier of a reachable state holds the content and the identifier of the newest version -/
theorem frontier_refines {s : Ldb} {h : List Ver} (hr : Reach s h) :
    (∀ k, (Root.front s.frontier).get k = topStore h k) ∧ s.frontierId = topId h ∧ Sorted s.frontier :=
  ⟨fun k => congrFun hr.inv.inv0.front k, hr.inv.inv0.frontierId, hr.inv.inv0.sorted⟩

/-- T1 `view_refines` (executable manager, lookup): in every reachable state, `Get(id)` of every version on the
    chain succeeds, and the returned view reads — for EVERY key — exactly what the store held when that version
    was committed, whatever was committed, refused or popped afterwards. -/
theorem view_refines {s : Ldb} {h : List Ver} (hr : Reach s h) {v : Ver} (hv : v ∈ h) :
    ∃ r, s.get v.id = some r ∧ ∀ k, r.get k = v.store k := by
  obtain ⟨r, hg, hget, _⟩ := hr.inv.view hv
  exact ⟨r, hg, fun k => congrFun hget k⟩

/-- T1, existence test (`Has`) -/
theorem view_refines_has {s : Ldb} {h : List Ver} (hr : Reach s h) {v : Ver} (hv : v ∈ h) :
    ∃ r, s.get v.id = some r ∧ ∀ k, (r.get k).isSome = (v.store k).isSome := by
  obtain ⟨r, hg, hget⟩ := view_refines hr hv
  exact ⟨r, hg, fun k => by rw [hget k]⟩

/-- T1, ordered scan: in every reachable state, the scan of the view at ANY version `v` on the chain (frontier or
    below) under prefix `p` is the key-ordered list of exactly the entries of `v`'s content under `p` — empty values
    included, whatever was committed, refused or popped afterwards. -/
theorem view_refines_scan {s : Ldb} {h : List Ver} (hr : Reach s h) {v : Ver} (hv : v ∈ h) (p : Bytes) :
    ∃ r, s.get v.id = some r ∧
      OrderedEntries (edEntries (r.rawScan p)) (fun k val => isPrefix p k = true ∧ v.store k = some val) := by
  obtain ⟨r, hg, _, hscan⟩ := hr.inv.view_scan hv
  exact ⟨r, hg, hscan p⟩

/-- T4 `add_parent_check`: a commit on anything but the frontier leaves the store unchanged (the call itself
    reports success when the parent is a known version — the repository's own test needs that). -/
theorem add_parent_check {s s' : Ldb} {prev id : Id} {ops : Patch} (hne : prev ≠ s.frontierId)
    (ha : s.add prev id ops = some s') : s' = s := add_stale_eq hne ha

/-- an identifier that is not on the current chain (unknown hash, or a known hash with another height) gets no
    view -/
theorem unknown_id_refused {s : Ldb} {h : List Ver} (hr : Reach s h) {id : Id} (hz : id.isZero = false)
    (hid : ∀ v ∈ h, v.id ≠ id) : s.get id = none := hr.inv.get_unknown hz hid

/-- a commit on an identifier that is not on the current chain fails with an error -/
theorem unknown_parent_refused {s : Ldb} {h : List Ver} (hr : Reach s h) {prev : Id} (hz : prev.isZero = false)
    (hid : ∀ v ∈ h, v.id ≠ prev) (id : Id) (ops : Patch) : s.add prev id ops = none :=
  hr.inv.add_unknown hz hid id ops

/-- T2 `view_immutable` (value level): the views handed out for the same version in two different reachable
    states — e.g. before and after any number of later commits, refused commits and pops that keep the version on
    the chain, also when the version was the frontier in one state and lies below it in the other — agree on every
    lookup and every ordered scan. (A view is a value here: it owns its snapshot; views that share the cached overlay
    object are treated in Props/C07Cache.lean, `old_views_survive_in_place_extension`.) -/
theorem view_immutable {s s' : Ldb} {h h' : List Ver} (hr : Reach s h) (hr' : Reach s' h') {v : Ver}
    (hv : v ∈ h) (hv' : v ∈ h') :
    ∃ r r', s.get v.id = some r ∧ s'.get v.id = some r' ∧ (∀ k, r.get k = r'.get k) ∧
      (∀ p, edEntries (r.rawScan p) = edEntries (r'.rawScan p)) :=
  hr.inv.view_agree hr'.inv hv hv'

/-- the model totalises two places where the Go code dereferences a missing undo patch (the `none` branch of
    `buildOverlay` in `Get`, and `Pop`): in every reachable state the undo patch of every height 1 … frontier height
    is stored, so those branches are never taken for identifiers on the chain, and nothing is stored for other
    heights. -/
theorem rollbacks_complete {s : Ldb} {h : List Ver} (hr : Reach s h) (j : Nat) :
    (1 ≤ j ∧ j ≤ s.frontierId.height → (lookupH s.rollbacks j).isSome = true) ∧
    (j = 0 ∨ s.frontierId.height < j → lookupH s.rollbacks j = none) := by
  rw [hr.inv.inv0.frontierHeight]
  exact ⟨fun hj => hr.inv.inv0.rb.isSome hr.inv.inv0.hchain j hj.1 hj.2, hr.inv.inv0.rbNone j⟩

/-- the raw-level fact under the rollback cache: `ldbManager.Get` may start from a cached pair (frontier `F` at caching
    time, overlay folded up to `F`) and only fold the undo patches of the heights above `F`. If the chain at caching
    time (`h`) is still the lower part of the current chain (`newer ++ h`), the result is the overlay the cache-free
    `Get` of the model builds. That the caches only ever hold such pairs (`Pop` purges them), and what follows for the
    cached manager, is Props/C07Cache.lean (`cached_get_eq_uncached`, `tag_lower_bound_suffices`). -/
theorem cached_overlay_sound {s s' : Ldb} {h newer : List Ver} (hr : Reach s h) (hr' : Reach s' (newer ++ h))
    {v : Ver} (hv : v ∈ h) :
    buildOverlay s'.rollbacks s.frontierId.height (s'.frontierId.height - s.frontierId.height)
        (buildOverlay s.rollbacks v.id.height (s.frontierId.height - v.id.height) []) =
      buildOverlay s'.rollbacks v.id.height (s'.frontierId.height - v.id.height) [] :=
  hr.inv.inv0.cached_overlay hr'.inv.inv0 hv

/-- the former F3b case on the manager: a key holding the empty value in a version on the chain (below the
    frontier or not) is answered by `Get`/`Has` of the view AND listed, with the empty value, by every scan of the
    view whose prefix covers it -/
theorem view_scan_lists_empty_value {s : Ldb} {h : List Ver} (hr : Reach s h) {v : Ver} (hv : v ∈ h)
    {k : Bytes} (hk : v.store k = some []) :
    ∃ r, s.get v.id = some r ∧ r.get k = some [] ∧
      ∀ p, isPrefix p k = true → (k, []) ∈ edEntries (r.rawScan p) := by
  obtain ⟨r, hg, hget, hscan⟩ := hr.inv.view_scan hv
  exact ⟨r, hg, by rw [hget, hk], fun p hp => ((hscan p).2 k []).2 ⟨hp, hk⟩⟩

/-- scan and lookup of the view at a version on the chain agree, key by key -/
theorem view_scan_agrees_get {s : Ldb} {h : List Ver} (hr : Reach s h) {v : Ver} (hv : v ∈ h) :
    ∃ r, s.get v.id = some r ∧
      ∀ p k val, (k, val) ∈ edEntries (r.rawScan p) ↔ isPrefix p k = true ∧ r.get k = some val := by
  obtain ⟨r, hg, hget, hscan⟩ := hr.inv.view_scan hv
  exact ⟨r, hg, fun p k val => by rw [hget]; exact (hscan p).2 k val⟩

/-- non-vacuity of `Reach`: two commits, a refused commit on the stale first version, a third commit and a pop;
    the final state is reachable with a history of two versions, and the view at the first version (below the
    frontier) still hides what the second wrote; key `[9]`, which holds the empty value at the first version and
    was deleted by the second, is answered by `Get` and listed by the scan of that view (the former F3b witness,
    now positive), and key `[10]`, created by the second version, is not listed -/
example : ∃ s h v1, Reach s h ∧ h.length = 2 ∧ v1 ∈ h ∧ v1.id = ⟨1, [7]⟩ ∧ v1.id ≠ topId h ∧
    v1.store [9] = some [] ∧ v1.store [10] = none ∧ topStore h [10] = some [5] ∧
    (∃ r, s.get v1.id = some r ∧ r.get [9] = some [] ∧ ([9], []) ∈ edEntries (r.rawScan []) ∧
      ∀ val, ([10], val) ∉ edEntries (r.rawScan [])) := by
  let id1 : Id := ⟨1, [7]⟩
  let id2 : Id := ⟨2, [8]⟩
  let id3 : Id := ⟨3, [9]⟩
  let ops1 : Patch := [Op.put [9] []]
  let ops2 : Patch := [Op.put [10] [5], Op.del [9]]
  obtain ⟨s1, r1, f1⟩ := Reach.init.commit (id := id1) (ops := ops1) ⟨⟨by decide, by decide⟩, by simp, by decide⟩
  obtain ⟨s2, r2, f2⟩ := r1.commit (id := id2) (ops := ops2)
    ⟨⟨by rw [f1], by decide⟩, by simp [commitVer, id1, id2], by decide⟩
  -- a commit on the stale version 1 is a no-op
  have hne : id1 ≠ s2.frontierId := by rw [f2]; decide
  have r3 := Reach.addStale r2 hne
    (r2.inv.add_stale_succeeds (v := commitVer [] id1 ops1) (by simp) hne id3 [])
  -- commit 3 and pop it again
  obtain ⟨s4, r4, _⟩ := r3.commit (id := id3) (ops := [])
    ⟨⟨by rw [f2], by decide⟩, by simp [commitVer, id1, id2, id3], by simp⟩
  obtain ⟨s5, p5⟩ := r4.inv.inv0.pop_succeeds
  have r5 := Reach.pop r4 p5
  have hv1 : commitVer [] id1 ops1 ∈ [commitVer [commitVer [] id1 ops1] id2 ops2, commitVer [] id1 ops1] := by simp
  obtain ⟨r, hg, hget, hscan⟩ := r5.inv.view_scan hv1
  refine ⟨s5, _, commitVer [] id1 ops1, r5, rfl, hv1, rfl, by decide, by decide, by decide, by decide,
    r, hg, by rw [hget]; decide, ((hscan []).2 [9] []).2 ⟨by decide, by decide⟩, fun val hm => ?_⟩
  have := (((hscan []).2 [10] val).1 hm).2
  rw [show (commitVer [] id1 ops1).store [10] = none by decide] at this
  cases this


/-! ### T3 — write isolation and change sets -/

/-- T3 `changes_replay`: for a view with its own (key-ordered) top layer directly over a root, replaying the
    view's change set onto the root's content gives exactly what the view reads — for every key. (The right-hand side
    is `layerGet top root k` of Lemmas/ViewScan.lean written out.) -/
theorem changes_replay_layer {top : Raw} (hs : Sorted top) (root : Root) (k : Bytes) :
    applyP root.get (edChanges top) k =
      edDecode (match rget top k with | some v => some v | none => root.rawGet k) := by
  rw [applyP_edChanges hs]
  exact (edDecode_layer top (root.rawGet k) k).symm

/-- the driver's view tree, first-level view: its reads and scans are `layerGet` / `layerRawScan` -/
theorem view_tree_layer (vs : Views) (n : String) (top : Raw) (root : Root)
    (hn : findNode vs n = some (.layer top none root)) :
    (∀ k, getV vs n k = layerGet top root k) ∧ (∀ p, scanV vs n p = edEntries (layerRawScan top root p)) := by
  constructor
  · intro k; simp only [getV, rawGetV, hn, layerGet, layerRawGet]; cases rget top k <;> rfl
  · intro p; simp only [scanV, rawScanV, hn, layerRawScan]

/-- the same on the driver's view tree: `Changes()` of a first-level view replayed over its root = its reads -/
theorem changes_replay_view (vs : Views) (n : String) (top : Raw) (root : Root)
    (hn : findNode vs n = some (.layer top none root)) (hs : Sorted top) (k : Bytes) :
    applyP root.get (changesV vs n) k = getV vs n k := by
  have h1 : changesV vs n = edChanges top := by
    simp [changesV, rawChangesV, hn, rscan_nil_prefix]
  rw [h1, (view_tree_layer vs n top root hn).1, layerGet_eq, applyP_edChanges hs]

/-- every top layer a view can have (writes through `Put`/`Delete` starting from the empty memdb) is key-ordered -/
theorem top_layer_sorted (p : Patch) : Sorted (edApply [] p) := Sorted.nil.edApply p

/-- the change set of a view that received the writes `p` replays to the same logical effect as `p` -/
theorem changes_of_writes (s : Store) (p : Patch) : applyP s (edChanges (edApply [] p)) = applyP s p := by
  rw [applyP_edChanges_edApply Sorted.nil]; rfl

/-- `changes_order_independent`: the change set depends only on the final content of the top layer, not on the
    order (or repetition) of the writes that produced it — two write sequences leaving the same raw lookup
    function produce the identical operation list (hence identical dumps and changes hashes). -/
theorem changes_order_independent (p q : Patch)
    (h : ∀ k, rget (edApply [] p) k = rget (edApply [] q) k) :
    edChanges (edApply [] p) = edChanges (edApply [] q) := by
  rw [sorted_ext (top_layer_sorted p) (top_layer_sorted q) h]

/-- instances: writes to different keys may be swapped, an overwritten write may be dropped — anywhere in the
    sequence — without changing the change set -/
theorem changes_swap (pre post : Patch) (o1 o2 : Op) (hk : o1.key ≠ o2.key) :
    edChanges (edApply [] (pre ++ o1 :: o2 :: post)) = edChanges (edApply [] (pre ++ o2 :: o1 :: post)) := by
  simp only [edApply, List.foldl_append, List.foldl_cons]
  exact congrArg (fun t => edChanges (post.foldl edApplyOp t)) (edApplyOp_comm (top_layer_sorted pre) o1 o2 hk)

theorem changes_overwrite (pre post : Patch) (o1 o2 : Op) (hk : o1.key = o2.key) :
    edChanges (edApply [] (pre ++ o1 :: o2 :: post)) = edChanges (edApply [] (pre ++ o2 :: post)) := by
  simp only [edApply, List.foldl_append, List.foldl_cons]
  exact congrArg (fun t => edChanges (post.foldl edApplyOp t)) (edApplyOp_overwrite _ o1 o2 hk)

/-- T3 on the manager: committing the change set of a view opened on the frontier installs exactly what that view
    read (then the three bookkeeping writes of `SetFrontier` on top) -/
theorem commit_installs_view {s s' : Ldb} {h : List Ver} (hr : Reach s h) {top : Raw} (hs : Sorted top)
    (id : Id) (ha : s.add s.frontierId id (edChanges top) = some s') (k : Bytes) :
    abs s'.frontier k =
      applyP (fun x => edDecode (match rget top x with | some v => some v | none => rget s.frontier x))
        (frontierOps id) k := by
  have he := hr.inv.inv0.add_eq id (edChanges top) ha
  subst he
  rw [abs_edApply, applyP_append]
  congr 2
  funext x
  exact changes_replay_layer hs (Root.front s.frontier) x

/-- the stored redo patch (`GetPatch`) of every version on the chain is that version's patch, and replaying the
    chain's patches oldest-first from the empty store reproduces the frontier content. (Model level only: the
    `patches` table follows the Go code but is not exercised by the `vdb` stream.) -/
theorem patches_replay {s : Ldb} {h : List Ver} (hr : Reach s h) :
    (∀ v ∈ h, lookupH s.patches v.id.height = some v.patch) ∧
    (h.reverse.map Ver.patch).foldl applyP Store.empty = abs s.frontier := by
  refine ⟨fun v hv => hr.inv.inv0.pt.mem hv, ?_⟩
  rw [hr.inv.inv0.hchain.replay, hr.inv.inv0.front]

example : edChanges (edApply [] [Op.put [5] [1], Op.del [3], Op.put [5] [], Op.put [4] [9]]) =
    [Op.del [3], Op.put [4] [9], Op.put [5] []] := by decide


/-! ### scans through a view that has its own writes (what block processing uses) -/

/-- ordered scan through a view with private writes over ANY root (memdb, frontier snapshot, historical overlay):
    the key-ordered list of exactly the entries the view reads under the prefix -/
theorem layer_scan_spec {top : Raw} (hs : Sorted top) {root : Root} (hw : root.WF) (p : Bytes) :
    OrderedEntries (edEntries (layerRawScan top root p))
      (fun k v => isPrefix p k = true ∧ layerGet top root k = some v) :=
  layer_scan_entries hs hw p

/-- instance: over the frontier snapshot -/
theorem frontier_layer_scan_spec {top base : Raw} (hs : Sorted top) (hb : Sorted base) (p : Bytes) :
    OrderedEntries (edEntries (layerRawScan top (Root.front base) p))
      (fun k v => isPrefix p k = true ∧ layerGet top (Root.front base) k = some v) :=
  layer_scan_entries hs (root := Root.front base) hb p

/-- instance: over a historical root (what a block re-processed on a version below the frontier scans) -/
theorem hist_layer_scan_spec {top rb base : Raw} (hs : Sorted top) (hrb : Sorted rb) (hb : Sorted base) (p : Bytes) :
    OrderedEntries (edEntries (layerRawScan top (Root.hist rb base) p))
      (fun k v => isPrefix p k = true ∧ layerGet top (Root.hist rb base) k = some v) :=
  layer_scan_entries hs (root := Root.hist rb base) ⟨hrb, hb⟩ p

/-- manager level, any version: a view opened at a version `v` on the chain of a reachable state that then
    received the writes `ops` reads `applyP (content of v) ops` on every key, and every ordered prefix scan of it is
    the key-ordered list of exactly those entries. -/
theorem version_view_refines {s : Ldb} {h : List Ver} (hr : Reach s h) {v : Ver} (hv : v ∈ h) (ops : Patch) :
    ∃ r, s.get v.id = some r ∧
      (∀ k, layerGet (edApply [] ops) r k = applyP v.store ops k) ∧
      (∀ p, OrderedEntries (edEntries (layerRawScan (edApply [] ops) r p))
        (fun k val => isPrefix p k = true ∧ applyP v.store ops k = some val)) := by
  obtain ⟨r, hg, hget, hw⟩ := hr.inv.view_wf hv
  exact ⟨r, hg, fun k => by rw [layerGet_edApply, hget], fun p => hget ▸ layer_writes_scan_entries ops hw p⟩

/-- manager level: a view opened on the frontier of a reachable state that then received the writes `ops` reads
    `applyP (frontier content) ops` on every key, and every ordered prefix scan of it is the key-ordered list of
    exactly those entries. -/
theorem frontier_view_refines {s : Ldb} {h : List Ver} (hr : Reach s h) (ops : Patch) :
    ∃ r, s.get s.frontierId = some r ∧
      (∀ k, layerGet (edApply [] ops) r k = applyP (topStore h) ops k) ∧
      (∀ p, OrderedEntries (edEntries (layerRawScan (edApply [] ops) r p))
        (fun k v => isPrefix p k = true ∧ applyP (topStore h) ops k = some v)) := by
  obtain ⟨r, hg, hget, hshape⟩ := hr.inv.inv0.get_frontier
  have hw : r.WF := by
    rcases hshape with ⟨rfl, _⟩ | rfl
    · exact trivial
    · exact hr.inv.inv0.sorted
  exact ⟨r, hg, fun k => by rw [layerGet_edApply, hget], fun p => hget ▸ layer_writes_scan_entries ops hw p⟩

/-- non-vacuity: a concrete two-commit history; the view at the first version hides the later write and deletion -/
example :
    let s1 : Store := applyP Store.empty [Op.put [3] [7], Op.put [4] []]
    let ps : List Patch := [[Op.put [3] [8], Op.del [4]], [Op.put [5] [1]]]
    viewOf (overlayAfter s1 Overlay.empty ps) (frontierAfter s1 ps) [3] = some [7] ∧
    viewOf (overlayAfter s1 Overlay.empty ps) (frontierAfter s1 ps) [4] = some [] ∧
    viewOf (overlayAfter s1 Overlay.empty ps) (frontierAfter s1 ps) [5] = none ∧
    frontierAfter s1 ps [3] = some [8] := by
  decide

end ZV.C07
