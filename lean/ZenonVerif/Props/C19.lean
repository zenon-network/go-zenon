import ZenonVerif.Model.Wallet
import ZenonVerif.Lemmas.Wallet
/-
C19 — wallet key files: property theorems only. The primitives are parameters (`C : Crypto`); the laws used are
fields of `Crypto`. NOT a theorem, by nature: "decryption fails with any other password or after any change to
ciphertext, nonce or salt" is the authenticity of AES-GCM and the collision behaviour of Argon2id — a cryptographic
assumption. It is covered by the `wallet` stream only (wrong passwords, single-bit flips on the real code).
-/
namespace ZV.C19
open ZV ZV.Wallet

/-- T1 `path_grammar`: `isValidPath` accepts exactly `m(/<decimal>')+` with every decimal below 2^32. -/
theorem path_grammar (p : Bytes) : isValidPath p = true ↔ PathGrammar p := isValidPath_iff p

/-- the regular expression the automaton `pstep` was written for is the one in the tree, and both
    `strconv.ParseUint` calls use base 10 / 32 bits -/
theorem path_regex_fact :
    Gen.pathRegexSrc = "^m(\\/[0-9]+')+$" ∧ Gen.parseUintArgs_isValidPath = [10, 32] ∧
      Gen.parseUintArgs_DeriveForPath = [10, 32] := by decide

/-- T2a `hardened_only`: every HMAC step `DeriveForPath` issues below the master key uses an index in
    [2^31, 2^32) — there is no public (non-hardened) derivation, whatever the path and the primitives. -/
theorem hardened_only (C : CryptoFns) (path seed : Bytes) :
    ∀ q ∈ (deriveForPathLog C path seed).1,
      q = .master seed ∨ ∃ chain key i, q = .child chain key i ∧ two31 ≤ i ∧ i < two32 := by
  unfold deriveForPathLog
  split
  · simp
  · apply deriveSegs_hardened C seed
    intro q hq
    simp only [List.mem_singleton] at hq
    exact Or.inl hq

/-- T2a′: the single step `key.derive(i)` refuses exactly the non-hardened indices (no public derivation). -/
theorem derive_refuses (C : CryptoFns) (k : Key) (i : Nat) :
    (derive C k i = .error .noPublicDerivation ↔ i < two31) ∧
      (two31 ≤ i → derive C k i = .ok (splitKey (C.hmac k.chain (0 :: (k.key ++ beBytes 4 i))))) := by
  have h : Gen.FirstHardenedIndex = two31 := by decide
  rw [deriveSegs_step, h]
  constructor
  · by_cases hi : i < two31
    · simp [hi]
    · simp [hi]
  · intro hi
    have : ¬ i < two31 := by omega
    simp [this, ask, Query.hkey, Query.msg, deriveInput]

/-- T2b: outcome of `DeriveForPath` on a path of the grammar with digit strings `segs`: it succeeds iff every
    segment value is below 2^31; otherwise (a value in [2^31, 2^32): the uint32 sum `v + 0x80000000` wraps below
    2^31) it is refused with ErrNoPublicDerivation. Paths outside the grammar are ErrInvalidPath (T2c). -/
theorem derive_outcome (C : CryptoFns) (segs : List Bytes) (seed : Bytes) (hne : segs ≠ [])
    (h : ∀ d ∈ segs, DigitStr d ∧ decVal d < two32) :
    (if ∀ d ∈ segs, decVal d < two31 then ∃ k, deriveKey C (pathOf segs) seed = .ok k
     else deriveKey C (pathOf segs) seed = .error .noPublicDerivation) :=
  deriveKey_outcome C segs seed hne h

/-- T2c: a path outside the grammar is refused with ErrInvalidPath and issues no HMAC query at all. -/
theorem derive_invalid (C : CryptoFns) (p seed : Bytes) (h : ¬ PathGrammar p) :
    deriveForPathLog C p seed = ([], .error .invalidPath) := by
  have : isValidPath p = false := by
    cases hv : isValidPath p with
    | false => rfl
    | true => exact absurd ((isValidPath_iff p).1 hv) h
  simp [deriveForPathLog, this]

/-- T2d: `DeriveWithIndex(i)` (path m/44'/73404'/i') succeeds exactly for the indices below 2^31. -/
theorem derive_index (C : CryptoFns) (i : Nat) (seed : Bytes) (hi : i < two32) :
    (∃ kp, deriveWithIndex C i seed = .ok kp) ↔ i < two31 := by
  have h44 : (DigitStr [52, 52] ∧ decVal [52, 52] < two32) ∧ decVal [52, 52] < two31 :=
    ⟨⟨⟨by simp, by decide⟩, by decide⟩, by decide⟩
  have hcoin : (DigitStr [55, 51, 52, 48, 52] ∧ decVal [55, 51, 52, 48, 52] < two32) ∧
      decVal [55, 51, 52, 48, 52] < two31 := ⟨⟨⟨by simp, by decide⟩, by decide⟩, by decide⟩
  have hout := deriveKey_outcome C [[52, 52], [55, 51, 52, 48, 52], decBytes i] seed (by simp) (by
    simp only [List.forall_mem_cons, decVal_decBytes]
    exact ⟨h44.1, hcoin.1, ⟨decBytes_digitStr i, hi⟩, by simp⟩)
  simp only [List.forall_mem_cons, decVal_decBytes, h44.2, hcoin.2, true_and, List.not_mem_nil, false_imp_iff,
    implies_true, and_true] at hout
  unfold deriveWithIndex deriveForPath
  rw [indexPath_eq]
  by_cases hlt : i < two31
  · obtain ⟨k, hk⟩ := (if_pos hlt).mp hout
    exact ⟨fun _ => hlt, fun _ => ⟨toKeyPair C k, by rw [hk]; rfl⟩⟩
  · rw [(if_neg hlt).mp hout]
    exact ⟨fun ⟨_, h⟩ => (nomatch h), fun h => absurd h hlt⟩

/-- T3a `derive_layout`: the data hashed in one step is 0x00 ‖ key ‖ be32(i): 37 bytes for a 32-byte key. -/
theorem derive_layout (chain key : Bytes) (i : Nat) (hk : key.length = 32) :
    (Query.child chain key i).msg = 0 :: (key ++ beBytes 4 i) ∧ (Query.child chain key i).msg.length = 37 ∧
      (Query.child chain key i).hkey = chain := by
  simp [Query.msg, Query.hkey, deriveInput, beBytes, leBytes_length, hk]

/-- T3b: the map (key, i) ↦ HMAC input is injective on 32-byte keys and uint32 indices. -/
theorem derive_input_injective (k₁ k₂ : Bytes) (i₁ i₂ : Nat) (h₁ : k₁.length = 32) (h₂ : k₂.length = 32)
    (hi₁ : i₁ < two32) (hi₂ : i₂ < two32) (h : deriveInput k₁ i₁ = deriveInput k₂ i₂) : k₁ = k₂ ∧ i₁ = i₂ := by
  unfold deriveInput at h
  have h' := List.tail_eq_of_cons_eq h
  have hk := List.append_inj h' (by omega)
  exact ⟨hk.1, beBytes_inj 4 i₁ i₂ (by simpa [two32] using hi₁) (by simpa [two32] using hi₂) hk.2⟩

/-- T3c: the master key is HMAC-SHA512(key = "ed25519 seed", seed) split 32/32. -/
theorem master_layout (C : CryptoFns) (seed : Bytes) :
    newMasterKey C seed = splitKey (C.hmac [101, 100, 50, 53, 53, 49, 57, 32, 115, 101, 101, 100] seed) := rfl

/-- T3d: with a 64-byte HMAC every derived key and chain code is 32 bytes (so T3a/T3b apply at every step). -/
theorem ask_lengths (C : Crypto) (q : Query) : (ask C.toCryptoFns q).key.length = 32 ∧ (ask C.toCryptoFns q).chain.length = 32 := by
  simp [ask, splitKey, C.hmac_len]

/-- the two Argon2id parameter lists and the two additional-data strings in the tree coincide (regenerated) -/
theorem kdf_ad_fact : Gen.argonParams_Set = Gen.argonParams_SetFromJSON ∧ Gen.sealAD = Gen.openAD ∧
    Gen.sealAD = [122, 101, 110, 111, 110] ∧ Gen.argonParams_Set = [1, 65536, 4, 32] ∧
    Gen.nonceLen = 12 ∧ Gen.saltLen = 16 ∧ Gen.nonceLen = Gen.gcmNonceSize := by decide

/-- T4a `keyfile_roundtrip`: decrypting the key file made from `ks` with password `pw` (any salt, any nonce of the
    length `Encrypt` draws) with the same password yields exactly the entropy of `ks`. Uses only `open_seal`. -/
theorem keyfile_roundtrip (C : Crypto) (ks : KeyStore) (pw salt nonce : Bytes) (hn : nonce.length = Gen.nonceLen) :
    decryptEntropy C.toCryptoFns (encrypt C.toCryptoFns ks pw salt nonce) pw = .ok ks.entropy := by
  have h1 : Gen.argonParams_SetFromJSON = Gen.argonParams_Set := by decide
  have h2 : Gen.openAD = Gen.sealAD := by decide
  have h3 : Gen.nonceLen = Gen.gcmNonceSize := by decide
  simp only [decryptEntropy, encrypt, h1, h2, C.open_seal, hn, h3, ne_eq, not_true_eq_false, if_false]

/-- T4b: … and the whole key store is recovered: `Decrypt(Encrypt(ks))` = `keyStoreFromEntropy(entropy)` = `ks`
    for every key store that came from `keyStoreFromEntropy`; the written file passes `ReadKeyFile`'s checks. -/
theorem keystore_roundtrip (C : Crypto) (entropy : Bytes) (ks : KeyStore) (pw salt nonce : Bytes)
    (hn : nonce.length = Gen.nonceLen) (hks : keyStoreFromEntropy C.toCryptoFns entropy = .ok ks) :
    readChecks (encrypt C.toCryptoFns ks pw salt nonce) = .ok (encrypt C.toCryptoFns ks pw salt nonce) ∧
    decrypt C.toCryptoFns (encrypt C.toCryptoFns ks pw salt nonce) pw = .ok ks := by
  have he : ks.entropy = entropy := (keyStoreFromEntropy_ok C.toCryptoFns entropy ks hks).1
  refine ⟨by simp [readChecks, encrypt], ?_⟩
  simp only [decrypt, keyfile_roundtrip C ks pw salt nonce hn, he, hks]

/-- T4d: the JSON text of the three byte fields (`hexutil.Bytes`: "0x" + hex) reads back to the same bytes, so
    write → read is the identity on (cipherData, nonce, salt). -/
theorem keyfile_text_roundtrip (kf : KeyFile) (h1 : kf.cipherData.WF) (h2 : kf.nonce.WF) (h3 : kf.salt.WF) :
    kf.text.parse = some (kf.cipherData, kf.nonce, kf.salt) := by
  simp [KeyFile.text, KeyFileText.parse, hexutil_roundtrip _ h1, hexutil_roundtrip _ h2, hexutil_roundtrip _ h3]

/-- T4e (one step): no operation on a key file object — decrypting with the right or a wrong
    password, unlocking / locking through the Manager, writing it and reading it back, wiping a key store that was
    handed out — changes the key file the object holds. -/
theorem kfStep_keyfile (C : CryptoFns) (h : KfHolder) (op : KfOp)
    (h1 : h.kf.cipherData.WF) (h2 : h.kf.nonce.WF) (h3 : h.kf.salt.WF) : (kfStep C h op).1.kf = h.kf := by
  cases op with
  | decrypt pw => rfl
  | unlock pw =>
    simp only [kfStep]
    split <;> rfl
  | lock => rfl
  | writeRead =>
    simp only [kfStep, keyfile_text_roundtrip h.kf h1 h2 h3]
  | scrub => rfl

/-- T4e (sequences): after ANY sequence of operations the object holds the key file it started with. -/
theorem kfRun_keyfile (C : CryptoFns) (ops : List KfOp) (h : KfHolder)
    (h1 : h.kf.cipherData.WF) (h2 : h.kf.nonce.WF) (h3 : h.kf.salt.WF) : (kfRun C h ops).1.kf = h.kf := by
  induction ops generalizing h with
  | nil => rfl
  | cons op ops ih =>
    have hs := kfStep_keyfile C h op h1 h2 h3
    simp only [kfRun]
    rw [ih (kfStep C h op).1 (hs ▸ h1) (hs ▸ h2) (hs ▸ h3), hs]

/-- T4f: whatever was done with the object before (any sequence of operations with any
    passwords), the key file made from `ks` with password `pw` still decrypts with `pw` to exactly the entropy of
    `ks` — the round trip holds on every decryption, not only the first. -/
theorem kfRun_right_password (C : Crypto) (ks : KeyStore) (pw salt nonce : Bytes) (unl : Option Bytes)
    (ops : List KfOp) (hn : nonce.length = Gen.nonceLen)
    (h1 : (encrypt C.toCryptoFns ks pw salt nonce).cipherData.WF) (h2 : nonce.WF) (h3 : salt.WF) :
    (kfStep C.toCryptoFns (kfRun C.toCryptoFns ⟨encrypt C.toCryptoFns ks pw salt nonce, unl⟩ ops).1 (.decrypt pw)).2 =
      .entropy (.ok ks.entropy) := by
  have hk := kfRun_keyfile C.toCryptoFns ops ⟨encrypt C.toCryptoFns ks pw salt nonce, unl⟩ h1 h2 h3
  simp only [kfStep, hk, keyfile_roundtrip C ks pw salt nonce hn]

/-- T4b′: what the code does on a key file whose nonce is not 12 bytes: `Decrypt` does not return an error, the AEAD
    panics (modelled as the outcome `nonceLength`). A file written by `Encrypt` never has such a nonce (T4a). -/
theorem decrypt_bad_nonce_length (C : CryptoFns) (kf : KeyFile) (pw : Bytes) (h : kf.nonce.length ≠ 12) :
    decryptEntropy C kf pw = .error .nonceLength := by
  have : Gen.gcmNonceSize = 12 := by decide
  simp [decryptEntropy, this, h]

/-- T4c: the address recorded in the key file is the address of derivation index 0 of the seed. -/
theorem keyfile_base_address (C : CryptoFns) (entropy : Bytes) (ks : KeyStore) (pw salt nonce : Bytes)
    (hks : keyStoreFromEntropy C entropy = .ok ks) :
    ∃ kp, deriveWithIndex C 0 ks.seed = .ok kp ∧ (encrypt C ks pw salt nonce).baseAddress = kp.address :=
  (keyStoreFromEntropy_ok C entropy ks hks).2

/-- T4g: the members of a key file that are not bound to the password — the recorded address, the names, the version —
    have no influence on the key store `Decrypt` returns. -/
theorem decrypt_ignores_unauthenticated (C : CryptoFns) (kf : KeyFile) (pw a cn kd : Bytes) (v : Nat) :
    decrypt C { kf with baseAddress := a, cipherName := cn, kdf := kd, version := v } pw = decrypt C kf pw := rfl

/-- T4h: whatever address a key file records, the base address of the key store decrypted from it is the address of
    derivation index 0 of the decrypted entropy's seed, the key store is the one of that entropy, and the key file made
    from it again (`Encrypt` with any password / salt / nonce) records that index-0 address. -/
theorem decrypt_base_address (C : CryptoFns) (kf : KeyFile) (pw : Bytes) (ks : KeyStore)
    (h : decrypt C kf pw = .ok ks) (pw' salt nonce : Bytes) :
    keyStoreFromEntropy C ks.entropy = .ok ks ∧
    ∃ kp, deriveWithIndex C 0 ks.seed = .ok kp ∧ ks.baseAddress = kp.address ∧
      (encrypt C ks pw' salt nonce).baseAddress = kp.address := by
  unfold decrypt at h
  split at h
  · cases h
  · rename_i e _
    obtain ⟨he, kp, hkp, hb⟩ := keyStoreFromEntropy_ok C e ks h
    exact ⟨by rw [he]; exact h, kp, hkp, hb, hb⟩

/-- T5 `address_layout`: the address of a public key is 0x00 ‖ sha3(pk)[0:19], 20 bytes. -/
theorem address_layout (C : Crypto) (pk : Bytes) :
    pubKeyToAddress C.toCryptoFns pk = 0 :: (C.sha3 pk).take 19 ∧ (pubKeyToAddress C.toCryptoFns pk).length = 20 := by
  simp [pubKeyToAddress, Gen.UserAddrByte, Gen.AddressCoreSize, C.sha3_len]

/-- T5b: every derived key pair carries the address of its own public key. -/
theorem keypair_address (C : CryptoFns) (path seed : Bytes) (kp : KeyPair) (h : deriveForPath C path seed = .ok kp) :
    kp.address = pubKeyToAddress C kp.pub ∧ kp.pub = C.edPub kp.secret := by
  unfold deriveForPath at h
  cases hk : deriveKey C path seed with
  | error e => simp [hk, Except.map] at h
  | ok k =>
    simp only [hk, Except.map, Except.ok.injEq] at h
    subst h
    simp [toKeyPair]

/-- T6 `sign_verify`: a signature made with a derived key verifies under its public key. From `verify_sign`. -/
theorem sign_verify (C : Crypto) (path seed msg : Bytes) (kp : KeyPair)
    (h : deriveForPath C.toCryptoFns path seed = .ok kp) :
    verify C.toCryptoFns kp.pub msg (sign C.toCryptoFns kp msg) = true := by
  have hp := (keypair_address C.toCryptoFns path seed kp h).2
  simp only [verify, sign, hp, C.verify_sign]

/-- determinism: key pair and address are functions of (seed, path); key store of the entropy — by construction
    (`deriveForPath`, `keyStoreFromEntropy` are Lean functions); stated for the record on equal inputs. -/
theorem derive_deterministic (C : CryptoFns) (p₁ p₂ s₁ s₂ : Bytes) (hp : p₁ = p₂) (hs : s₁ = s₂) :
    deriveForPath C p₁ s₁ = deriveForPath C p₂ s₂ := by subst hp; subst hs; rfl

/-- hypotheses are satisfiable: a (cryptographically worthless) instance of `Crypto` exists … -/
example : Crypto := toyCrypto
/-- … and with it index 0 derives and the key file round-trips on a concrete 16-byte entropy -/
example : ∃ ks, keyStoreFromEntropy toyCrypto.toCryptoFns (List.replicate 16 7) = .ok ks ∧
    decrypt toyCrypto.toCryptoFns (encrypt toyCrypto.toCryptoFns ks [1] [2] (List.replicate 12 3)) [1] = .ok ks := by
  obtain ⟨kp, hkp⟩ := (derive_index toyCrypto.toCryptoFns 0 (List.replicate 16 7) (by decide)).2 (by decide)
  have hks : keyStoreFromEntropy toyCrypto.toCryptoFns (List.replicate 16 7) =
      .ok ⟨List.replicate 16 7, List.replicate 16 7, List.replicate 16 7, kp.address⟩ := by
    have hm : toyCrypto.toCryptoFns.mnemonic (List.replicate 16 7) = some (List.replicate 16 7) := by decide
    have hs : toyCrypto.toCryptoFns.seed (List.replicate 16 7) = List.replicate 16 7 := rfl
    simp only [keyStoreFromEntropy, hm, hs, hkp]
  exact ⟨_, hks, (keystore_roundtrip toyCrypto _ _ [1] [2] (List.replicate 12 3) (by decide) hks).2⟩

end ZV.C19
