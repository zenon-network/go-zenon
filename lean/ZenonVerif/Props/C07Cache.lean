import ZenonVerif.Lemmas.LdbCache
/-
C07 "… regardless of commits or rollbacks made afterwards, OF THE CACHE STATE …" and C06 "rollback leaves no trace" for the
two-level rollback-overlay cache of the leveldb manager — with the caches INSIDE the model.

`CLdb` (Model/VersionedCache.lean) = the cache-free manager `Ldb` + heap of mutable overlay objects + l1 / l2 (identifier ↦
(tag, object pointer)) + the views handed out so far (identifier, snapshot, object pointer). `CReach cfg s h`: `s` is reachable
from the empty manager by ANY sequence of commits on the frontier, commits on stale parents (their `Get(previous)` files an
overlay too), pops, `Get`s of arbitrary identifiers, evictions of arbitrary entries at arbitrary moments (the LRU policy as
nondeterminism) and `Stop`; `h` is the ghost history of the current chain. `cfg.Purges`: `Pop` purges both levels — what the
AST of the working tree says about the code (`code_purges`).
The invariant `CInv` and its preservation are in Lemmas/LdbCache.lean.
-/
namespace ZV.C07Cache
open ZV ZV.Kv ZV.KvLogic ZV.Versioned ZV.VersionedCache

/-! ### the tie to the code: facts regenerated from the AST of common/db on every run -/

/-- the model's configuration of the code purges both levels on `Pop` (regenerated: `Pop` contains the two `Purge()` calls
    as unconditional top-level statements after the leveldb write) -/
theorem code_purges : Cfg.code.Purges := ⟨by decide, by decide⟩

/-- `Pop`, statement by statement: write the batch, then lock, purge l1, purge l2, unlock -/
theorem pop_statements_reviewed : Gen.VdbPopStmts =
    ["frontierIdentifier := GetFrontierIdentifier(m.Frontier())",
     "rollbackPatch := m.getRollback(frontierIdentifier.Height)",
     "batch := new(leveldb.Batch)",
     "if err := ApplyPatch(newBatchWriter(m.ldb, batch).Subset(frontierByte), rollbackPatch); err != nil",
     "batch.Delete(common.JoinBytes(patchByte, common.Uint64ToBytes(frontierIdentifier.Height)))",
     "batch.Delete(common.JoinBytes(rollbackByte, common.Uint64ToBytes(frontierIdentifier.Height)))",
     "if err := m.ldb.Write(batch, nil); err != nil",
     "m.changes.Lock()", "m.l1Cache.Purge()", "m.l2Cache.Purge()", "m.changes.Unlock()", "return nil"] := rfl

/-- every access to the two cache fields in package common/db: created in the constructor, looked up and filed by `Get`,
    purged by `Pop`, dropped by `Stop` — nothing else reads or writes them (`Add` reaches them only through `Get`) -/
theorem cache_writers_reviewed : Gen.VdbCacheAccesses =
    [("NewLevelDBManager", "l1Cache", "init l1Cache"),
     ("NewLevelDBManager", "l2Cache", "init l2Cache"),
     ("ldbManager.Get", "l1Cache", "Get(identifier)"),
     ("ldbManager.Get", "l2Cache", "Get(identifier)"),
     ("ldbManager.Get", "l1Cache", "Add(identifier, &rollbackCache{ frontier: frontierIdentifier, raw: rawChanges, })"),
     ("ldbManager.Get", "l2Cache", "Add(identifier, &rollbackCache{ frontier: frontierIdentifier, raw: rawChanges, })"),
     ("ldbManager.Pop", "l1Cache", "Purge()"),
     ("ldbManager.Pop", "l2Cache", "Purge()"),
     ("ldbManager.Stop", "l1Cache", "= nil"),
     ("ldbManager.Stop", "l2Cache", "= nil")] := rfl

/-- `Get`: l1 is looked up first, l2 only on an l1 miss, a fresh object only when both miss; the loop folds
    `getRollback(i)` without override; the entry is filed under `identifier` with tag `frontierIdentifier` in l1 when
    absDiff < maximumCacheHeightDifference, else in l2 — the other level is not touched -/
theorem get_calls_reviewed : Gen.VdbGetCalls =
    [("Get", "m.l1Cache.Get(identifier)", ""),
     ("Get", "m.l2Cache.Get(identifier)", "!(ok)"),
     ("Get", "newMemDBInternal()", "!(ok) && !(ok)"),
     ("Get", "m.getRollback(i)", "for i <= frontierIdentifier.Height"),
     ("Get", "ApplyWithoutOverride(rawChanges, rollback)", "for i <= frontierIdentifier.Height"),
     ("Get", "m.l1Cache.Add(identifier, &rollbackCache{ frontier: frontierIdentifier, raw: rawChanges, })",
       "absDiff(identifier.Height, frontierIdentifier.Height) < maximumCacheHeightDifference"),
     ("Get", "m.l2Cache.Add(identifier, &rollbackCache{ frontier: frontierIdentifier, raw: rawChanges, })",
       "!(absDiff(identifier.Height, frontierIdentifier.Height) < maximumCacheHeightDifference)"),
     ("Get", "newMemDBInternal()", "")] := rfl

/-- `Get`: where the loop starts from — the tag of the hit entry, or the identifier itself for a fresh object -/
theorem get_assigns_reviewed : Gen.VdbGetAssigns =
    [("Get", "toIdentifier = cache.(*rollbackCache).frontier", "ok"),
     ("Get", "rawChanges = cache.(*rollbackCache).raw", "ok"),
     ("Get", "toIdentifier = cache.(*rollbackCache).frontier", "!(ok) && ok"),
     ("Get", "rawChanges = cache.(*rollbackCache).raw", "!(ok) && ok"),
     ("Get", "rawChanges = newMemDBInternal()", "!(ok) && !(ok)"),
     ("Get", "toIdentifier = identifier", "!(ok) && !(ok)")] := rfl

/-- the bounds of the extension loop: heights toIdentifier.Height + 1 … frontierIdentifier.Height -/
theorem get_loop_bounds : Gen.VdbGetLoops =
    [" => for i := toIdentifier.Height + 1; i <= frontierIdentifier.Height; i += 1"] := rfl

theorem stop_statements_reviewed : Gen.VdbStopStmts =
    ["m.changes.Lock()", "defer m.changes.Unlock()", "if err := m.ldb.Close(); err != nil", "m.stopped = true",
     "m.ldb = nil", "m.l1Cache = nil", "m.l2Cache = nil", "return nil"] := rfl

/-- the cache parameters are constants of the package (a hook cannot shorten them; the stream reaches eviction with the
    real capacities) with these values -/
theorem cache_constants : Gen.VdbCacheParamsAreConst = true ∧ Gen.l1CacheSize = 400 ∧ Gen.l2CacheSize = 100 ∧
    Gen.maximumCacheHeightDifference = 360 ∧ Cfg.code.maxDiff = 360 := by decide

/-! ### cache transparency -/

/-- what a caller observes of a `Get`: the root it is handed, with the overlay pointer dereferenced in the heap after the
    call -/
def answer (cfg : Cfg) (s : CLdb) (i : Id) : Option Root :=
  (s.get cfg i).2.map (CRoot.resolve (s.get cfg i).1.heap)

/-- the cache-free projection of every reachable cached state is a reachable state of the cache-free manager of
    Model/Versioned.lean with the same history: all theorems of Props/C07.lean and Props/C06.lean about `Reach` apply -/
theorem projection_reachable {cfg : Cfg} (hp : cfg.Purges) {s : CLdb} {h : List Ver} (hr : CReach cfg s h) :
    Reach s.ldb h := hr.reach hp

/-- `cached_get_eq_uncached` — "regardless of the cache state". In EVERY reachable cached state (any history of commits,
    stale commits, pops, gets, evictions; any content of l1 and l2, stale entries of the other level included), for EVERY
    identifier, `Get` hands out exactly the root the cache-free `Ldb.get` builds from scratch — the same overlay, entry by
    entry, over the same snapshot — or refuses exactly when it refuses; and the store itself is not touched. -/
theorem cached_get_eq_uncached {cfg : Cfg} (hp : cfg.Purges) {s : CLdb} {h : List Ver} (hr : CReach cfg s h)
    (hs : s.stopped = false) (i : Id) :
    answer cfg s i = s.ldb.get i ∧ (s.get cfg i).1.ldb = s.ldb := by
  have hg := (hr.inv hp).get (cfg := cfg) hs i
  exact ⟨hg.answer, hg.ldb⟩

/-- spelled out for the three kinds of read: every lookup, every existence test and every ordered prefix scan through the
    view handed out by the cached `Get` is what the same read through the cache-free view returns -/
theorem cached_get_reads_eq_uncached {cfg : Cfg} (hp : cfg.Purges) {s : CLdb} {h : List Ver} (hr : CReach cfg s h)
    (hs : s.stopped = false) (i : Id) :
    match answer cfg s i, s.ldb.get i with
    | some r, some r' => (∀ k, r.get k = r'.get k) ∧ (∀ k, (r.get k).isSome = (r'.get k).isSome) ∧
        (∀ p, edEntries (r.rawScan p) = edEntries (r'.rawScan p))
    | none, none => True
    | _, _ => False := by
  rw [(cached_get_eq_uncached hp hr hs i).1]
  cases s.ldb.get i with
  | none => trivial
  | some r => exact ⟨fun _ => rfl, fun _ => rfl, fun _ => rfl⟩

/-- hence C07-T1 for the CACHED manager: in every reachable cached state `Get(id of a version on the chain)` succeeds and
    the view reads, for every key, the content that version had when it was committed; every ordered prefix scan is the
    key-ordered list of exactly those entries -/
theorem cached_view_shows_version {cfg : Cfg} (hp : cfg.Purges) {s : CLdb} {h : List Ver} (hr : CReach cfg s h)
    (hs : s.stopped = false) {v : Ver} (hv : v ∈ h) :
    ∃ r, answer cfg s v.id = some r ∧ (∀ k, r.get k = v.store k) ∧
      ∀ p, OrderedEntries (edEntries (r.rawScan p)) (fun k val => isPrefix p k = true ∧ v.store k = some val) := by
  obtain ⟨r, hg, hget, hscan⟩ := (hr.inv hp).inv.view_scan hv
  exact ⟨r, by rw [(cached_get_eq_uncached hp hr hs v.id).1, hg], fun k => congrFun hget k, hscan⟩

/-- an identifier that is not on the current chain — in particular one of an abandoned branch — is refused whatever the
    caches hold -/
theorem cached_unknown_id_refused {cfg : Cfg} (hp : cfg.Purges) {s : CLdb} {h : List Ver} (hr : CReach cfg s h)
    (hs : s.stopped = false) {id : Id} (hz : id.isZero = false) (hid : ∀ v ∈ h, v.id ≠ id) :
    answer cfg s id = none := by
  rw [(cached_get_eq_uncached hp hr hs id).1]
  exact (hr.inv hp).inv.get_unknown hz hid

/-- after `Stop` nothing is served and nothing is cached -/
theorem stopped_serves_nothing (cfg : Cfg) (s : CLdb) (i : Id) :
    answer cfg s.stop i = none ∧ s.stop.l1 = [] ∧ s.stop.l2 = [] := by
  refine ⟨?_, rfl, rfl⟩
  simp [answer, get_stopped cfg s.stop i rfl]

/-! ### aliasing: views handed out earlier share the overlay object that later `Get`s extend in place -/

/-- `old_views_survive_in_place_extension`. Take any reachable state and any version `v` below the frontier; `Get(v.id)`
    hands out a view = (pointer `o` to an overlay object, the snapshot of that moment). Let ANYTHING happen afterwards
    (`CSteps`: commits, stale commits, pops — also of `v` itself —, evictions, and in particular later `Get(v.id)` under later
    frontiers, which find the object in l1 / l2 and EXTEND IT IN PLACE while this view still points to it): the view, read
    through the heap of the later state over its OLD snapshot, still reads the content of `v` on every key, and each of its
    ordered prefix scans is still the key-ordered list of exactly `v`'s entries.
    Why: `ApplyWithoutOverride` adds an entry only for a key the object does not hold yet — a key no commit between `v` and
    the undo patch being folded touched — and the value it adds is the one the key had before that later commit, which is
    the value in the old snapshot and in `v` (`viewOf_extend`, `overlay_view_at`); after a `Pop` the object is referenced by
    no cache entry any more and is never written again. -/
theorem old_views_survive_in_place_extension {cfg : Cfg} (hp : cfg.Purges) {s : CLdb} {h : List Ver}
    (hr : CReach cfg s h) (hs : s.stopped = false) {v : Ver} (hv : v ∈ h) (hne : v.id ≠ s.ldb.frontierId) :
    ∃ o, (s.get cfg v.id).2 = some (CRoot.hist o s.ldb.frontier) ∧
      ∀ s2 h2, CSteps cfg (s.get cfg v.id).1 h s2 h2 →
        (∀ k, ((CRoot.hist o s.ldb.frontier).resolve s2.heap).get k = v.store k) ∧
        (∀ p, OrderedEntries (edEntries (((CRoot.hist o s.ldb.frontier).resolve s2.heap).rawScan p))
          (fun k val => isPrefix p k = true ∧ v.store k = some val)) := by
  have hi := hr.inv hp
  obtain ⟨o, hans, hviews, hsh⟩ := hi.get_hist (cfg := cfg) hs hv hne
  refine ⟨o, hans, fun s2 h2 hsteps => ?_⟩
  obtain ⟨_, hsh2⟩ := hsteps.view hp (hi.get hs v.id).inv (by rw [hviews]; exact List.mem_cons_self) hsh
  have hread : (Root.hist (objAt s2.heap o) s.ldb.frontier).get = v.store := by
    rw [Root.get_hist]; exact hsh2.shows
  refine ⟨fun k => congrFun hread k, fun p => ?_⟩
  have h1 := hist_scan_entries hsh2.sortedObj hsh2.sortedSnap p
  refine ⟨h1.1, fun k val => (h1.2 k val).trans ?_⟩
  rw [hsh2.shows]

/-- every view ever handed out that is still listed shows, in every later state, what it showed in any earlier one:
    one step form (what the driver replays: reads of old views go through the CURRENT heap) -/
theorem view_reads_stable_under_steps {cfg : Cfg} (hp : cfg.Purges) {s s' : CLdb} {h h' : List Ver}
    (hr : CReach cfg s h) (hst : CSteps cfg s h s' h') {vw : CView} (hvw : vw ∈ s.views) {X : Store}
    (hsh : ViewShows s vw X) : vw ∈ s'.views ∧ ViewShows s' vw X :=
  hst.view hp (hr.inv hp) hvw hsh

/-! ### rollback leaves no trace in the caches (C06) -/

/-- `pop_purges`: after a successful `Pop` of the code's configuration no cache entry exists -/
theorem pop_purges {s s' : CLdb} (hpop : s.pop Cfg.code = some s') : s'.l1 = [] ∧ s'.l2 = [] := by
  revert hpop
  fun_cases CLdb.pop Cfg.code s
  case case3 => exact fun h => by cases h; exact ⟨by simp [code_purges.1], by simp [code_purges.2]⟩
  all_goals nofun

/-- … and neither the store nor the objects nor the views are touched by the purge: the cached `Pop` is the cache-free
    `Pop` on the projection -/
theorem pop_projects {cfg : Cfg} (hp : cfg.Purges) {s s' : CLdb} {v : Ver} {h : List Ver} (hr : CReach cfg s (v :: h))
    (hpop : s.pop cfg = some s') : s.ldb.pop = some s'.ldb ∧ s'.heap = s.heap ∧ s'.views = s.views := by
  obtain ⟨_, a, b, c, _⟩ := (hr.inv hp).pop hp hpop
  exact ⟨a, b, c⟩

/-- the run used by the negative witnesses: execute a list of operations -/
def run (cfg : Cfg) : CLdb → List COp → CLdb
  | s, [] => s
  | s, op :: t => run cfg (s.step cfg op).1 t

/-- what `Get(i)` followed by a lookup of `k` answers: `none` = refused, `some none` = key not found -/
def readAt (cfg : Cfg) (s : CLdb) (i : Id) (k : Bytes) : Option (Option Bytes) :=
  (answer cfg s i).map (fun r => r.get k)

/-- the code before fix 961d8c2: `Pop` leaves both levels alone -/
def noPurge : Cfg := ⟨false, false, Gen.maximumCacheHeightDifference⟩

/-- commit 1, commit 2, open version 1 (its overlay — the undo patch of commit 2 — is cached under tag 2), pop,
    commit another version 2' that creates key 0b -/
def branchSwitch : List COp :=
  [.add Id.zero ⟨1, [7]⟩ [Op.put [9] [1]], .add ⟨1, [7]⟩ ⟨2, [8]⟩ [Op.put [10] [2]], .get ⟨1, [7]⟩, .pop,
   .add ⟨1, [7]⟩ ⟨2, [6]⟩ [Op.put [11] [3]]]

/-- NEGATIVE WITNESS `pop_without_purge_serves_abandoned_branch` (former finding F5): without the purge the entry
    cached for version 1 survives the pop with tag height 2 = the new frontier height, so no undo patch of the NEW branch
    is folded, and the view of version 1 shows key 0b — created by 2' after version 1 — with the new branch's value,
    while the cache-free `Get` on the same store (and the code's configuration on the same sequence) says "not found" -/
theorem pop_without_purge_serves_abandoned_branch :
    readAt noPurge (run noPurge CLdb.empty branchSwitch) ⟨1, [7]⟩ [11] = some (some [3]) ∧
    ((run noPurge CLdb.empty branchSwitch).ldb.get ⟨1, [7]⟩).map (fun r => r.get [11]) = some none ∧
    readAt Cfg.code (run Cfg.code CLdb.empty branchSwitch) ⟨1, [7]⟩ [11] = some none ∧
    (run noPurge CLdb.empty branchSwitch).l1.length = 1 ∧ (run Cfg.code CLdb.empty branchSwitch).l1.length = 0 := by
  decide +kernel

/-- the same with only ONE of the two purges missing, at a level boundary of 1 (so that the second level is used two
    commits below the frontier): leaving l2 unpurged serves the abandoned branch through l2 -/
theorem pop_without_l2_purge_serves_abandoned_branch :
    readAt ⟨true, false, 1⟩ (run ⟨true, false, 1⟩ CLdb.empty branchSwitch) ⟨1, [7]⟩ [11] = some (some [3]) ∧
    readAt ⟨true, true, 1⟩ (run ⟨true, true, 1⟩ CLdb.empty branchSwitch) ⟨1, [7]⟩ [11] = some none := by
  decide +kernel

/-! ### evictions, commits, tags -/

/-- what a caller observes of the manager depends only on the cache-free projection: two reachable cached states with the
    same store — whatever their histories of gets and evictions, whatever their caches hold — answer every `Get` alike, and
    every `Add` / `Pop` succeeds or fails alike and leaves the same store -/
theorem answers_depend_only_on_store {cfg : Cfg} (hp : cfg.Purges) {s t : CLdb} {h h' : List Ver}
    (hr : CReach cfg s h) (ht : CReach cfg t h') (he : s.ldb = t.ldb) (hs : s.stopped = false)
    (hts : t.stopped = false) :
    (∀ i, answer cfg s i = answer cfg t i) ∧
    (∀ prev id ops, (s.add cfg prev id ops).map (·.ldb) = (t.add cfg prev id ops).map (·.ldb)) ∧
    (s.pop cfg).map (·.ldb) = (t.pop cfg).map (·.ldb) := by
  refine ⟨fun i => ?_, fun prev id ops => ?_, ?_⟩
  · rw [(cached_get_eq_uncached hp hr hs i).1, (cached_get_eq_uncached hp ht hts i).1, he]
  · rw [(hr.inv hp).add_eq hs, (ht.inv hp).add_eq hts, he]
    cases t.ldb.add prev id ops <;> rfl
  · simp only [CLdb.pop, hs, hts, he, Bool.false_eq_true, if_false]
    cases t.ldb.pop <;> rfl

/-- `evictions_are_invisible`: evicting any entry of any level at any moment leads to a reachable state with the same
    store, hence (by `answers_depend_only_on_store`, and inductively for every continuation) to the same answers: any
    eviction schedule — any LRU capacity — yields the same observable behaviour -/
theorem evictions_are_invisible {cfg : Cfg} (hp : cfg.Purges) {s : CLdb} {h : List Ver} (hr : CReach cfg s h)
    (hs : s.stopped = false) (level1 : Bool) (e : Id) :
    CReach cfg (s.evict level1 e) h ∧ (s.evict level1 e).ldb = s.ldb ∧
    (∀ i, answer cfg (s.evict level1 e) i = answer cfg s i) ∧
    (∀ prev id ops, ((s.evict level1 e).add cfg prev id ops).map (·.ldb) = (s.add cfg prev id ops).map (·.ldb)) ∧
    ((s.evict level1 e).pop cfg).map (·.ldb) = (s.pop cfg).map (·.ldb) := by
  have hr' : CReach cfg (s.evict level1 e) h := CSteps.tail hr (CStep.evict level1 e)
  have hldb : (s.evict level1 e).ldb = s.ldb := by cases level1 <;> rfl
  have hst : (s.evict level1 e).stopped = false := by cases level1 <;> exact hs
  obtain ⟨a, b, c⟩ := answers_depend_only_on_store hp hr' hr hldb hst hs
  exact ⟨hr', hldb, a, b, c⟩

/-- whole runs. For EVERY list of operations (commits, stale commits, pops, gets, evictions, stop in any order) whose commits on
    the frontier satisfy the side conditions (`ValidU`, stated on the cache-free manager), the cached manager started empty
    gives, operation by operation, the answer the cache-free manager gives: ok / error for `Add` and `Pop`, and for `Get`
    the same root (compared as the root with the overlay pointer dereferenced after the call) -/
theorem cached_run_eq_uncached_run {cfg : Cfg} (hp : cfg.Purges) (ops : List COp)
    (hv : ValidU [] (Ldb.empty, false) ops) :
    answersC cfg CLdb.empty ops = answersU (Ldb.empty, false) ops :=
  answersC_eq_answersU hp ops (s := CLdb.empty) CInv.init hv

/-- `evictions_are_invisible`, whole-schedule form: two runs that differ only in their evictions — where, how many, of which
    entries of which level: i.e. ANY replacement policy and ANY capacities — give the same answers to all their other
    operations -/
theorem eviction_schedules_are_invisible {cfg : Cfg} (hp : cfg.Purges) (ops ops' : List COp)
    (he : dropEvicts ops = dropEvicts ops') (hv : ValidU [] (Ldb.empty, false) ops) :
    loud (answersC cfg CLdb.empty ops) = loud (answersC cfg CLdb.empty ops') := by
  have hv' : ValidU [] (Ldb.empty, false) ops' :=
    (validU_dropEvicts ops' _ _).2 (he ▸ (validU_dropEvicts ops _ _).1 hv)
  rw [cached_run_eq_uncached_run hp ops hv, cached_run_eq_uncached_run hp ops' hv', answersU_dropEvicts ops,
    answersU_dropEvicts ops', he]

/-- non-vacuity of `ValidU`: two commits, version 1 opened, its entry evicted, opened again, a pop — a valid run -/
example : ValidU [] (Ldb.empty, false)
    [.add Id.zero ⟨1, [7]⟩ [Op.put [9] [1]], .add ⟨1, [7]⟩ ⟨2, [8]⟩ [Op.put [10] [2]], .get ⟨1, [7]⟩,
     .evict true ⟨1, [7]⟩, .get ⟨1, [7]⟩, .pop] := by
  refine ⟨fun _ _ => ⟨⟨by decide, by decide⟩, by simp, by decide⟩, fun _ _ => ⟨⟨by decide, by decide⟩, ?_, by decide⟩,
    trivial, trivial, trivial, trivial, trivial⟩
  intro v hv
  have : v ∈ [commitVer [] ⟨1, [7]⟩ [Op.put [9] [1]]] := by
    have hg : ghostU [] (Ldb.empty, false) (.add Id.zero ⟨1, [7]⟩ [Op.put [9] [1]]) =
        [commitVer [] ⟨1, [7]⟩ [Op.put [9] [1]]] := by
      simp only [ghostU]; rw [if_pos (by decide)]
    rw [hg] at hv; exact hv
  simp only [List.mem_singleton] at this
  subst this
  simp [commitVer]

/-- a cache entry is valid for the chain `h`: it is filed under a version of the chain, tagged with a version of the
    chain that is not older, and its object is the overlay for that version folded up to some height between the tag and
    the frontier -/
def EntValid (s : CLdb) (h : List Ver) (e : CEnt) : Prop :=
  (∃ v ∈ h, v.id = e.id) ∧ (∃ w ∈ h, w.id = e.tag) ∧ e.id.height ≤ e.tag.height ∧
  ∃ top, e.tag.height ≤ top ∧ top ≤ s.ldb.frontierId.height ∧
    s.heap[e.obj]? = some (buildOverlay s.ldb.rollbacks e.id.height (top - e.id.height) [])

/-- in every reachable state every entry of both levels is valid -/
theorem cache_entries_valid {cfg : Cfg} (hp : cfg.Purges) {s : CLdb} {h : List Ver} (hr : CReach cfg s h) :
    ∀ e ∈ s.l1 ++ s.l2, EntValid s h e := by
  intro e he
  have hi := hr.inv hp
  obtain ⟨v, top, hoi⟩ := hi.objs e he
  obtain ⟨hid, htag, hlo, hto⟩ := hoi.ents e he rfl
  refine ⟨⟨v, hoi.mem, hid.symm⟩, htag, by rw [hid]; exact hlo, top, hto, ?_, ?_⟩
  · rw [inv0_frontierHeight hi.inv.inv0]; exact hoi.hi
  · rw [hid]; exact hoi.obj

/-- `add_keeps_cache_valid`: a commit on the frontier touches neither level, no object and no view, and every entry stays
    valid for the longer chain (its identifier and its tag stay on the chain; the undo patches it was folded from are
    still stored) — which is why `Add` need not purge -/
theorem add_keeps_cache_valid {cfg : Cfg} (hp : cfg.Purges) {s s' : CLdb} {h : List Ver} {id : Id} {ops : Patch}
    (hr : CReach cfg s h) (hok : AddOk s.ldb.frontierId h id ops) (ha : s.add cfg s.ldb.frontierId id ops = some s') :
    s'.l1 = s.l1 ∧ s'.l2 = s.l2 ∧ s'.heap = s.heap ∧ s'.views = s.views ∧
    ∀ e ∈ s.l1 ++ s.l2, EntValid s' (commitVer h id ops :: h) e := by
  obtain ⟨_, _, hh, hv, h1, h2, _⟩ := (hr.inv hp).add_frontier hok ha
  refine ⟨h1, h2, hh, hv, ?_⟩
  have hr' : CReach cfg s' (commitVer h id ops :: h) := CSteps.tail hr (CStep.add hok ha)
  intro e he
  exact cache_entries_valid hp hr' e (by rw [h1, h2]; exact he)

/-- the tag only has to be a LOWER bound of what the object really holds: extending an object that has been folded up to
    `top` from any tag height between the viewed height and `top` gives the overlay folded from scratch. (So the entry that
    stays behind in l1 with an older tag when the same object is filed in l2 — `Get` looks l1 up first and never removes it —
    costs repeated work but no correctness; filing under a tag AHEAD of the object would be wrong, see
    `pop_without_purge_serves_abandoned_branch`, where the tag is ahead of what was folded from the NEW branch.) -/
theorem tag_lower_bound_suffices {s : Ldb} {h : List Ver} (hr : Reach s h) (lo t top : Nat) (h0 : 1 ≤ lo)
    (h1 : lo ≤ t) (h2 : t ≤ top) (h3 : top ≤ s.frontierId.height) :
    buildOverlay s.rollbacks t (s.frontierId.height - t) (buildOverlay s.rollbacks lo (top - lo) []) =
      buildOverlay s.rollbacks lo (s.frontierId.height - lo) [] := by
  have hF := inv0_frontierHeight hr.inv.inv0
  exact overlay_extend _ _ _ _ _ h1 h2 h3
    (fun j a b => hr.inv.inv0.rb.isSome hr.inv.inv0.hchain j (by omega) (by omega))

/-! ### non-vacuity -/

/-- a level boundary of 2 instead of 360 (the theorems hold for every boundary) -/
def smallCfg : Cfg := ⟨true, true, 2⟩

/-- commits 1, 2; open version 1 (near: l1, tag 2); commit 3; open version 1 again (far: l1 hit, the SAME object 0 is
    extended in place and filed in l2 under tag 3 — the l1 entry stays behind with tag 2); commit 4 -/
def nearFar : List COp :=
  [.add Id.zero ⟨1, [7]⟩ [Op.put [9] [1]], .add ⟨1, [7]⟩ ⟨2, [8]⟩ [Op.put [10] [2]], .get ⟨1, [7]⟩,
   .add ⟨2, [8]⟩ ⟨3, [5]⟩ [Op.put [11] [3], Op.del [9]], .get ⟨1, [7]⟩, .add ⟨3, [5]⟩ ⟨4, [4]⟩ [Op.put [12] [4]]]

def nearFarState : CLdb := run smallCfg CLdb.empty nearFar

/-- the overlay a root holds (for comparing roots by `decide`) -/
def overlayOf : Option Root → Option Raw
  | some (.hist rb _) => some rb
  | _ => none

/-- the aliasing really happens in the model, and the stale l1 entry is really there: after `nearFar` both levels hold an
    entry for version 1 pointing to the same object 0, the l1 tag (height 2) is older than the l2 tag (height 3); the two
    views handed out (the first with the snapshot of frontier 2) both point to object 0, which was extended between the two
    hand-outs (it held 4 entries — key 0a and the three bookkeeping keys —, now 8); the next `Get` goes through the STALE l1 entry and still builds the overlay the
    cache-free `Get` builds (11 entries); and the first view, read through the heap after that `Get` over its old snapshot,
    still shows version 1: key 09 = 01 (deleted by commit 3), keys 0a, 0b, 0c not found -/
example :
    nearFarState.l1 = [⟨⟨1, [7]⟩, ⟨2, [8]⟩, 0⟩] ∧ nearFarState.l2 = [⟨⟨1, [7]⟩, ⟨3, [5]⟩, 0⟩] ∧
    nearFarState.views.map (·.obj) = [0, 0] ∧ nearFarState.heap.length = 1 ∧
    (objAt (run smallCfg CLdb.empty (nearFar.take 3)).heap 0).length = 4 ∧ (objAt nearFarState.heap 0).length = 8 ∧
    overlayOf (answer smallCfg nearFarState ⟨1, [7]⟩) = overlayOf (nearFarState.ldb.get ⟨1, [7]⟩) ∧
    (overlayOf (answer smallCfg nearFarState ⟨1, [7]⟩)).map List.length = some 11 ∧
    (nearFarState.views.getLast?.map
      (fun vw => (vw.root.resolve (nearFarState.get smallCfg ⟨1, [7]⟩).1.heap).get [9])) = some (some [1]) ∧
    (nearFarState.views.getLast?.map
      (fun vw => (vw.root.resolve (nearFarState.get smallCfg ⟨1, [7]⟩).1.heap).get [10])) = some none ∧
    (nearFarState.views.getLast?.map
      (fun vw => (vw.root.resolve (nearFarState.get smallCfg ⟨1, [7]⟩).1.heap).get [11])) = some none ∧
    (nearFarState.views.getLast?.map
      (fun vw => (vw.root.resolve (nearFarState.get smallCfg ⟨1, [7]⟩).1.heap).get [12])) = some none := by
  decide +kernel

/-- the hypotheses of the theorems are satisfiable with the code's configuration: a reachable cached state (two commits,
    then version 1 opened) with a non-empty first level, built with the relational steps -/
example : ∃ s h, CReach Cfg.code s h ∧ s.stopped = false ∧ h.length = 2 ∧ s.l1.length = 1 ∧ s.views.length = 1 := by
  have a1 : CLdb.empty.add Cfg.code CLdb.empty.ldb.frontierId ⟨1, [7]⟩ [Op.put [9] [1]] =
      some (run Cfg.code CLdb.empty [.add Id.zero ⟨1, [7]⟩ [Op.put [9] [1]]]) := by decide +kernel
  have a2 : (run Cfg.code CLdb.empty [.add Id.zero ⟨1, [7]⟩ [Op.put [9] [1]]]).add Cfg.code
      (run Cfg.code CLdb.empty [.add Id.zero ⟨1, [7]⟩ [Op.put [9] [1]]]).ldb.frontierId ⟨2, [8]⟩ [Op.put [10] [2]] =
      some (run Cfg.code CLdb.empty (branchSwitch.take 2)) := by decide +kernel
  have r1 := CSteps.tail CSteps.refl (CStep.add (h := []) ⟨⟨by decide, by decide⟩, by simp, by decide⟩ a1)
  have r2 := CSteps.tail r1 (CStep.add ⟨⟨by decide, by decide⟩, by simp [commitVer], by decide⟩ a2)
  have r3 := CSteps.tail r2 (CStep.get ⟨1, [7]⟩)
  exact ⟨_, _, r3, by decide, rfl, by decide, by decide⟩

end ZV.C07Cache
