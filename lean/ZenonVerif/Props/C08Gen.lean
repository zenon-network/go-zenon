import ZenonVerif.Gen.LdbWrites
/-
C08 — the tie of "ONE leveldb write per commit / rollback" to the code: assertions about the table of accesses to the
leveldb handle of `ldbManager`, regenerated from the AST of common/db on every run (harness/cmd/zvh/f_ldbwrites.go).
The crash stream observes the same thing in the journal of the live database (one operation = one journal record, at every
depth threshold of the store); these theorems make a second write site - or a raw read that bypasses the delete-enabled
wrapper - fail the build before the stream has to find the history that reaches it.
-/
namespace ZV.C08Gen
open ZV

/-- methods of *leveldb.DB that do not change the database -/
def readOnly : List String := ["GetSnapshot", "Get", "Has", "NewIterator", "GetProperty", "SizeOf", "Stats"]

/-- (function, method) of every call on the handle that is not read-only -/
def mutatingCalls : List (String × String) :=
  (Gen.LdbCalls.filter (fun r => !readOnly.contains r.2.1)).map (fun r => (r.1, r.2.1))

/-- the mutating calls on the handle inside one function, with their arguments -/
def mutatingIn (fn : String) : List (String × String) :=
  (Gen.LdbCalls.filter (fun r => r.1 == fn && !readOnly.contains r.2.1)).map (fun r => r.2)

/-- the rows of the call table whose method is not read-only; the three statements below read them off -/
private theorem mutating_rows : Gen.LdbCalls.filter (fun r => !readOnly.contains r.2.1) =
    [("ldbManager.Add", "Write", "batch, nil"), ("ldbManager.Pop", "Write", "batch, nil"),
     ("ldbManager.Stop", "Close", "")] := by decide +kernel

private theorem mutatingIn_eq (fn : String) : mutatingIn fn =
    ((Gen.LdbCalls.filter (fun r => !readOnly.contains r.2.1)).filter (fun r => r.1 == fn)).map (fun r => r.2) := by
  rw [List.filter_filter]; rfl

/-- `ldbManager.Add` contains exactly ONE mutating call on the leveldb handle: the `Write` of one batch -/
theorem add_single_write : mutatingIn "ldbManager.Add" = [("Write", "batch, nil")] := by
  rw [mutatingIn_eq, mutating_rows]; decide +kernel

/-- `ldbManager.Pop` contains exactly ONE mutating call on the leveldb handle: the `Write` of one batch -/
theorem pop_single_write : mutatingIn "ldbManager.Pop" = [("Write", "batch, nil")] := by
  rw [mutatingIn_eq, mutating_rows]; decide +kernel

/-- no other function of package common/db writes to the handle (helpers called from Add / Pop included): the only
    mutating calls are the two batch writes and the `Close` of `Stop` -/
theorem no_other_writer : mutatingCalls =
    [("ldbManager.Add", "Write"), ("ldbManager.Pop", "Write"), ("ldbManager.Stop", "Close")] := by
  rw [mutatingCalls, mutating_rows]; rfl

/-- every access to the handle in the package: where it is created, the snapshot reads, the two places it is handed on
    (`NewLevelDBWrapper(m.ldb)`: the frontier identifier is read through the delete-enabled wrapper; `newBatchWriter(m.ldb,
    batch)`: reads from the handle, Puts collected in the batch), the two writes, Close. No raw `Get` / `Has` / iterator on the
    handle (they would see deletion markers as present keys), no alias of the handle. -/
theorem ldb_accesses_reviewed : Gen.LdbAccesses =
    [("NewLevelDBManager", "init", "ldb"),
     ("ldbManager.Frontier", "call", "GetSnapshot()"),
     ("ldbManager.Get", "call", "GetSnapshot()"),
     ("ldbManager.getPatch", "call", "GetSnapshot()"),
     ("ldbManager.getRollback", "call", "GetSnapshot()"),
     ("ldbManager.Add", "pass", "NewLevelDBWrapper(m.ldb)"),
     ("ldbManager.Add", "pass", "newBatchWriter(m.ldb, batch)"),
     ("ldbManager.Add", "call", "Write(batch, nil)"),
     ("ldbManager.Pop", "pass", "newBatchWriter(m.ldb, batch)"),
     ("ldbManager.Pop", "call", "Write(batch, nil)"),
     ("ldbManager.Stop", "call", "Close()"),
     ("ldbManager.Stop", "assign", "= nil")] := rfl

end ZV.C08Gen
