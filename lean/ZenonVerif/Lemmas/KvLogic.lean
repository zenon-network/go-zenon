import ZenonVerif.Model.Crash
/-
Logical (function-level) semantics of stores, patches and rollback overlays, and the abstraction maps from the
raw byte-level layers of Model/Kv.lean.
-/
namespace ZV.KvLogic
open ZV ZV.Kv
open ZV.Crash (rawOf)

/-- a logical store: key ↦ value, `none` = absent -/
abbrev Store := Bytes → Option Bytes

def Store.empty : Store := fun _ => none

def applyOp (s : Store) : Op → Store
  | .put k v => fun x => if x = k then some v else s x
  | .del k => fun x => if x = k then none else s x

def applyP (s : Store) (p : Patch) : Store := p.foldl applyOp s

/-- a rollback overlay: `none` = key untouched since the viewed version, `some x` = value it had there -/
abbrev Overlay := Bytes → Option (Option Bytes)

def Overlay.empty : Overlay := fun _ => none

def woOp (o : Overlay) : Op → Overlay
  | .put k v => fun x => if x = k then (match o k with | none => some (some v) | some y => some y) else o x
  | .del k => fun x => if x = k then (match o k with | none => some none | some y => some y) else o x

def woP (o : Overlay) (p : Patch) : Overlay := p.foldl woOp o

/-- what a historical view shows: the overlay where it has an entry, the frontier elsewhere -/
def viewOf (o : Overlay) (s : Store) : Store := fun k => match o k with | some x => x | none => s k

def keys (p : Patch) : List Bytes := p.map Op.key

def decodeRaw : Bytes → Option Bytes
  | [] => none
  | _ :: v => some v

/-- logical content of a raw layer seen through enableDelete -/
def abs (r : Raw) : Store := fun k => edDecode (rget r k)

/-- logical content of a rollback overlay layer -/
def oabs (rb : Raw) : Overlay := fun k => (rget rb k).map decodeRaw

/-! ### an operation writes the raw value `rawOf o` under `o.key`

With these four equations no proof below distinguishes Put from Delete. -/

theorem edApplyOp_eq (top : Raw) (o : Op) : edApplyOp top o = rput top o.key (rawOf o) := by
  cases o <;> rfl

theorem woApplyOp_eq (rb : Raw) (o : Op) :
    woApplyOp rb o = if rhas rb o.key then rb else rput rb o.key (rawOf o) := by
  cases o <;> rfl

theorem applyOp_eq (s : Store) (o : Op) (x : Bytes) :
    applyOp s o x = if x = o.key then decodeRaw (rawOf o) else s x := by
  cases o <;> rfl

theorem woOp_eq (ov : Overlay) (o : Op) (x : Bytes) :
    woOp ov o x =
      if x = o.key then (match ov o.key with | none => some (decodeRaw (rawOf o)) | some y => some y) else ov x := by
  cases o <;> rfl

theorem edDecode_some (raw : Bytes) : edDecode (some raw) = decodeRaw raw := by
  cases raw <;> rfl

@[simp] theorem keys_cons (o : Op) (p : Patch) : keys (o :: p) = o.key :: keys p := rfl

theorem undoOp_key (s : Store) (o : Op) : (undoOp s o).key = o.key := by
  unfold undoOp; cases s o.key <;> rfl

theorem undoOp_raw (s : Store) (o : Op) : decodeRaw (rawOf (undoOp s o)) = s o.key := by
  unfold undoOp; cases hs : s o.key <;> rfl

theorem keys_rollbackPatch (s : Store) (p : Patch) : keys (rollbackPatch s p) = keys p := by
  simp only [keys, rollbackPatch, List.map_map]
  exact List.map_congr_left fun o _ => undoOp_key s o

theorem foldl_not_mem {σ α : Type} (rd : σ → Bytes → α) (f : σ → Op → σ)
    (hf : ∀ s o x, x ≠ o.key → rd (f s o) x = rd s x) (p : Patch) (s : σ) (x : Bytes) (h : x ∉ keys p) :
    rd (p.foldl f s) x = rd s x :=
  List.foldlRecOn (motive := fun t => rd t x = rd s x) p f rfl fun t ht o ho =>
    ht ▸ hf t o x fun e => h (e ▸ List.mem_map_of_mem ho)

theorem applyOp_other (s : Store) (o : Op) (x : Bytes) (h : x ≠ o.key) : applyOp s o x = s x := by
  rw [applyOp_eq, if_neg h]

theorem applyP_not_mem (p : Patch) (s : Store) (x : Bytes) (h : x ∉ keys p) : applyP s p x = s x :=
  foldl_not_mem (fun s => s) applyOp applyOp_other p s x h

theorem applyP_append (s : Store) (p q : Patch) : applyP s (p ++ q) = applyP (applyP s p) q :=
  List.foldl_append

theorem rollback_restores (s t : Store) (p : Patch) (x : Bytes) :
    applyP t (rollbackPatch s p) x = if x ∈ keys p then s x else t x := by
  induction p generalizing t with
  | nil => rfl
  | cons o tl ih =>
    show applyP (applyOp t (undoOp s o)) (rollbackPatch s tl) x = _
    rw [ih, keys_cons, applyOp_eq, undoOp_key, undoOp_raw]
    by_cases hx : x = o.key <;> simp [hx]

theorem applyP_undo (s : Store) (p : Patch) : applyP (applyP s p) (rollbackPatch s p) = s := by
  funext x
  rw [rollback_restores]
  split
  · rfl
  · next h => exact applyP_not_mem p s x h

theorem woOp_other (o : Overlay) (op : Op) (x : Bytes) (h : x ≠ op.key) : woOp o op x = o x := by
  rw [woOp_eq, if_neg h]

theorem woOp_keep (o : Overlay) (op : Op) (x : Bytes) (y : Option Bytes) (h : o x = some y) :
    woOp o op x = some y := by
  rw [woOp_eq]
  split
  · next hk => rw [← hk, h]
  · exact h

theorem woP_keep (p : Patch) (o : Overlay) (x : Bytes) (y : Option Bytes) (h : o x = some y) :
    woP o p x = some y :=
  List.foldlRecOn (motive := fun o => o x = some y) p woOp h fun o ho op _ => woOp_keep o op x y ho

theorem woP_not_mem (p : Patch) (o : Overlay) (x : Bytes) (h : x ∉ keys p) : woP o p x = o x :=
  foldl_not_mem (fun o => o) woOp woOp_other p o x h

theorem woP_rollback_fresh (s : Store) (p : Patch) (o : Overlay) (x : Bytes) (hx : x ∈ keys p) (ho : o x = none) :
    woP o (rollbackPatch s p) x = some (s x) := by
  induction p generalizing o with
  | nil => cases hx
  | cons op t ih =>
    show woP (woOp o (undoOp s op)) (rollbackPatch s t) x = _
    by_cases hk : x = op.key
    · apply woP_keep
      rw [woOp_eq, undoOp_key, if_pos hk, undoOp_raw, ← hk, ho]
    · refine ih _ ((List.mem_cons.1 hx).resolve_left hk) ?_
      rw [woOp_other _ _ _ (by rwa [undoOp_key]), ho]

theorem viewOf_empty (s : Store) : viewOf Overlay.empty s = s := rfl

/-- One commit keeps the reconstruction invariant: overlay `o` over `cur` shows `sX` ⇒ after committing `p`
    (undo patch folded in without overriding) it still shows `sX`. A key the overlay holds is kept; a key the commit
    touches first gets its pre-commit value; any other key is not touched on either side. -/
theorem viewOf_step (sX cur : Store) (o : Overlay) (p : Patch)
    (h : viewOf o cur = sX) :
    viewOf (woP o (rollbackPatch cur p)) (applyP cur p) = sX := by
  funext x
  rw [← h]
  simp only [viewOf]
  cases ho : o x with
  | some y => rw [woP_keep _ _ _ _ ho]
  | none =>
    by_cases hm : x ∈ keys p
    · rw [woP_rollback_fresh cur p o x hm ho]
    · rw [woP_not_mem _ _ _ (by rwa [keys_rollbackPatch]), ho, applyP_not_mem p cur x hm]

theorem rget_cons (k' v : Bytes) (t : Raw) (x : Bytes) :
    rget ((k', v) :: t) x = if x = k' then some v else rget t x := by
  rw [rget]; exact ite_congr (propext eq_comm) (fun _ => rfl) (fun _ => rfl)

theorem rget_rput (s : Raw) (k v x : Bytes) : rget (rput s k v) x = if x = k then some v else rget s x := by
  fun_induction rput s k v <;> grind [rget]

theorem rget_edApplyOp (top : Raw) (o : Op) (x : Bytes) :
    rget (edApplyOp top o) x = if x = o.key then some (rawOf o) else rget top x := by
  rw [edApplyOp_eq, rget_rput]

theorem abs_edApplyOp (top : Raw) (o : Op) : abs (edApplyOp top o) = applyOp (abs top) o := by
  funext x
  simp only [abs, rget_edApplyOp, applyOp_eq]
  split
  · exact edDecode_some _
  · rfl

theorem abs_edApply (p : Patch) (top : Raw) : abs (edApply top p) = applyP (abs top) p :=
  (List.foldl_hom abs fun top o => (abs_edApplyOp top o).symm).symm

theorem oabs_woApplyOp (rb : Raw) (o : Op) : oabs (woApplyOp rb o) = woOp (oabs rb) o := by
  funext x
  rw [woApplyOp_eq, woOp_eq]
  cases hk : rget rb o.key with
  | some y =>
    simp only [rhas, hk, Option.isSome_some, if_true, oabs, Option.map_some]
    split
    · next hx => rw [hx, hk]; rfl
    · rfl
  | none =>
    simp only [rhas, hk, Option.isSome_none, Bool.false_eq_true, if_false, oabs, rget_rput, Option.map_none]
    split <;> rfl

theorem oabs_woApply (p : Patch) (rb : Raw) : oabs (woApply rb p) = woP (oabs rb) p :=
  (List.foldl_hom oabs fun rb o => (oabs_woApplyOp rb o).symm).symm

/-- a raw layer laid over a raw answer, then decoded: the layer's decoded entry where it has one (a tombstone hides
    what is below), the decoded answer elsewhere -/
theorem edDecode_layer (top : Raw) (below : Option Bytes) (k : Bytes) :
    edDecode (match rget top k with | some v => some v | none => below) =
      match oabs top k with | some y => y | none => edDecode below := by
  simp only [oabs]
  cases rget top k with
  | none => rfl
  | some v => exact edDecode_some v

theorem edDecode_mget2 (rb base : Raw) (k : Bytes) :
    edDecode (mget2 rb base k) = viewOf (oabs rb) (abs base) k :=
  edDecode_layer rb (rget base k) k

theorem oabs_nil : oabs [] = Overlay.empty := rfl

theorem abs_nil : abs [] = Store.empty := rfl

end ZV.KvLogic
