/-
The characters of an ASCII string, read off its bytes. `String.toList` decodes UTF-8 by a well-founded recursion, which the
kernel unfolds at several times the cost of reading the bytes; a table fact about the characters of many strings is
therefore evaluated on `asciiChars` after a check of `isAscii`.
-/
namespace ZV

def asciiChars (s : String) : List Char := s.toByteArray.data.toList.map (fun b => Char.ofNat b.toNat)

def isAscii (s : String) : Bool := s.toByteArray.data.toList.all (· < 128)

private theorem val_ofNat_ascii (b : UInt8) (hb : b < 128) : (Char.ofNat b.toNat).val = b.toUInt32 := by
  have h1 : b.toNat < 128 := hb
  have hv : b.toNat.isValidChar := Or.inl (by omega)
  rw [Char.ofNat, dif_pos hv]
  apply UInt32.toNat_inj.1
  simp [Char.ofNatAux]

/-- bytes below 128 are the UTF-8 encoding of the characters with those codes -/
private theorem utf8Encode_ascii (bs : List UInt8) (h : ∀ b ∈ bs, b < 128) :
    (bs.map (fun b => Char.ofNat b.toNat)).utf8Encode = ⟨⟨bs⟩⟩ := by
  induction bs with
  | nil => rfl
  | cons b bs ih =>
    have hb : b < 128 := h b List.mem_cons_self
    have hv := val_ofNat_ascii b hb
    have hsz : (Char.ofNat b.toNat).utf8Size = 1 := by
      simp only [Char.utf8Size, hv]
      rw [if_pos]
      show b.toUInt32.toNat ≤ 127
      have : b.toNat < 128 := hb
      simp; omega
    rw [List.map_cons, List.utf8Encode_cons, List.utf8Encode_singleton, String.utf8EncodeChar_eq_singleton hsz,
      ih (fun x hx => h x (List.mem_cons_of_mem _ hx)), hv]
    apply ByteArray.ext
    simp [List.toByteArray]
    rfl

theorem toList_of_ascii (s : String) (h : isAscii s = true) : s.toList = asciiChars s := by
  have hb : ∀ b ∈ s.toByteArray.data.toList, b < 128 := fun b hb => by
    simpa using List.all_eq_true.1 h b hb
  have : String.ofList (asciiChars s) = s :=
    String.toByteArray_inj.1 (by rw [String.toByteArray_ofList, asciiChars, utf8Encode_ascii _ hb])
  rw (occs := .pos [1]) [← this]
  exact String.toList_ofList

end ZV
