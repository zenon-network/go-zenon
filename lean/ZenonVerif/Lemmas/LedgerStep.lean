import ZenonVerif.Lemmas.LedgerBasic
/-
The ledger as a state machine: events, `step`, freshness of new hashes, reachability, and the
decomposition of an accepted step into its primitive effects
(`recvCore` = credit + marker, `applySend` = debit + new confirmed send, `tokApply` = mint/burn + storage).
-/
namespace ZV.Ledger

inductive Ev where
  | usend (src dst : Addr) (tok : Tok) (amt : Nat) (h : Hash) (call : TokCall)
  | urecv (a : Addr) (h : Hash)
  | crecv (c : Addr) (h : Hash) (status : Nat) (descs : List Desc)
  deriving Repr

def step (s : State) : Ev → Except Err State
  | .usend src dst tok amt h call => usend s src dst tok amt h call
  | .urecv a h => urecv s a h
  | .crecv c h st ds => crecv s c h st ds

/-- hashes of the send blocks an event adds to the ledger (the user send itself / the descendants of a contract receive) -/
def Ev.newHashes : Ev → List Hash
  | .usend _ _ _ _ h _ => [h]
  | .urecv _ _ => []
  | .crecv _ _ _ ds => ds.map (·.hash)

/-- decoded token calls carried by the sends an event adds -/
def Ev.newCalls : Ev → List TokCall
  | .usend _ _ _ _ _ call => [call]
  | .urecv _ _ => []
  | .crecv _ _ _ ds => ds.map (·.call)

/-- what the real chain guarantees about block hashes: a new send block's hash (and every descendant hash) is not the
    hash of an already confirmed send, and the descendants of one receive have pairwise distinct hashes -/
def Fresh (s : State) (e : Ev) : Prop :=
  e.newHashes.Nodup ∧ ∀ h ∈ e.newHashes, h ∉ s.sends.map (·.hash)

instance (s : State) (e : Ev) : Decidable (Fresh s e) :=
  inferInstanceAs (Decidable (e.newHashes.Nodup ∧ ∀ h ∈ e.newHashes, h ∉ s.sends.map (·.hash)))

/-- send-time validation of token calls that the model does not re-check at receive time:
    `IssueMethod.ValidateSendBlock` (checkToken) refuses `MaxSupply < TotalSupply` -/
def CallOk : TokCall → Prop
  | .issue total max _ _ => total ≤ max
  | _ => True

instance : (c : TokCall) → Decidable (CallOk c)
  | .issue total max _ _ => inferInstanceAs (Decidable (total ≤ max))
  | .none => isTrue trivial
  | .mint .. => isTrue trivial
  | .burn => isTrue trivial
  | .update .. => isTrue trivial

/-- side conditions of an event that the real chain guarantees and that the model takes as given -/
def Admissible (s : State) (e : Ev) : Prop := Fresh s e ∧ ∀ c ∈ e.newCalls, CallOk c

instance (s : State) (e : Ev) : Decidable (Admissible s e) :=
  inferInstanceAs (Decidable (Fresh s e ∧ ∀ c ∈ e.newCalls, CallOk c))

/-- states reachable from `s0` by accepted, admissible events -/
inductive Reach (s0 : State) : State → Prop where
  | refl : Reach s0 s0
  | step {s s' : State} (e : Ev) : Reach s0 s → Admissible s e → step s e = .ok s' → Reach s0 s'

variable {s s' s0 s1 s2 : State} {e : Ev} {c a : Addr} {h : Hash} {st : Nat} {ds : List Desc}
  {snd nxt x : Send} {out : TokOutcome} {t n : Tok} {toks : List (Tok × TokInfo)} {d : Desc}

/-- credit + receive marker: the common part of `urecv` and `crecv` -/
def recvCore (s : State) (a : Addr) (h : Hash) (snd : Send) : State :=
  { (s.credit a snd.tok snd.amt) with recv := (a, h) :: s.recv }

/-- the confirmed send that a descendant of `c` becomes -/
def mkSend (c : Addr) (d : Desc) : Send := ⟨d.hash, c, d.dst, d.tok, d.amt, d.call⟩

def pushSend (s : State) (x : Send) : State :=
  { (s.debit x.src x.tok x.amt) with sends := s.sends ++ [x] }

/-- effect of a successful token-contract method on the contract's own balance and storage -/
def tokMint (s1 : State) (c : Addr) (out : TokOutcome) : State :=
  { (s1.credit c out.mintTok out.mint) with toks := out.toks }

def tokApply (s1 : State) (c : Addr) (out : TokOutcome) : State :=
  (tokMint s1 c out).debit c out.mintTok out.burn

def newTokOf (ds : List Desc) : Tok := match ds with | d :: _ => d.tok | [] => zeroTok

/-- Σ of the descendant amounts of token `t` -/
def descSum (ds : List Desc) (t : Tok) : Nat := (ds.map (fun d => if d.tok = t then d.amt else 0)).sum

theorem applySend_ok {src dst : Addr} {tok : Tok} {amt : Nat} {call : TokCall}
    (hok : applySend s src dst tok amt h call = .ok s') :
    (tok = zeroTok → amt = 0) ∧ amt ≤ getBal s.bal src tok ∧ s' = pushSend s ⟨h, src, dst, tok, amt, call⟩ := by
  simp only [applySend, ite_error_eq_ok, Bool.and_eq_true, decide_eq_true_eq, beq_iff_eq, bne_iff_ne, ne_eq, not_and,
    Nat.not_lt, Except.ok.injEq] at hok
  obtain ⟨h1, h2, rfl⟩ := hok
  have hz : tok = zeroTok → amt = 0 := fun ht => Nat.eq_zero_of_not_pos fun ha => h1 ha ht
  exact ⟨hz, (Decidable.em (tok = zeroTok)).elim (fun ht => hz ht ▸ Nat.zero_le _) h2, rfl⟩

theorem applySend_of {src dst : Addr} {tok : Tok} {amt : Nat} {call : TokCall}
    (hz : tok = zeroTok → amt = 0) (hle : amt ≤ getBal s.bal src tok) :
    applySend s src dst tok amt h call = .ok (pushSend s ⟨h, src, dst, tok, amt, call⟩) := by
  -- neither guard fires: a zero-token send carries no amount, and the balance covers the amount
  rw [applySend, if_neg (by simpa using fun ha ht => Nat.ne_of_gt ha (hz ht)), if_neg (by simp [Nat.not_lt.2 hle])]
  rfl

theorem checkFrom_ok :
    checkFrom s a h = .ok snd ↔
      findSend s.sends h = some snd ∧ (s.gate = true → snd.dst = a) ∧ (a, h) ∉ s.recv := by
  unfold checkFrom
  cases hf : findSend s.sends h with
  | none => simp
  | some x =>
    simp only [ite_error_eq_ok, Except.ok.injEq, Option.some.injEq, Bool.and_eq_true, bne_iff_ne, ne_eq, not_and,
      Decidable.not_not, List.contains_iff_mem]
    constructor
    · rintro ⟨h1, h2, rfl⟩; exact ⟨rfl, h1, h2⟩
    · rintro ⟨rfl, h1, h2⟩; exact ⟨h1, h2, rfl⟩

theorem usend_ok {src dst : Addr} {tok : Tok} {amt : Nat} {call : TokCall}
    (hok : usend s src dst tok amt h call = .ok s') :
    isEmbedded src = false ∧ applySend s src dst tok amt h call = .ok s' := by
  simpa only [usend, ite_error_eq_ok, Bool.not_eq_true] using hok

theorem urecv_ok (hok : urecv s a h = .ok s') :
    isEmbedded a = false ∧ ∃ snd, checkFrom s a h = .ok snd ∧ s' = recvCore s a h snd := by
  simp only [urecv, ite_error_eq_ok, Bool.not_eq_true] at hok
  refine ⟨hok.1, ?_⟩
  cases hc : checkFrom s a h with
  | error e => rw [hc] at hok; cases hok.2
  | ok snd => rw [hc] at hok; cases hok.2; exact ⟨snd, rfl, rfl⟩

theorem applyDescs_cons_ok
    (hok : applyDescs s c (d :: ds) = .ok s') :
    (d.tok = zeroTok → d.amt = 0) ∧ d.amt ≤ getBal s.bal c d.tok ∧
      applyDescs (pushSend s (mkSend c d)) c ds = .ok s' := by
  simp only [applyDescs] at hok
  cases ha : applySend s c d.dst d.tok d.amt d.hash d.call with
  | error e => rw [ha] at hok; cases hok
  | ok s1 =>
    rw [ha] at hok
    obtain ⟨hz, hle, rfl⟩ := applySend_ok ha
    exact ⟨hz, hle, hok⟩

theorem applyDescs_cons_of (hz : d.tok = zeroTok → d.amt = 0) (hle : d.amt ≤ getBal s.bal c d.tok) :
    applyDescs s c (d :: ds) = applyDescs (pushSend s (mkSend c d)) c ds := by
  simp only [applyDescs, applySend_of hz hle]; rfl

/-- what `applyDescs` leaves alone, and the sends it adds -/
theorem applyDescs_frame {c : Addr} : ∀ {ds : List Desc} {s s' : State}, applyDescs s c ds = .ok s' →
    s'.recv = s.recv ∧ s'.toks = s.toks ∧ s'.gate = s.gate ∧ s'.sends = s.sends ++ ds.map (mkSend c)
  | [], s, s', hok => by simp only [applyDescs] at hok; cases hok; simp
  | d :: ds, s, s', hok => by
    obtain ⟨r1, r2, r3, r4⟩ := applyDescs_frame (applyDescs_cons_ok hok).2.2
    refine ⟨r1, r2, r3, ?_⟩
    rw [r4]
    simp [pushSend, mkSend]

/-- an accepted `crecv` is either *plain* (credit, marker, then the observed descendants — any contract; for status 2
    the descendants are the exact refund; for the token contract this shape occurs only with status 2, and then either
    the method fails or — `htm` — it succeeds with a descendant addressed to an embedded contract, whose send-time
    validation is outside the model and may make the whole call fail: see the comment inside `crecv`) or
    *token-applied* (token contract, status 1: credit, marker, mint into / guarded burn from the contract's balance,
    new storage, then exactly the descendants the method prescribes) -/
inductive CrecvCase (s : State) (c : Addr) (h : Hash) (st : Nat) (ds : List Desc) (s' : State) : Prop where
  | plain (nxt snd : Send) (hnext : nextInLine s c = some nxt) (hh : nxt.hash = h)
      (hchk : checkFrom s c h = .ok snd) (hst : st = 1 ∨ st = 2)
      (href : st = 2 → descShape ds = refundOf snd) (htc : c = tokenContract → st = 2)
      (htm : c = tokenContract → ∀ out, tokenMethod s.toks snd (newTokOf ds) = some out →
        out.descs.any (fun d => isEmbedded d.1) = true)
      (hds : applyDescs (recvCore s c h snd) c ds = .ok s')
  | token (nxt snd : Send) (out : TokOutcome) (hnext : nextInLine s c = some nxt) (hh : nxt.hash = h)
      (hchk : checkFrom s c h = .ok snd) (hc : c = tokenContract) (hst : st = 1)
      (hm : tokenMethod s.toks snd (newTokOf ds) = some out) (hshape : descShape ds = out.descs)
      (hburn : out.burn ≤ getBal (tokMint (recvCore s c h snd) c out).bal c out.mintTok)
      (hds : applyDescs (tokApply (recvCore s c h snd) c out) c ds = .ok s')

theorem crecv_ok_iff :
    crecv s c h st ds = .ok s' ↔ CrecvCase s c h st ds s' := by
  constructor
  · intro hok
    unfold crecv at hok
    cases hnext : nextInLine s c with
    | none => rw [hnext] at hok; cases hok
    | some nxt =>
    rw [hnext] at hok
    -- the `let`s of `crecv` stay local definitions (`-zeta`, `extract_lets`): inlined, the state after the credit is
    -- repeated in every branch and each later rewrite works on a term several times the size
    dsimp -zeta only at hok
    rw [ite_error_eq_ok, bne_iff_ne, ne_eq, Decidable.not_not] at hok
    obtain ⟨hh, hok⟩ := hok
    cases hchk : checkFrom s c h with
    | error e => rw [hchk] at hok; cases hok
    | ok snd =>
    rw [hchk] at hok
    dsimp -zeta only [bind, Except.bind] at hok
    extract_lets _ s1 newTok at hok
    rw [ite_error_eq_ok] at hok
    obtain ⟨hst, hok⟩ := hok
    replace hst : st = 1 ∨ st = 2 := by
      simp only [bne_iff_ne, ne_eq, Bool.and_eq_true, not_and, Decidable.not_not] at hst
      exact Decidable.or_iff_not_imp_left.2 hst
    by_cases hc : c = tokenContract
    · rw [if_pos (beq_iff_eq.2 hc)] at hok
      cases hm : tokenMethod s1.toks snd newTok with
      | none =>
        rw [hm] at hok
        simp only [ite_error_eq_ok, bne_iff_ne, ne_eq, Bool.or_eq_true, not_or, Decidable.not_not] at hok
        exact .plain nxt snd hnext hh hchk hst (fun _ => hok.1.2) (fun _ => hok.1.1)
          (fun _ out hout => absurd (hm.symm.trans hout) (by simp)) hok.2
      | some out =>
        rw [hm] at hok
        dsimp -zeta only at hok
        split at hok
        · rename_i hcond
          simp only [Bool.and_eq_true, beq_iff_eq] at hcond
          refine .plain nxt snd hnext hh hchk hst (fun _ => hcond.1.2) (fun _ => hcond.1.1) ?_ hok
          intro _ out' hout
          cases hm.symm.trans hout
          exact hcond.2
        · simp only [ite_error_eq_ok, bne_iff_ne, ne_eq, Bool.or_eq_true, not_or, Decidable.not_not, Nat.not_lt] at hok
          exact .token nxt snd out hnext hh hchk hc hok.1.1 hm hok.1.2 hok.2.1 hok.2.2
    · rw [if_neg (fun h' => hc (beq_iff_eq.1 h'))] at hok
      refine .plain nxt snd hnext hh hchk hst ?_ (fun h' => absurd h' hc) (fun h' => absurd h' hc) ?_
      · rintro rfl
        rw [if_pos (by rfl : ((2 : Nat) == 2) = true), ite_error_eq_ok, bne_iff_ne, ne_eq, Decidable.not_not] at hok
        exact hok.1
      · split at hok
        · exact (ite_error_eq_ok.1 hok).2
        · exact hok
  · intro hcase
    unfold crecv
    cases hcase with
    | plain nxt snd hnext hh hchk hst href htc htm hds =>
      rw [hnext]
      dsimp -zeta only
      rw [if_neg (by simp [hh]), hchk]
      dsimp -zeta only [bind, Except.bind]
      extract_lets _ s1 newTok
      rw [if_neg (by rcases hst with rfl | rfl <;> decide)]
      by_cases hc : c = tokenContract
      · rw [if_pos (by simpa using hc)]
        have h2 := htc hc
        cases hm : tokenMethod s1.toks snd newTok with
        | none => dsimp only; rw [if_neg (by simp [h2, href h2])]; exact hds
        | some out => dsimp -zeta only; rw [if_pos (by simp [h2, href h2, htm hc out hm])]; exact hds
      · rw [if_neg (by simpa using hc)]
        by_cases h2 : st = 2
        · rw [if_pos (by simpa using h2), if_neg (by simp [href h2])]; exact hds
        · rw [if_neg (by simpa using h2)]; exact hds
    | token nxt snd out hnext hh hchk hc hst hm hshape hburn hds =>
      rw [hnext]
      dsimp -zeta only
      rw [if_neg (by simp [hh]), hchk]
      dsimp -zeta only [bind, Except.bind]
      extract_lets _ s1 newTok
      subst hst
      rw [if_neg (by decide), if_pos (by simpa using hc)]
      -- `s1.toks` and `newTok` unfold to `s.toks` and `newTokOf ds`
      have hm' : tokenMethod s1.toks snd newTok = some out := hm
      rw [hm']
      dsimp -zeta only
      rw [if_neg (by simp), if_neg (by simp [hshape])]
      extract_lets _ s2
      have hb : ¬ getBal s2.bal c out.mintTok < out.burn := Nat.not_lt.2 hburn
      rw [if_neg hb]
      exact hds

/-- the successful token-contract methods with the outcome each prescribes (of the guards, those on the caller's
    identity are left out) -/
inductive TokenCase (toks : List (Tok × TokInfo)) (snd : Send) (n : Tok) : TokOutcome → Prop where
  | issue (total max : Nat) (mintable burnable : Bool) (hcall : snd.call = .issue total max mintable burnable)
      (hnew : getTok toks n = none) :
      TokenCase toks snd n ⟨setTok toks n ⟨total, max, mintable, burnable, snd.src⟩, n, total, 0, [(snd.src, n, total)]⟩
  | mint (tok : Tok) (amt : Nat) (to : Addr) (i : TokInfo) (hcall : snd.call = .mint tok amt to)
      (hi : getTok toks tok = some i) (hroom : amt ≤ i.max - i.supply) :
      TokenCase toks snd n ⟨setTok toks tok { i with supply := i.supply + amt }, tok, amt, 0, [(to, tok, amt)]⟩
  | burn (i : TokInfo) (hcall : snd.call = .burn) (hi : getTok toks snd.tok = some i) :
      TokenCase toks snd n
        ⟨setTok toks snd.tok { i with supply := i.supply - snd.amt, max := if i.mintable then i.max else i.max - snd.amt },
         snd.tok, 0, snd.amt, []⟩
  | update (tok : Tok) (owner : Addr) (mintable burnable : Bool) (i : TokInfo)
      (hcall : snd.call = .update tok owner mintable burnable) (hi : getTok toks tok = some i) :
      TokenCase toks snd n
        ⟨setTok toks tok { (if i.mintable != mintable then { i with mintable := mintable, max := i.supply } else i) with
           owner := owner, burnable := burnable }, tok, 0, 0, []⟩

theorem tokenMethod_cases
    (hm : tokenMethod toks snd n = some out) : TokenCase toks snd n out := by
  unfold tokenMethod at hm
  split at hm
  · cases hm
  · next hcall =>
    split at hm
    · cases hm
    · next hnew => cases hm; exact .issue _ _ _ _ hcall hnew
  · next hcall =>
    split at hm
    · cases hm
    · next i hi =>
      simp only [Option.ite_none_left_eq_some, Option.some.injEq] at hm
      obtain ⟨_, hroom, _, _, rfl⟩ := hm
      exact .mint _ _ _ i hcall hi (Nat.le_of_not_lt hroom)
  · next hcall =>
    split at hm
    · cases hm
    · next i hi =>
      simp only [Option.ite_none_left_eq_some, Option.some.injEq] at hm
      obtain ⟨_, rfl⟩ := hm
      exact .burn i hcall hi
  · next hcall =>
    split at hm
    · cases hm
    · next i hi =>
      simp only [Option.ite_none_left_eq_some, Option.some.injEq] at hm
      obtain ⟨_, _, rfl⟩ := hm
      exact .update _ _ _ _ i hcall hi

end ZV.Ledger
