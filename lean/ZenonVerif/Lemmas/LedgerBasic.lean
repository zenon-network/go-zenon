import ZenonVerif.Model.Ledger
import ZenonVerif.Lemmas.Common
/-
Helper lemmas for the abstract ledger (C01 / C04 / C09): association lists (balances, token storage),
`findSend`, and the sums used by the conservation statement. Core Lean only.
-/
namespace ZV.Ledger

/-- Σ of the balance entries of token `t` -/
def sumBalL (b : List ((Addr × Tok) × Nat)) (t : Tok) : Nat :=
  (b.map (fun e => if e.1.2 = t then e.2 else 0)).sum

theorem getBal_setBal (b : List ((Addr × Tok) × Nat)) (a : Addr) (t : Tok) (v : Nat) (a' : Addr) (t' : Tok) :
    getBal (setBal b a t v) a' t' = if (a, t) = (a', t') then v else getBal b a' t' := by
  fun_induction setBal b a t v with
  | case1 => simp [getBal]
  | case2 r w => simp only [getBal]; split <;> simp [*]
  | case3 k w r hk ih =>
    simp only [getBal, ih]
    by_cases h2 : (a, t) = (a', t')
    · simp [h2, h2 ▸ hk]
    · simp [h2]

theorem getBal_setBal_self (b : List ((Addr × Tok) × Nat)) (a : Addr) (t : Tok) (v : Nat) :
    getBal (setBal b a t v) a t = v := by
  simp [getBal_setBal]

/-- `setBal` replaces exactly the value that `getBal` reads (first match), so the per-token sum moves by the difference -/
theorem sumBalL_setBal (b : List ((Addr × Tok) × Nat)) (a : Addr) (t : Tok) (v : Nat) (t' : Tok) :
    sumBalL (setBal b a t v) t' + (if t = t' then getBal b a t else 0)
      = sumBalL b t' + (if t = t' then v else 0) := by
  fun_induction setBal b a t v with
  | case1 => simp [getBal, sumBalL]
  | case2 r w => simp only [getBal, sumBalL, List.map_cons, List.sum_cons, if_true]; split <;> omega
  | case3 k w r hk ih =>
    simp only [getBal, hk, if_false, sumBalL, List.map_cons, List.sum_cons] at ih ⊢
    omega

theorem getBal_le_sumBalL (b : List ((Addr × Tok) × Nat)) (a : Addr) (t : Tok) :
    getBal b a t ≤ sumBalL b t := by
  fun_induction getBal b a t with
  | case1 => exact Nat.zero_le _
  | case2 r v => simp [sumBalL]
  | case3 k v r hk ih => simp only [sumBalL, List.map_cons, List.sum_cons] at ih ⊢; omega

theorem nodup_append_singleton {α : Type} {l : List α} {a : α} (h : l.Nodup) (hn : a ∉ l) : (l ++ [a]).Nodup :=
  List.nodup_append.2 ⟨h, .cons (fun _ h => nomatch h) .nil,
    fun _ hx _ hy he => hn (List.mem_singleton.1 hy ▸ he ▸ hx)⟩

theorem keys_setBal (b : List ((Addr × Tok) × Nat)) (a : Addr) (t : Tok) (v : Nat) :
    (setBal b a t v).map (·.1) = if (a, t) ∈ b.map (·.1) then b.map (·.1) else b.map (·.1) ++ [(a, t)] := by
  fun_induction setBal b a t v with
  | case1 => rfl
  | case2 => simp
  | case3 k w r hk ih =>
    simp only [List.map_cons, ih, List.mem_cons, Ne.symm hk, false_or]
    split <;> rfl

theorem nodup_keys_setBal (b : List ((Addr × Tok) × Nat)) (a : Addr) (t : Tok) (v : Nat)
    (h : (b.map (·.1)).Nodup) : ((setBal b a t v).map (·.1)).Nodup := by
  rw [keys_setBal]
  split
  · exact h
  · exact nodup_append_singleton h ‹_›

theorem getTok_setTok (l : List (Tok × TokInfo)) (t : Tok) (i : TokInfo) (t' : Tok) :
    getTok (setTok l t i) t' = if t = t' then some i else getTok l t' := by
  fun_induction setTok l t i with
  | case1 => simp [getTok]
  | case2 r w => simp only [getTok]; split <;> simp [*]
  | case3 k w r hk ih =>
    simp only [getTok, ih]
    by_cases h2 : t = t'
    · simp [h2, h2 ▸ hk]
    · simp [h2]

theorem keys_setTok (l : List (Tok × TokInfo)) (t : Tok) (i : TokInfo) :
    (setTok l t i).map (·.1) = if t ∈ l.map (·.1) then l.map (·.1) else l.map (·.1) ++ [t] := by
  fun_induction setTok l t i with
  | case1 => rfl
  | case2 => simp
  | case3 k w r hk ih =>
    simp only [List.map_cons, ih, List.mem_cons, Ne.symm hk, false_or]
    split <;> rfl

theorem nodup_keys_setTok (l : List (Tok × TokInfo)) (t : Tok) (i : TokInfo)
    (h : (l.map (·.1)).Nodup) : ((setTok l t i).map (·.1)).Nodup := by
  rw [keys_setTok]
  split
  · exact h
  · exact nodup_append_singleton h ‹_›

theorem findSend_eq_find? (l : List Send) (h : Hash) : findSend l h = l.find? (·.hash == h) := by
  fun_induction findSend l h <;> simp [*]

theorem findSend_some {l : List Send} {h : Hash} {x : Send} (hf : findSend l h = some x) :
    x ∈ l ∧ x.hash = h := by
  rw [findSend_eq_find?] at hf
  exact ⟨List.mem_of_find?_eq_some hf, eq_of_beq (List.find?_some hf :)⟩

theorem findSend_none {l : List Send} {h : Hash} : findSend l h = none ↔ h ∉ l.map (·.hash) := by
  simp [findSend_eq_find?]

theorem findSend_isSome_mem {l : List Send} {h : Hash} (hs : (findSend l h).isSome = true) : h ∈ l.map (·.hash) :=
  Decidable.byContradiction fun hn => by rw [findSend_none.2 hn] at hs; cases hs

theorem findSend_of_mem {l : List Send} {x : Send} (hnd : (l.map (·.hash)).Nodup) (hx : x ∈ l) :
    findSend l x.hash = some x := by
  induction l with
  | nil => simp at hx
  | cons y r ih =>
    simp only [List.map_cons, List.nodup_cons] at hnd
    simp only [findSend]
    rcases List.mem_cons.1 hx with rfl | hx'
    · simp
    · have hne : y.hash ≠ x.hash := by
        intro he
        apply hnd.1
        rw [he]
        exact List.mem_map.2 ⟨x, hx', rfl⟩
      simp only [hne, if_false]
      exact ih hnd.2 hx'

theorem findSend_append (l l' : List Send) (h : Hash) :
    findSend (l ++ l') h = (findSend l h).or (findSend l' h) := by
  simp only [findSend_eq_find?, List.find?_append]

/-- confirmed sends stay findable when more are confirmed -/
theorem findSend_append_left {l : List Send} {h : Hash} {y : Send} (hf : findSend l h = some y) (l' : List Send) :
    findSend (l ++ l') h = some y := by
  rw [findSend_append, hf]; rfl

theorem findSend_append_of_some {l : List Send} {x y : Send} {h : Hash} (hf : findSend l h = some y) :
    findSend (l ++ [x]) h = some y :=
  findSend_append_left hf [x]

end ZV.Ledger
