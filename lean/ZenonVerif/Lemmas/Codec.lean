import ZenonVerif.Model.Codec
/-
Helper lemmas for C13 (pre-image splitting, big-integer bytes).
-/
namespace ZV.Codec
open ZV

theorem leVal_replicate_zero (k : Nat) : leVal (List.replicate k 0) = 0 := by
  induction k with
  | zero => rfl
  | succ k ih => simp [List.replicate_succ, leVal, ih]

theorem beVal_zeros_append (k : Nat) (s : Bytes) : beVal (List.replicate k 0 ++ s) = beVal s := by
  simp [beVal, leVal_append, leVal_replicate_zero]

theorem u64_length (n : Nat) : (u64 n).length = 8 := beBytes_length 8 n

theorem u64_inj {n m : Nat} (hn : n < two64) (hm : m < two64) (h : u64 n = u64 m) : n = m :=
  beBytes_inj 8 n m hn hm h

/-! ### `big.Int.Bytes()` -/

theorem leVal_natBytesLEAux (f n : Nat) (h : n ≤ f) : leVal (natBytesLEAux f n) = n := by
  fun_induction natBytesLEAux f n with
  | case1 => cases Nat.le_zero.mp h; rfl
  | case2 => rfl
  | case3 f n h0 ih =>
    simp only [leVal, ih (by omega)]
    omega

theorem beVal_natBytesBE (n : Nat) : beVal (natBytesBE n) = n := by
  simp [beVal, natBytesBE, leVal_natBytesLEAux n n (Nat.le_refl n)]

/-- number of base-256 digits: `n < 256^k` gives `len ≤ k`; the converse is `natBytesLEAux_length_gt` -/
theorem natBytesLEAux_length_le : ∀ (f n k : Nat), n < 256 ^ k → (natBytesLEAux f n).length ≤ k := by
  intro f
  induction f with
  | zero => intro n k _; simp [natBytesLEAux]
  | succ f ih =>
    intro n k h
    unfold natBytesLEAux
    split
    · simp
    · next h0 =>
      cases k with
      | zero => simp at h; omega
      | succ k =>
        have : n / 256 < 256 ^ k := by
          rw [Nat.pow_succ] at h
          exact Nat.div_lt_of_lt_mul (by rw [Nat.mul_comm]; exact h)
        have := ih (n / 256) k this
        simp only [List.length_cons]; omega

theorem natBytesLEAux_length_gt : ∀ (f n k : Nat), n ≤ f → 256 ^ k ≤ n → k < (natBytesLEAux f n).length := by
  intro f
  induction f with
  | zero => intro n k h1 h2
            have : 0 < 256 ^ k := Nat.pow_pos (by decide)
            omega
  | succ f ih =>
    intro n k h1 h2
    have hpos : 0 < 256 ^ k := Nat.pow_pos (by decide)
    unfold natBytesLEAux
    split
    · omega
    · next h0 =>
      cases k with
      | zero => simp
      | succ k =>
        have : 256 ^ k ≤ n / 256 := by
          rw [Nat.pow_succ] at h2
          exact (Nat.le_div_iff_mul_le (by decide)).mpr h2
        have := ih (n / 256) k (by omega) this
        simp only [List.length_cons]; omega

theorem natBytesBE_length_le (n k : Nat) (h : n < 256 ^ k) : (natBytesBE n).length ≤ k := by
  simpa [natBytesBE] using natBytesLEAux_length_le n n k h

theorem natBytesBE_length_gt (n k : Nat) (h : 256 ^ k ≤ n) : k < (natBytesBE n).length := by
  simpa [natBytesBE] using natBytesLEAux_length_gt n n k (Nat.le_refl n) h

/-! ### `LeftPadBytes`, `BigIntToBytes` -/

theorem leftPad_length (l : Nat) (s : Bytes) : (leftPad l s).length = max l s.length := by
  unfold leftPad
  split
  · omega
  · simp; omega

theorem beVal_leftPad (l : Nat) (s : Bytes) : beVal (leftPad l s) = beVal s := by
  unfold leftPad
  split
  · rfl
  · exact beVal_zeros_append _ _

theorem beVal_bigIntToBytes (a : Int) : beVal (bigIntToBytes a) = a.natAbs := by
  simp [bigIntToBytes, beVal_leftPad, beVal_natBytesBE]

theorem bigIntToBytes_inj {a b : Int} (ha : 0 ≤ a) (hb : 0 ≤ b) (h : bigIntToBytes a = bigIntToBytes b) : a = b := by
  have := congrArg beVal h
  rw [beVal_bigIntToBytes, beVal_bigIntToBytes] at this
  omega

theorem bigIntToBytes_length_ge (a : Int) : Gen.BigIntPadWidth ≤ (bigIntToBytes a).length := by
  simp [bigIntToBytes, leftPad_length]; omega

theorem bigIntToBytes_length_fixed (a : Int) (h : a.natAbs < 2 ^ 256) :
    (bigIntToBytes a).length = Gen.BigIntPadWidth := by
  have := natBytesBE_length_le a.natAbs Gen.BigIntPadWidth h
  simp [bigIntToBytes, leftPad_length]; omega

theorem bigIntToBytes_length_var (a : Int) (h : 2 ^ 256 ≤ a.natAbs) :
    Gen.BigIntPadWidth < (bigIntToBytes a).length := by
  have := natBytesBE_length_gt a.natAbs Gen.BigIntPadWidth h
  simp [bigIntToBytes, leftPad_length]; omega

/-! ### splitting a concatenation of chunks of known width -/

/-- a concatenation determines its parts once their widths are known -/
theorem flatten_inj {α : Type} : ∀ {xs ys : List (List α)},
    xs.map List.length = ys.map List.length → xs.flatten = ys.flatten → xs = ys
  | [], [], _, _ => rfl
  | [], _ :: _, hl, _ => nomatch hl
  | _ :: _, [], hl, _ => nomatch hl
  | x :: xs, y :: ys, hl, h => by
    simp only [List.map_cons, List.cons.injEq] at hl
    obtain ⟨h1, h2⟩ := List.append_inj (by simpa only [List.flatten_cons] using h) hl.1
    rw [h1, flatten_inj hl.2 h2]

/-- records of one width under an encoder that is injective on well-formed values: the concatenation determines the list -/
theorem flatten_map_inj {α : Type} (f : α → Bytes) (P : α → Prop) (w : Nat) (hw : 0 < w)
    (hlen : ∀ x, P x → (f x).length = w) (hinj : ∀ x y, P x → P y → f x = f y → x = y) :
    ∀ xs ys : List α, (∀ x ∈ xs, P x) → (∀ y ∈ ys, P y) → (xs.map f).flatten = (ys.map f).flatten → xs = ys
  | [], [], _, _, _ => rfl
  | [], y :: ys, _, hy, h => by
    have hl := congrArg List.length h
    have := hlen y (hy y List.mem_cons_self)
    simp only [List.map_nil, List.map_cons, List.flatten_nil, List.flatten_cons, List.length_nil, List.length_append] at hl
    omega
  | x :: xs, [], hx, _, h => by
    have hl := congrArg List.length h
    have := hlen x (hx x List.mem_cons_self)
    simp only [List.map_nil, List.map_cons, List.flatten_nil, List.flatten_cons, List.length_nil, List.length_append] at hl
    omega
  | x :: xs, y :: ys, hx, hy, h => by
    have px := hx x List.mem_cons_self
    have py := hy y List.mem_cons_self
    obtain ⟨h1, h2⟩ := List.append_inj (by simpa only [List.map_cons, List.flatten_cons] using h)
      (by rw [hlen x px, hlen y py])
    rw [hinj x y px py h1, flatten_map_inj f P w hw hlen hinj xs ys (fun z hz => hx z (List.mem_cons_of_mem _ hz))
      (fun z hz => hy z (List.mem_cons_of_mem _ hz)) h2]

/-! ### unique splitting of the account-block pre-image -/

/-- the fields of an account block that enter the pre-image directly (not through a digest) -/
structure ABody.DirectEq (x y : ABody) : Prop where
  version : x.version = y.version
  chainIdentifier : x.chainIdentifier = y.chainIdentifier
  blockType : x.blockType = y.blockType
  previousHash : x.previousHash = y.previousHash
  height : x.height = y.height
  momentumAcknowledged : x.momentumAcknowledged = y.momentumAcknowledged
  address : x.address = y.address
  toAddress : x.toAddress = y.toAddress
  amount : x.amount = y.amount
  tokenStandard : x.tokenStandard = y.tokenStandard
  fromBlockHash : x.fromBlockHash = y.fromBlockHash
  fusedPlasma : x.fusedPlasma = y.fusedPlasma
  difficulty : x.difficulty = y.difficulty
  nonce : x.nonce = y.nonce

theorem abPreimage_eq (H : Bytes → Bytes) (b : Block) : abPreimage H b =
    u64 b.body.version ++ (u64 b.body.chainIdentifier ++ (u64 b.body.blockType ++ (b.body.previousHash ++
    (u64 b.body.height ++ ((b.body.momentumAcknowledged.hash ++ u64 b.body.momentumAcknowledged.height) ++
    (b.body.address ++ (b.body.toAddress ++ (bigIntToBytes b.body.amount ++ (b.body.tokenStandard ++
    (b.body.fromBlockHash ++ (H (descSource b.desc) ++ (H b.body.data ++ (u64 b.body.fusedPlasma ++
    (u64 b.body.difficulty ++ b.body.nonce)))))))))))))) := by
  simp [abPreimage, abHashParts, joinParts, hashHeightBytes, hashHeightParts]

theorem hashHeightBytes_length {h : HashHeight} (w : h.WF) : (hashHeightBytes h).length = Gen.HashSize + 8 := by
  simp only [hashHeightBytes, hashHeightParts, joinParts, List.map, List.flatten_cons, List.flatten_nil,
    List.length_append, List.length_nil, w.1, u64_length]

theorem hashHeightBytes_inj {x y : HashHeight} (wx : x.WF) (wy : y.WF) (h : hashHeightBytes x = hashHeightBytes y) :
    x = y := by
  have hp := flatten_inj (by simp only [hashHeightParts, List.map, wx.1, wy.1, u64_length]) h
  simp only [hashHeightParts, List.map, List.cons.injEq, and_true] at hp
  cases x; cases y
  simp only [HashHeight.mk.injEq]
  exact ⟨hp.1, u64_inj wx.2 wy.2 hp.2⟩

/-- the widths of the parts of the account-block pre-image: all fixed by the Go types but that of the amount -/
theorem abHashParts_widths (H : Bytes → Bytes) (hHlen : ∀ x, (H x).length = Gen.HashSize) (b : Block) (w : b.body.WF) :
    ((abHashParts H b).map (·.bytes)).map List.length =
      [8, 8, 8, Gen.HashSize, 8, Gen.HashSize + 8, Gen.AddressSize, Gen.AddressSize, (bigIntToBytes b.body.amount).length,
        Gen.ZtsSize, Gen.HashSize, Gen.HashSize, Gen.HashSize, 8, 8, Gen.NonceSize] := by
  simp only [abHashParts, List.map, u64_length, hHlen, hashHeightBytes_length w.momentumAcknowledged, w.previousHash,
    w.address, w.toAddress, w.tokenStandard, w.fromBlockHash, w.nonce]

theorem abPreimage_length (H : Bytes → Bytes) (hHlen : ∀ x, (H x).length = Gen.HashSize) (b : Block)
    (w : b.body.WF) : (abPreimage H b).length = abPreimageRestWidth + (bigIntToBytes b.body.amount).length := by
  rw [abPreimage, joinParts, List.length_flatten, abHashParts_widths H hHlen b w]
  simp only [List.sum_cons, List.sum_nil, abPreimageRestWidth]
  omega

theorem abPreimage_split (H : Bytes → Bytes) (hHlen : ∀ x, (H x).length = Gen.HashSize)
    (b1 b2 : Block) (w1 : b1.body.WF) (w2 : b2.body.WF)
    (a1 : 0 ≤ b1.body.amount) (a2 : 0 ≤ b2.body.amount)
    (h : abPreimage H b1 = abPreimage H b2) :
    ABody.DirectEq b1.body b2.body ∧ H (descSource b1.desc) = H (descSource b2.desc) ∧
      H b1.body.data = H b2.body.data := by
  -- the amount is the one part of variable width: the total length gives it
  have hl : (bigIntToBytes b1.body.amount).length = (bigIntToBytes b2.body.amount).length := by
    have := congrArg List.length h
    rw [abPreimage_length H hHlen b1 w1, abPreimage_length H hHlen b2 w2] at this
    exact Nat.add_left_cancel this
  have hp := flatten_inj (by rw [abHashParts_widths H hHlen b1 w1, abHashParts_widths H hHlen b2 w2, hl]) h
  simp only [abHashParts, List.map, List.cons.injEq, and_true] at hp
  obtain ⟨e1, e2, e3, e4, e5, e6, e7, e8, e9, e10, e11, e12, e13, e14, e15, e16⟩ := hp
  exact ⟨⟨u64_inj w1.version w2.version e1, u64_inj w1.chainIdentifier w2.chainIdentifier e2,
    u64_inj w1.blockType w2.blockType e3, e4, u64_inj w1.height w2.height e5,
    hashHeightBytes_inj w1.momentumAcknowledged w2.momentumAcknowledged e6, e7, e8, bigIntToBytes_inj a1 a2 e9, e10, e11,
    u64_inj w1.fusedPlasma w2.fusedPlasma e14, u64_inj w1.difficulty w2.difficulty e15, e16⟩, e12, e13⟩

theorem descSource_inj : ∀ (ds1 ds2 : List Block),
    (∀ d ∈ ds1, d.body.hash.length = Gen.HashSize) → (∀ d ∈ ds2, d.body.hash.length = Gen.HashSize) →
    descSource ds1 = descSource ds2 → ds1.map (·.body.hash) = ds2.map (·.body.hash) := fun ds1 ds2 h1 h2 h =>
  flatten_map_inj id (·.length = Gen.HashSize) Gen.HashSize (by decide) (fun _ h => h) (fun _ _ _ _ h => h) _ _
    (List.forall_mem_map.2 h1) (List.forall_mem_map.2 h2) (by rw [List.map_id, List.map_id]; exact h)

theorem deepWFList_hash (ds : List Block) (h : DeepWFList ds) : ∀ d ∈ ds, d.body.hash.length = Gen.HashSize := by
  induction ds with
  | nil => nofun
  | cons x xs ih =>
    obtain ⟨body, ds'⟩ := x
    rw [DeepWFList, Block.DeepWF] at h
    exact List.forall_mem_cons.2 ⟨h.1.1.hash, ih h.2⟩

theorem Block.strip_body (b : Block) : b.strip.body = b.body.strip := by
  cases b; rw [Block.strip]

theorem ABody.strip_eq_of {x y : ABody} (hd : ABody.DirectEq x y) (hh : x.hash = y.hash) (hdata : x.data = y.data) :
    x.strip = y.strip := by
  obtain ⟨h1, h2, h3, h4, h5, h6, h7, h8, h9, h10, h11, h12, h13, h14⟩ := hd
  cases x; cases y
  simp_all [ABody.strip]

/-- Equal hashes give equal covered fields, `Data` and descendant lists (recursively): by induction over the block and its
    descendant list at once, the digests opened with `hH` on the inputs listed in `hashInputs`. -/
theorem strip_eq_of_hash_eq (H : Bytes → Bytes) (hHlen : ∀ x, (H x).length = Gen.HashSize)
    (S : Bytes → Prop) (hH : InjOn H S) (b1 : Block) :
    ∀ b2 : Block, (∀ x ∈ b1.hashInputs H, S x) → (∀ x ∈ b2.hashInputs H, S x) →
      b1.DeepWF → b2.DeepWF → b1.Consistent H → b2.Consistent H →
      b1.body.hash = b2.body.hash → b1.strip = b2.strip := by
  induction b1 using Block.rec (motive_2 := fun ds1 => ∀ ds2 : List Block,
      (∀ x ∈ hashInputsList H ds1, S x) → (∀ x ∈ hashInputsList H ds2, S x) →
      DeepWFList ds1 → DeepWFList ds2 → ConsistentList H ds1 → ConsistentList H ds2 →
      ds1.map (·.body.hash) = ds2.map (·.body.hash) → stripList ds1 = stripList ds2) with
  | mk body ds ih =>
    intro b2 s1 s2 w1 w2 c1 c2 hh
    obtain ⟨body2, ds2⟩ := b2
    rw [Block.hashInputs] at s1 s2
    rw [Block.DeepWF] at w1 w2
    rw [Block.Consistent] at c1 c2
    simp only at hh
    have hpre : abPreimage H ⟨body, ds⟩ = abPreimage H ⟨body2, ds2⟩ :=
      hH _ _ (s1 _ (by simp)) (s2 _ (by simp)) (c1.1.symm.trans (hh.trans c2.1))
    obtain ⟨hd, hdesc, hdata⟩ := abPreimage_split H hHlen _ _ w1.1 w2.1 w1.2.1 w2.2.1 hpre
    have hdata' : body.data = body2.data := hH _ _ (s1 _ (by simp)) (s2 _ (by simp)) hdata
    have hdesc' : descSource ds = descSource ds2 := hH _ _ (s1 _ (by simp)) (s2 _ (by simp)) hdesc
    have hmap := descSource_inj ds ds2 (deepWFList_hash ds w1.2.2) (deepWFList_hash ds2 w2.2.2) hdesc'
    have hl := ih ds2 (fun x hx => s1 x (by simp [hx])) (fun x hx => s2 x (by simp [hx])) w1.2.2 w2.2.2 c1.2 c2.2 hmap
    rw [Block.strip, Block.strip, hl, ABody.strip_eq_of hd hh hdata']
  | nil =>
    rename_i ds2 _ _ _ _ _ _ h
    cases ds2 with
    | nil => rfl
    | cons d ds => simp at h
  | cons d ds ihd ihds =>
    rename_i ds2 s1 s2 w1 w2 c1 c2 h
    cases ds2 with
    | nil => simp at h
    | cons d2 ds2 =>
      rw [hashInputsList] at s1 s2
      rw [DeepWFList] at w1 w2
      rw [ConsistentList] at c1 c2
      simp only [List.map_cons, List.cons.injEq] at h
      rw [stripList, stripList,
        ihd d2 (fun x hx => s1 x (by simp [hx])) (fun x hx => s2 x (by simp [hx])) w1.1 w2.1 c1.1 c2.1 h.1,
        ihds ds2 (fun x hx => s1 x (by simp [hx])) (fun x hx => s2 x (by simp [hx])) w1.2 w2.2 c1.2 c2.2 h.2]

theorem accountHeaderBytes_eq (h : AccountHeader) :
    accountHeaderBytes h = h.address ++ (u64 h.height ++ h.hash) := by
  simp [accountHeaderBytes, accountHeaderParts, joinParts]

theorem accountHeaderBytes_length (h : AccountHeader) (w : h.WF) :
    (accountHeaderBytes h).length = Gen.AddressSize + 8 + Gen.HashSize := by
  obtain ⟨wa, wh, _⟩ := w
  simp [accountHeaderBytes_eq, u64_length]; omega

theorem accountHeaderBytes_inj {x y : AccountHeader} (wx : x.WF) (wy : y.WF)
    (h : accountHeaderBytes x = accountHeaderBytes y) : x = y := by
  have hp := flatten_inj (by simp only [accountHeaderParts, List.map, wx.1, wy.1, wx.2.1, wy.2.1, u64_length]) h
  simp only [accountHeaderParts, List.map, List.cons.injEq, and_true] at hp
  cases x; cases y
  simp only [AccountHeader.mk.injEq]
  exact ⟨hp.1, hp.2.2, u64_inj wx.2.2 wy.2.2 hp.2.1⟩

theorem contentBytes_inj (c1 c2 : List AccountHeader) (w1 : ∀ h ∈ c1, h.WF) (w2 : ∀ h ∈ c2, h.WF)
    (h : contentBytes c1 = contentBytes c2) : c1 = c2 :=
  flatten_map_inj accountHeaderBytes AccountHeader.WF (Gen.AddressSize + 8 + Gen.HashSize) (by decide)
    accountHeaderBytes_length (fun _ _ => accountHeaderBytes_inj) c1 c2 w1 w2 h

structure Momentum.DirectEq (x y : Momentum) : Prop where
  version : x.version = y.version
  chainIdentifier : x.chainIdentifier = y.chainIdentifier
  previousHash : x.previousHash = y.previousHash
  height : x.height = y.height
  timestampUnix : x.timestampUnix = y.timestampUnix
  changesHash : x.changesHash = y.changesHash

theorem momentumPreimage_split (H : Bytes → Bytes) (hHlen : ∀ x, (H x).length = Gen.HashSize)
    (m1 m2 : Momentum) (w1 : m1.WF) (w2 : m2.WF) (h : momentumPreimage H m1 = momentumPreimage H m2) :
    Momentum.DirectEq m1 m2 ∧ H m1.data = H m2.data ∧ H (contentBytes m1.content) = H (contentBytes m2.content) := by
  have hp := flatten_inj (by simp only [momentumHashParts, List.map, u64_length, hHlen, w1.previousHash, w2.previousHash,
    w1.changesHash, w2.changesHash]) h
  simp only [momentumHashParts, List.map, List.cons.injEq, and_true] at hp
  obtain ⟨e1, e2, e3, e4, e5, e6, e7, e8⟩ := hp
  exact ⟨⟨u64_inj w1.version w2.version e1, u64_inj w1.chainIdentifier w2.chainIdentifier e2, e3,
    u64_inj w1.height w2.height e4, u64_inj w1.timestampUnix w2.timestampUnix e5, e8⟩, e6, e7⟩

end ZV.Codec

/-! ### concrete instances for the non-vacuity examples of Props/C13.lean -/
namespace ZV.Codec.Example
open ZV ZV.Codec

/-- toy hash: 32 bytes, separates the few inputs of the examples -/
def toyH (x : Bytes) : Bytes := leBytes 32 (leVal x + 7 * x.length)

def body0 : ABody := { (default : ABody) with
  version := 1, chainIdentifier := 3, blockType := 5,
  hash := List.replicate 32 0, previousHash := List.replicate 32 9,
  momentumAcknowledged := ⟨List.replicate 32 4, 77⟩, address := List.replicate 20 1,
  toAddress := List.replicate 20 0, tokenStandard := List.replicate 10 0,
  fromBlockHash := List.replicate 32 2, nonce := List.replicate 8 0, amount := 0, data := [1, 2, 3],
  changesHash := List.replicate 32 0 }

def child0 : ABody := { body0 with blockType := 4, amount := 1000, data := [], height := 2 }
def child : Block := ⟨{ child0 with hash := abComputeHash toyH ⟨child0, []⟩ }, []⟩
/-- a contract-receive block with one descendant; signature and plasma are free (uncovered) -/
def parent (sig : Bytes) (plasma : Nat) : Block :=
  ⟨{ body0 with hash := abComputeHash toyH ⟨body0, [child]⟩, signature := sig, totalPlasma := plasma }, [child]⟩

def mom0 : Momentum := { (default : Momentum) with
  version := 1, chainIdentifier := 3, hash := List.replicate 32 0, previousHash := List.replicate 32 5,
  height := 10, timestampUnix := 1000, data := [],
  content := [⟨List.replicate 20 1, List.replicate 32 7, 4⟩, ⟨List.replicate 20 2, List.replicate 32 8, 1⟩],
  changesHash := List.replicate 32 6 }
def mom (sig : Bytes) : Momentum := { mom0 with hash := momentumComputeHash toyH mom0, signature := sig }

end ZV.Codec.Example
