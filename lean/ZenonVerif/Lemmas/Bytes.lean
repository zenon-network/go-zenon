import ZenonVerif.Model.Num
/-
`bytesLt` (= Go's `bytes.Compare(a, b) < 0`) is a strict total order on byte strings. Every model that sorts or
compares hashes, addresses or keys (store layers, pillar election, pool priority, genesis blocks) takes its order
laws from here.
-/
namespace ZV

/-- `bytesLt` decides the lexicographic order of lists, so its order laws are those of core -/
theorem bytesLt_iff (a b : Bytes) : bytesLt a b = true ↔ a < b := by
  induction a generalizing b with
  | nil => cases b <;> simp [bytesLt]
  | cons x xs ih =>
    cases b with
    | nil => simp [bytesLt]
    | cons y ys =>
      simp only [bytesLt, List.cons_lt_cons_iff, ← ih]
      rcases Nat.lt_trichotomy x y with h | h | h
      · simp [h]
      · simp [h]
      · simp [h, Nat.lt_asymm h, Nat.ne_of_gt h]

theorem bytesLt_irrefl (a : Bytes) : bytesLt a a = false :=
  Bool.eq_false_iff.2 fun h => List.lt_irrefl a ((bytesLt_iff a a).1 h)

theorem bytesLt_asymm {a b : Bytes} (h : bytesLt a b = true) : bytesLt b a = false :=
  Bool.eq_false_iff.2 fun h' => List.lt_asymm ((bytesLt_iff a b).1 h) ((bytesLt_iff b a).1 h')

theorem bytesLt_trans {a b c : Bytes} (hab : bytesLt a b = true) (hbc : bytesLt b c = true) :
    bytesLt a c = true :=
  (bytesLt_iff a c).2 (List.lt_trans ((bytesLt_iff a b).1 hab) ((bytesLt_iff b c).1 hbc))

/-- two byte strings neither of which is below the other are equal -/
theorem bytesLt_trichotomy {a b : Bytes} (h1 : bytesLt a b = false) (h2 : bytesLt b a = false) : a = b :=
  List.le_antisymm (List.not_lt.1 fun h => Bool.eq_false_iff.1 h2 ((bytesLt_iff b a).2 h))
    (List.not_lt.1 fun h => Bool.eq_false_iff.1 h1 ((bytesLt_iff a b).2 h))

theorem bytesLt_ne {a b : Bytes} (h : bytesLt a b = true) : a ≠ b := by
  intro e; subst e; rw [bytesLt_irrefl] at h; exact Bool.false_ne_true h

theorem bytesLt_total (a b : Bytes) : bytesLt a b = true ∨ a = b ∨ bytesLt b a = true := by
  cases h1 : bytesLt a b with
  | true => exact Or.inl rfl
  | false =>
    cases h2 : bytesLt b a with
    | true => exact Or.inr (Or.inr rfl)
    | false => exact Or.inr (Or.inl (bytesLt_trichotomy h1 h2))

/-! ### `isPrefix` (= `bytes.HasPrefix`) -/

theorem isPrefix_eq (p k : Bytes) : isPrefix p k = p.isPrefixOf k := by
  fun_induction isPrefix p k <;> simp [List.isPrefixOf, *]

theorem isPrefix_iff (p k : Bytes) : isPrefix p k = true ↔ ∃ x, k = p ++ x := by
  rw [isPrefix_eq, List.isPrefixOf_iff_prefix]
  exact exists_congr fun _ => eq_comm

theorem isPrefix_append (p x : Bytes) : isPrefix p (p ++ x) = true :=
  (isPrefix_iff p _).2 ⟨x, rfl⟩

/-! ### `bytesLe` (= `bytes.Compare(a, b) <= 0`), the non-strict order -/

theorem bytesLe_iff (a b : Bytes) : bytesLe a b = true ↔ bytesLt b a = false := by
  simp [bytesLe]

theorem bytesLe_total (a b : Bytes) : (bytesLe a b || bytesLe b a) = true := by
  rcases bytesLt_total a b with h | rfl | h
  · simp [bytesLe, bytesLt_asymm h]
  · simp [bytesLe, bytesLt_irrefl]
  · simp [bytesLe, bytesLt_asymm h]

/-- "not above" is transitive: it is `≤` of the lexicographic order -/
theorem bytesLt_false_trans {a b c : Bytes} (h1 : bytesLt b a = false) (h2 : bytesLt c b = false) :
    bytesLt c a = false := by
  simp only [← Bool.not_eq_true, bytesLt_iff, List.not_lt] at *
  exact List.le_trans h1 h2

theorem bytesLe_trans (a b c : Bytes) (h1 : bytesLe a b = true) (h2 : bytesLe b c = true) : bytesLe a c = true :=
  (bytesLe_iff a c).2 (bytesLt_false_trans ((bytesLe_iff a b).1 h1) ((bytesLe_iff b c).1 h2))

theorem bytesLe_antisymm (a b : Bytes) (h1 : bytesLe a b = true) (h2 : bytesLe b a = true) : a = b :=
  bytesLt_trichotomy ((bytesLe_iff b a).1 h2) ((bytesLe_iff a b).1 h1)

end ZV
