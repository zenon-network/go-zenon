import ZenonVerif.Model.Versioned
import ZenonVerif.Lemmas.KvLogic
import ZenonVerif.Lemmas.KvOrder
import ZenonVerif.Lemmas.ViewScan
/-
Manager-level invariant of the executable `Ldb` model (ldbManager): a ghost history of the versions on the current
chain, reachability over arbitrary sequences of commit / stale commit / pop, and the invariant that ties the raw
frontier, the stored undo patches and the hash index to that history.
-/
namespace ZV.Versioned
open ZV ZV.Kv ZV.KvLogic

theorem keyFrontierId_ne_heightByHash (h : Bytes) : keyFrontierId ≠ keyHeightByHash h := by
  simp [keyFrontierId, keyHeightByHash, Gen.frontierIdentifierKey, Gen.heightByHashPrefix]

theorem keyFrontierId_ne_entryByHeight (n : Nat) : keyFrontierId ≠ keyEntryByHeight n := by
  simp [keyFrontierId, keyEntryByHeight, Gen.frontierIdentifierKey, Gen.entryByHeightPrefix]

theorem keyHeightByHash_ne_entryByHeight (h : Bytes) (n : Nat) : keyHeightByHash h ≠ keyEntryByHeight n := by
  simp [keyHeightByHash, keyEntryByHeight, Gen.heightByHashPrefix, Gen.entryByHeightPrefix]

theorem keyHeightByHash_inj {h h' : Bytes} : keyHeightByHash h = keyHeightByHash h' ↔ h = h' := by
  simp [keyHeightByHash]

theorem isPrefix_keyHeightByHash (h : Bytes) : isPrefix Gen.heightByHashPrefix (keyHeightByHash h) = true :=
  isPrefix_append _ _

theorem beVal_beBytes8 {n : Nat} (h : n < two64) : beVal (beBytes 8 n) = n := by
  rw [beVal_beBytes]
  have : (256 : Nat) ^ 8 = two64 := by decide
  rw [this]; exact Nat.mod_eq_of_lt h

theorem decId_encId (i : Id) (h : i.height < two64) : decId (encId i) = i := by
  have hl : (beBytes 8 i.height).length = 8 := beBytes_length 8 _
  simp only [decId, encId]
  rw [List.take_left' hl, List.drop_left' hl, beVal_beBytes8 h]

theorem applyP_frontierOps (t : Store) (i : Id) (k : Bytes) :
    applyP t (frontierOps i) k =
      if k = keyEntryByHeight i.height then some i.hash
      else if k = keyHeightByHash i.hash then some (beBytes 8 i.height)
      else if k = keyFrontierId then some (encId i) else t k := by
  simp [applyP, frontierOps, applyOp]

theorem applyP_commit_frontierKey (t : Store) (ops : Patch) (i : Id) :
    applyP t (ops ++ frontierOps i) keyFrontierId = some (encId i) := by
  rw [applyP_append, applyP_frontierOps]
  simp [keyFrontierId_ne_heightByHash, keyFrontierId_ne_entryByHeight]

theorem frontierIdOf_commit (t : Store) (ops : Patch) (i : Id) (h : i.height < two64) :
    frontierIdOf (applyP t (ops ++ frontierOps i)) = i := by
  simp only [frontierIdOf, applyP_commit_frontierKey]
  exact decId_encId i h

theorem frontierId_abs (s : Ldb) : s.frontierId = frontierIdOf (abs s.frontier) := rfl

theorem frontierId_commit (f : Raw) (rbs pts : List (Nat × Patch)) (ops : Patch) {id : Id} (hb : id.height < two64) :
    Ldb.frontierId ⟨edApply f (ops ++ frontierOps id), rbs, pts⟩ = id := by
  rw [frontierId_abs, abs_edApply]; exact frontierIdOf_commit _ ops id hb

theorem isZero_eq {i : Id} (h : i.isZero = true) : i = Id.zero := by
  obtain ⟨n, b⟩ := i
  simp only [Id.isZero, Bool.and_eq_true, beq_iff_eq, List.isEmpty_iff] at h
  simp [Id.zero, h.1, h.2]

theorem applyP_commit_hashKey (t : Store) (ops : Patch) (i : Id) (x : Bytes)
    (hu : ∀ o ∈ ops, isPrefix Gen.heightByHashPrefix o.key = false) :
    applyP t (ops ++ frontierOps i) (keyHeightByHash x) =
      if x = i.hash then some (beBytes 8 i.height) else t (keyHeightByHash x) := by
  rw [applyP_append, applyP_frontierOps]
  simp only [keyHeightByHash_ne_entryByHeight, if_false, keyHeightByHash_inj,
    (keyFrontierId_ne_heightByHash x).symm]
  by_cases hx : x = i.hash
  · simp [hx]
  · simp only [hx, if_false]
    refine applyP_not_mem _ _ _ fun hm => ?_
    obtain ⟨o, ho, hk⟩ := List.mem_map.1 hm
    have := hu o ho
    rw [hk, isPrefix_keyHeightByHash] at this
    cases this

theorem lookupH_cons (n : Nat) (p : Patch) (l : List (Nat × Patch)) (j : Nat) :
    lookupH ((n, p) :: l) j = if n = j then some p else lookupH l j := rfl

theorem lookupH_filter (l : List (Nat × Patch)) (n j : Nat) :
    lookupH (l.filter (fun e => e.1 ≠ n)) j = if j = n then none else lookupH l j := by
  induction l with
  | nil => simp [lookupH]
  | cons e t ih =>
    obtain ⟨m, p⟩ := e
    rw [List.filter_cons]
    split <;> simp only [lookupH_cons, ih] <;> grind

theorem lookupH_filter_ne (l : List (Nat × Patch)) (n j : Nat) (h : j ≠ n) :
    lookupH (l.filter (fun e => e.1 ≠ n)) j = lookupH l j := by
  rw [lookupH_filter, if_neg h]

/-- storing `p` under height `n` (the older entries of that height go) -/
theorem lookupH_put (l : List (Nat × Patch)) (n : Nat) (p : Patch) (j : Nat) :
    lookupH ((n, p) :: l.filter (fun e => e.1 ≠ n)) j = if j = n then some p else lookupH l j := by
  rw [lookupH_cons, lookupH_filter]
  grind

theorem buildOverlay_succ {rbs : List (Nat × Patch)} {lo : Nat} {q : Patch} (hq : lookupH rbs (lo + 1) = some q)
    (m : Nat) (r : Raw) : buildOverlay rbs lo (m + 1) r = buildOverlay rbs (lo + 1) m (woApply r q) := by
  simp only [buildOverlay, hq]

theorem buildOverlay_split (rbs : List (Nat × Patch)) (a b : Nat) : ∀ (lo : Nat) (rb : Raw),
    (∀ i, i < a → (lookupH rbs (lo + 1 + i)).isSome = true) →
    buildOverlay rbs lo (a + b) rb = buildOverlay rbs (lo + a) b (buildOverlay rbs lo a rb) := by
  induction a with
  | zero => intro lo rb _; simp [buildOverlay]
  | succ a ih =>
    intro lo rb hall
    obtain ⟨q, hq⟩ := Option.isSome_iff_exists.1 (hall 0 (Nat.succ_pos a))
    rw [show a + 1 + b = (a + b) + 1 by omega, buildOverlay_succ hq, buildOverlay_succ hq,
      show lo + (a + 1) = lo + 1 + a by omega]
    exact ih _ _ fun i hi => by rw [Nat.add_assoc (lo + 1), Nat.add_comm 1]; exact hall (i + 1) (by omega)

/-- the last round of the overlay loop, when all earlier undo patches exist -/
theorem buildOverlay_snoc (rbs : List (Nat × Patch)) (n : Nat) : ∀ (lo : Nat) (rb : Raw) (p : Patch),
    (∀ i, i < n → (lookupH rbs (lo + 1 + i)).isSome = true) → lookupH rbs (lo + n + 1) = some p →
    buildOverlay rbs lo (n + 1) rb = woApply (buildOverlay rbs lo n rb) p := by
  intro lo rb p hall hp
  rw [buildOverlay_split rbs n 1 lo rb hall, buildOverlay_succ hp]
  rfl

theorem buildOverlay_congr (rbs rbs' : List (Nat × Patch)) (n : Nat) : ∀ (lo : Nat) (rb : Raw),
    (∀ i, i < n → lookupH rbs (lo + 1 + i) = lookupH rbs' (lo + 1 + i)) →
    buildOverlay rbs lo n rb = buildOverlay rbs' lo n rb := by
  induction n with
  | zero => intro lo rb _; rfl
  | succ n ih =>
    intro lo rb he
    simp only [buildOverlay, ← he 0 (Nat.succ_pos n)]
    cases lookupH rbs (lo + 1) with
    | none => rfl
    | some p => exact ih _ _ fun i hi => by rw [Nat.add_assoc (lo + 1), Nat.add_comm 1]; exact he (i + 1) (by omega)

theorem sorted_buildOverlay (rbs : List (Nat × Patch)) (n : Nat) :
    ∀ (lo : Nat) (rb : Raw), Sorted rb → Sorted (buildOverlay rbs lo n rb) := by
  intro lo rb hrb
  fun_induction buildOverlay rbs lo n rb with
  | case1 => exact hrb
  | case2 => exact hrb
  | case3 _ _ _ p _ ih => exact ih (hrb.woApply p)

/-- a version on the current chain: identifier, redo patch (user operations followed by the frontier bookkeeping
    writes) and the logical content of the store when this version was the frontier -/
structure Ver where
  id : Id
  patch : Patch
  store : Store

def topStore : List Ver → Store
  | [] => Store.empty
  | v :: _ => v.store

def topId : List Ver → Id
  | [] => Id.zero
  | v :: _ => v.id

@[simp] theorem topStore_nil : topStore [] = Store.empty := rfl
@[simp] theorem topStore_cons (v : Ver) (h : List Ver) : topStore (v :: h) = v.store := rfl
@[simp] theorem topId_nil : topId [] = Id.zero := rfl
@[simp] theorem topId_cons (v : Ver) (h : List Ver) : topId (v :: h) = v.id := rfl

/-- the ghost version created by committing `ops` under identifier `id` on top of history `h` -/
def commitVer (h : List Ver) (id : Id) (ops : Patch) : Ver :=
  ⟨id, ops ++ frontierOps id, applyP (topStore h) (ops ++ frontierOps id)⟩

/-- height discipline of a commit: one above the frontier, and a uint64 -/
structure HOk (top : Id) (id : Id) : Prop where
  height : id.height = top.height + 1
  bound : id.height < two64

/-- full side conditions of a commit on the frontier: height discipline, a hash not used by a version on the
    chain, and user operations that stay out of the hash index key space. The last two are assumptions on the
    callers, not checked by `ldbManager.Add`: identifiers are block hashes, taken to be distinct along one chain; the
    hash index lives under the one-byte prefix `heightByHashPrefix` (common/db/keys.go), where the stores built on this
    database are taken not to write themselves -/
structure AddOk (top : Id) (h : List Ver) (id : Id) (ops : Patch) : Prop extends HOk top id where
  fresh : ∀ v ∈ h, v.id.hash ≠ id.hash
  user : ∀ o ∈ ops, isPrefix Gen.heightByHashPrefix o.key = false

/-- height-chain: every version is a commit one above its predecessor -/
inductive HChain : List Ver → Prop
  | nil : HChain []
  | cons {h id ops} : HChain h → HOk (topId h) id → HChain (commitVer h id ops :: h)

/-- well-formed chain: additionally hashes are pairwise distinct and user operations avoid the hash index -/
inductive Chain : List Ver → Prop
  | nil : Chain []
  | cons {h id ops} : Chain h → AddOk (topId h) h id ops → Chain (commitVer h id ops :: h)

theorem Chain.hchain {h : List Ver} (hc : Chain h) : HChain h := by
  induction hc with
  | nil => exact HChain.nil
  | cons _ hok ih => exact HChain.cons ih hok.toHOk

theorem HChain.tail {v : Ver} {h : List Ver} (hc : HChain (v :: h)) : HChain h := by
  cases hc; assumption

theorem Chain.tail {v : Ver} {h : List Ver} (hc : Chain (v :: h)) : Chain h := by
  cases hc; assumption

theorem HChain.head {v : Ver} {h : List Ver} (hc : HChain (v :: h)) :
    ∃ ops, v = commitVer h v.id ops ∧ HOk (topId h) v.id := by
  cases hc with
  | cons _ hok => exact ⟨_, rfl, hok⟩

/-- a property of histories that passes to the tail passes to every suffix -/
theorem suffix_of_tail {P : List Ver → Prop} (tail : ∀ {v h}, P (v :: h) → P h) {a b : List Ver}
    (hp : P (a ++ b)) : P b := by
  induction a with
  | nil => exact hp
  | cons x a ih => exact ih (tail hp)

theorem HChain.suffix {a b : List Ver} (hc : HChain (a ++ b)) : HChain b := suffix_of_tail HChain.tail hc

theorem Chain.suffix {a b : List Ver} (hc : Chain (a ++ b)) : Chain b := suffix_of_tail Chain.tail hc

theorem HChain.topHeight {h : List Ver} (hc : HChain h) : (topId h).height = h.length := by
  induction hc with
  | nil => rfl
  | cons _ hok ih => simp only [topId_cons, commitVer, hok.height, List.length_cons]; rw [ih]

theorem HChain.head_height {v : Ver} {h : List Ver} (hc : HChain (v :: h)) : v.id.height = h.length + 1 := by
  simpa using hc.topHeight

theorem HChain.head_store {v : Ver} {h : List Ver} (hc : HChain (v :: h)) :
    v.store = applyP (topStore h) v.patch := by
  obtain ⟨ops, hv, _⟩ := hc.head
  rw [hv]; rfl

/-- heights on a chain are the positions counted from the bottom -/
theorem HChain.split_height {newer older : List Ver} {v : Ver} (hc : HChain (newer ++ v :: older)) :
    v.id.height = older.length + 1 := (HChain.suffix hc).head_height

theorem HChain.mem_height {h : List Ver} (hc : HChain h) {v : Ver} (hv : v ∈ h) :
    1 ≤ v.id.height ∧ v.id.height ≤ h.length := by
  obtain ⟨newer, older, rfl⟩ := List.append_of_mem hv
  have := hc.split_height
  simp only [List.length_append, List.length_cons]
  omega

theorem HChain.mem_bound {h : List Ver} (hc : HChain h) {v : Ver} (hv : v ∈ h) : v.id.height < two64 := by
  obtain ⟨newer, older, rfl⟩ := List.append_of_mem hv
  obtain ⟨_, _, hok⟩ := (HChain.suffix hc).head
  exact hok.bound

theorem HChain.mem_not_zero {h : List Ver} (hc : HChain h) {v : Ver} (hv : v ∈ h) : v.id.isZero = false := by
  have := (hc.mem_height hv).1
  simp only [Id.isZero, Bool.and_eq_false_iff, beq_eq_false_iff_ne]
  exact Or.inl (by omega)

theorem HChain.frontierIdOf_top {h : List Ver} (hc : HChain h) : frontierIdOf (topStore h) = topId h := by
  cases hc with
  | nil => rfl
  | cons _ hok => exact frontierIdOf_commit _ _ _ hok.bound

/-- hash index, positive part: every version on the chain is indexed under its hash with its height -/
theorem Chain.hashIndex_mem {h : List Ver} (hc : Chain h) {v : Ver} (hv : v ∈ h) :
    topStore h (keyHeightByHash v.id.hash) = some (beBytes 8 v.id.height) := by
  induction hc with
  | nil => simp at hv
  | @cons h id ops hc' hok ih =>
    simp only [topStore_cons, commitVer]
    rw [applyP_commit_hashKey _ _ _ _ hok.user]
    rcases List.mem_cons.1 hv with hv | hv
    · subst hv; simp [commitVer]
    · rw [if_neg (hok.fresh v hv)]; exact ih hv

/-- hash index, negative part: a hash of no version on the chain has no entry -/
theorem Chain.hashIndex_none {h : List Ver} (hc : Chain h) {x : Bytes} (hx : ∀ v ∈ h, v.id.hash ≠ x) :
    topStore h (keyHeightByHash x) = none := by
  induction hc with
  | nil => rfl
  | @cons h id ops hc' hok ih =>
    simp only [topStore_cons, commitVer]
    rw [applyP_commit_hashKey _ _ _ _ hok.user]
    rw [if_neg fun e => hx (commitVer h id ops) List.mem_cons_self (by simp [commitVer, e])]
    exact ih fun v hv => hx v (List.mem_cons_of_mem _ hv)

/-- hashes on a well-formed chain identify the version -/
theorem Chain.hash_inj {h : List Ver} (hc : Chain h) {v w : Ver} (hv : v ∈ h) (hw : w ∈ h)
    (he : v.id.hash = w.id.hash) : v = w := by
  induction hc with
  | nil => simp at hv
  | @cons h id ops hc' hok ih =>
    rcases List.mem_cons.1 hv with hv | hv <;> rcases List.mem_cons.1 hw with hw | hw
    · rw [hv, hw]
    · subst hv; exact absurd he.symm (hok.fresh w hw)
    · subst hw; exact absurd he (hok.fresh v hv)
    · exact ih hv hw

/-- the stored undo patch of every version on the chain is the one recorded against its predecessor's content -/
def RbInv (rbs : List (Nat × Patch)) : List Ver → Prop
  | [] => True
  | v :: h => lookupH rbs v.id.height = some (rollbackPatch (topStore h) v.patch) ∧ RbInv rbs h

theorem RbInv.congr {rbs rbs' : List (Nat × Patch)} {h : List Ver}
    (he : ∀ v ∈ h, lookupH rbs' v.id.height = lookupH rbs v.id.height) (hr : RbInv rbs h) : RbInv rbs' h := by
  induction h with
  | nil => trivial
  | cons v h ih =>
    refine ⟨?_, ih (fun w hw => he w (List.mem_cons_of_mem _ hw)) hr.2⟩
    rw [he v (by simp)]; exact hr.1

theorem RbInv.suffix {rbs : List (Nat × Patch)} {a b : List Ver} (hr : RbInv rbs (a ++ b)) : RbInv rbs b :=
  suffix_of_tail (P := RbInv rbs) And.right hr

theorem RbInv.isSome {rbs : List (Nat × Patch)} {h : List Ver} (hr : RbInv rbs h) (hc : HChain h)
    (j : Nat) (h1 : 1 ≤ j) (h2 : j ≤ h.length) : (lookupH rbs j).isSome = true := by
  induction h with
  | nil => simp at h2; omega
  | cons v h ih =>
    have hh := hc.head_height
    by_cases hj : j = h.length + 1
    · rw [hj, ← hh, hr.1]; rfl
    · exact ih hr.2 hc.tail (by simp at h2; omega)

/-- the stored redo patch of every version on the chain is that version's patch -/
def PtInv (pts : List (Nat × Patch)) : List Ver → Prop
  | [] => True
  | v :: h => lookupH pts v.id.height = some v.patch ∧ PtInv pts h

theorem ptInv_iff {pts : List (Nat × Patch)} {h : List Ver} :
    PtInv pts h ↔ ∀ v ∈ h, lookupH pts v.id.height = some v.patch := by
  induction h with
  | nil => simp [PtInv]
  | cons w h ih => simp [PtInv, ih]

theorem PtInv.mem {pts : List (Nat × Patch)} {h : List Ver} (hr : PtInv pts h) {v : Ver} (hv : v ∈ h) :
    lookupH pts v.id.height = some v.patch := ptInv_iff.1 hr v hv

theorem PtInv.congr {pts pts' : List (Nat × Patch)} {h : List Ver}
    (he : ∀ v ∈ h, lookupH pts' v.id.height = lookupH pts v.id.height) (hr : PtInv pts h) : PtInv pts' h :=
  ptInv_iff.2 fun v hv => (he v hv).trans (hr.mem hv)

/-- the part of the invariant that only needs the height discipline -/
structure Inv0 (s : Ldb) (h : List Ver) : Prop where
  hchain : HChain h
  sorted : Sorted s.frontier
  front : KvLogic.abs s.frontier = topStore h
  rb : RbInv s.rollbacks h
  -- absence is part of the invariant: `Pop` on the empty chain must be refused (`Inv0.pop_empty`)
  rbNone : ∀ j, j = 0 ∨ h.length < j → lookupH s.rollbacks j = none
  pt : PtInv s.patches h
  ptNone : ∀ j, j = 0 ∨ h.length < j → lookupH s.patches j = none

/-- the full invariant: a well-formed chain, and the raw state represents it -/
structure Inv (s : Ldb) (h : List Ver) : Prop where
  chain : Chain h
  inv0 : Inv0 s h

theorem Inv0.frontierId {s : Ldb} {h : List Ver} (hi : Inv0 s h) : s.frontierId = topId h := by
  rw [frontierId_abs, hi.front, hi.hchain.frontierIdOf_top]

theorem Inv0.frontierHeight {s : Ldb} {h : List Ver} (hi : Inv0 s h) : s.frontierId.height = h.length := by
  rw [hi.frontierId, hi.hchain.topHeight]

theorem topId_isZero {h : List Ver} (hc : HChain h) : (topId h).isZero = true ↔ h = [] := by
  cases h with
  | nil => simp [topId_nil, Id.zero, Id.isZero]
  | cons v h =>
    have := hc.mem_not_zero (v := v) (by simp)
    simp [topId_cons, this]

theorem Root.get_front (base : Raw) : (Root.front base).get = KvLogic.abs base := rfl

theorem Root.get_mem : Root.mem.get = Store.empty := rfl

theorem Root.get_hist (rb base : Raw) : (Root.hist rb base).get = viewOf (oabs rb) (KvLogic.abs base) := by
  funext k; simp only [Root.get, Root.rawGet]; exact edDecode_mget2 rb base k

/-- the view `Get(frontier)` hands out: the empty memdb for the zero identifier, else the frontier itself -/
theorem Ldb.get_frontierId (s : Ldb) :
    s.get s.frontierId = some (if s.frontierId.isZero then Root.mem else Root.front s.frontier) := by
  unfold Ldb.get
  by_cases hz : s.frontierId.isZero = true <;> simp [hz]

/-- what the view `Get(frontier)` hands to `Add` reads -/
def frontView (s : Ldb) : Store := (if s.frontierId.isZero then Root.mem else Root.front s.frontier).get

/-- a commit on the frontier, written out; it cannot fail -/
theorem add_frontier (s : Ldb) (id : Id) (ops : Patch) :
    s.add s.frontierId id ops = some
      { frontier := edApply s.frontier (ops ++ frontierOps id),
        rollbacks := (id.height, rollbackPatch (frontView s) (ops ++ frontierOps id)) ::
          s.rollbacks.filter (fun e => e.1 ≠ id.height),
        patches := (id.height, ops ++ frontierOps id) :: s.patches.filter (fun e => e.1 ≠ id.height) } := by
  unfold Ldb.add
  rw [s.get_frontierId]
  simp only [if_true]
  rfl

theorem frontView_of_zero {s : Ldb} (hz : s.frontierId.isZero = true) : frontView s = Store.empty := by
  rw [frontView, if_pos hz]; rfl

theorem frontView_of_not_zero {s : Ldb} (hz : ¬ s.frontierId.isZero = true) : frontView s = abs s.frontier := by
  rw [frontView, if_neg hz]; rfl

theorem frontierIdOf_frontView (s : Ldb) : frontierIdOf (frontView s) = s.frontierId := by
  by_cases hz : s.frontierId.isZero = true
  · rw [frontView_of_zero hz, isZero_eq hz]; rfl
  · rw [frontView_of_not_zero hz]; rfl

/-- `Get(frontier identifier)` succeeds and shows the frontier content -/
theorem Inv0.get_frontier {s : Ldb} {h : List Ver} (hi : Inv0 s h) :
    ∃ r, s.get s.frontierId = some r ∧ r.get = topStore h ∧
      (r = Root.mem ∧ h = [] ∨ r = Root.front s.frontier) := by
  refine ⟨_, s.get_frontierId, ?_⟩
  by_cases hz : s.frontierId.isZero = true
  · have hnil : h = [] := (topId_isZero hi.hchain).1 (by rw [← hi.frontierId]; exact hz)
    rw [if_pos hz]
    exact ⟨by rw [hnil]; rfl, Or.inl ⟨rfl, hnil⟩⟩
  · rw [if_neg hz]
    exact ⟨by rw [Root.get_front, hi.front], Or.inr rfl⟩

theorem Inv0.frontView {s : Ldb} {h : List Ver} (hi : Inv0 s h) : frontView s = topStore h := by
  obtain ⟨r, hr, hg, _⟩ := hi.get_frontier
  rw [s.get_frontierId] at hr
  cases hr
  exact hg

/-- what a commit on the frontier writes (no side condition needed beyond the invariant) -/
theorem Inv0.add_eq {s s' : Ldb} {h : List Ver} (hi : Inv0 s h) (id : Id) (ops : Patch)
    (ha : s.add s.frontierId id ops = some s') :
    s' = { frontier := edApply s.frontier (ops ++ frontierOps id),
           rollbacks := (id.height, rollbackPatch (topStore h) (ops ++ frontierOps id)) ::
              s.rollbacks.filter (fun e => e.1 ≠ id.height),
           patches := (id.height, ops ++ frontierOps id) :: s.patches.filter (fun e => e.1 ≠ id.height) } := by
  rw [add_frontier, hi.frontView] at ha
  exact (Option.some.inj ha).symm

theorem Inv0.add {s s' : Ldb} {h : List Ver} (hi : Inv0 s h) {id : Id} (ops : Patch)
    (hok : HOk s.frontierId id) (ha : s.add s.frontierId id ops = some s') :
    Inv0 s' (commitVer h id ops :: h) := by
  have hok' : HOk (topId h) id := hi.frontierId ▸ hok
  have hlen : id.height = h.length + 1 := by rw [hok'.height, hi.hchain.topHeight]
  -- the new table entries sit above every height of the chain, so the lookups at those heights are the old ones
  have hold : ∀ (l : List (Nat × Patch)) (p : Patch), ∀ v ∈ h,
      lookupH ((id.height, p) :: l.filter (fun e => e.1 ≠ id.height)) v.id.height = lookupH l v.id.height := by
    intro l p v hv
    have := (hi.hchain.mem_height hv).2
    rw [lookupH_put, if_neg (by omega)]
  have hnone : ∀ (l : List (Nat × Patch)) (p : Patch), (∀ j, j = 0 ∨ h.length < j → lookupH l j = none) →
      ∀ j, j = 0 ∨ h.length + 1 < j → lookupH ((id.height, p) :: l.filter (fun e => e.1 ≠ id.height)) j = none := by
    intro l p hl j hj
    rw [lookupH_put, if_neg (by omega)]
    exact hl j (by omega)
  have hs' := hi.add_eq id ops ha
  subst hs'
  exact ⟨HChain.cons hi.hchain hok', hi.sorted.edApply _, by rw [abs_edApply, hi.front]; rfl,
    ⟨(lookupH_put ..).trans (if_pos rfl), hi.rb.congr (hold _ _)⟩, hnone _ _ hi.rbNone,
    ⟨(lookupH_put ..).trans (if_pos rfl), hi.pt.congr (hold _ _)⟩, hnone _ _ hi.ptNone⟩

/-- a pop in a state with a non-empty history, written out; it cannot fail -/
theorem Inv0.pop_val {s : Ldb} {v : Ver} {h : List Ver} (hi : Inv0 s (v :: h)) :
    s.pop = some { frontier := edApply s.frontier (rollbackPatch (topStore h) v.patch),
                   rollbacks := s.rollbacks.filter (fun e => e.1 ≠ v.id.height),
                   patches := s.patches.filter (fun e => e.1 ≠ v.id.height) } := by
  simp only [Ldb.pop, hi.frontierId, topId_cons, hi.rb.1]

theorem Inv0.pop_eq {s s' : Ldb} {v : Ver} {h : List Ver} (hi : Inv0 s (v :: h)) (hp : s.pop = some s') :
    s' = { frontier := edApply s.frontier (rollbackPatch (topStore h) v.patch),
           rollbacks := s.rollbacks.filter (fun e => e.1 ≠ v.id.height),
           patches := s.patches.filter (fun e => e.1 ≠ v.id.height) } :=
  (Option.some.inj (hi.pop_val.symm.trans hp)).symm

theorem Inv0.pop {s s' : Ldb} {v : Ver} {h : List Ver} (hi : Inv0 s (v :: h)) (hp : s.pop = some s') :
    Inv0 s' h := by
  have hh := hi.hchain.head_height
  -- the deleted height is above every height of the remaining chain
  have hold : ∀ (l : List (Nat × Patch)), ∀ w ∈ h,
      lookupH (l.filter (fun e => e.1 ≠ v.id.height)) w.id.height = lookupH l w.id.height := by
    intro l w hw
    have := (hi.hchain.tail.mem_height hw).2
    exact lookupH_filter_ne _ _ _ (by omega)
  have hnone : ∀ (l : List (Nat × Patch)), (∀ j, j = 0 ∨ h.length + 1 < j → lookupH l j = none) →
      ∀ j, j = 0 ∨ h.length < j → lookupH (l.filter (fun e => e.1 ≠ v.id.height)) j = none := by
    intro l hl j hj
    rw [lookupH_filter]
    split
    · rfl
    · exact hl j (by omega)
  have hs' := hi.pop_eq hp
  subst hs'
  exact ⟨hi.hchain.tail, hi.sorted.edApply _,
    by rw [abs_edApply, hi.front, topStore_cons, hi.hchain.head_store, applyP_undo],
    hi.rb.2.congr (hold _), hnone _ hi.rbNone, hi.pt.2.congr (hold _), hnone _ hi.ptNone⟩

/-- a pop on the empty history is refused (no undo patch is stored for height 0) -/
theorem Inv0.pop_empty {s : Ldb} (hi : Inv0 s []) : s.pop = none := by
  have hfid : s.frontierId = Id.zero := hi.frontierId
  have := hi.rbNone 0 (Or.inl rfl)
  simp [Ldb.pop, hfid, Id.zero, this]

theorem Inv0.pop_succeeds {s : Ldb} {v : Ver} {h : List Ver} (hi : Inv0 s (v :: h)) : ∃ s', s.pop = some s' :=
  ⟨_, hi.pop_val⟩

theorem Inv0.add_succeeds {s : Ldb} {h : List Ver} (hi : Inv0 s h) (id : Id) (ops : Patch) :
    ∃ s', s.add s.frontierId id ops = some s' :=
  ⟨_, hi.frontView ▸ add_frontier s id ops⟩

theorem add_stale_eq {s s' : Ldb} {prev id : Id} {ops : Patch} (hne : prev ≠ s.frontierId)
    (ha : s.add prev id ops = some s') : s' = s := by
  unfold Ldb.add at ha
  cases hg : s.get prev with
  | none => simp [hg] at ha
  | some r => simp [hg, hne] at ha; exact ha.symm

/-- reachable manager states together with the ghost history of the current chain (newest version first) -/
inductive Reach : Ldb → List Ver → Prop
  | init : Reach Ldb.empty []
  | add {s s' h id ops} : Reach s h → AddOk s.frontierId h id ops → s.add s.frontierId id ops = some s' →
      Reach s' (commitVer h id ops :: h)
  | addStale {s s' h prev id ops} : Reach s h → prev ≠ s.frontierId → s.add prev id ops = some s' → Reach s' h
  | pop {s s' v h} : Reach s (v :: h) → s.pop = some s' → Reach s' h

theorem Inv.init : Inv Ldb.empty [] := by
  refine ⟨Chain.nil, HChain.nil, Sorted.nil, abs_nil, trivial, ?_, trivial, ?_⟩ <;> (intro j _; rfl)

theorem Reach.inv {s : Ldb} {h : List Ver} (hr : Reach s h) : Inv s h := by
  induction hr with
  | init => exact Inv.init
  | @add s s' h id ops _ hok ha ih =>
    have hfid := ih.inv0.frontierId
    exact ⟨Chain.cons ih.chain (hfid ▸ hok), ih.inv0.add ops hok.toHOk ha⟩
  | addStale _ hne ha ih => rw [add_stale_eq hne ha]; exact ih
  | pop _ hp ih => exact ⟨ih.chain.tail, ih.inv0.pop hp⟩

/-- a commit on the frontier that meets the side conditions is a step of `Reach`, and makes `id` the frontier -/
theorem Reach.commit {s : Ldb} {h : List Ver} (hr : Reach s h) {id : Id} {ops : Patch}
    (hok : AddOk s.frontierId h id ops) : ∃ s', Reach s' (commitVer h id ops :: h) ∧ s'.frontierId = id :=
  have hr' := Reach.add hr hok (add_frontier s id ops)
  ⟨_, hr', hr'.inv.inv0.frontierId⟩

/-- the overlay folded from the stored undo patches of the versions above `v`, laid over the frontier content,
    shows the content of `v`: one `viewOf_step` per version above -/
theorem overlay_view {rbs : List (Nat × Patch)} {h : List Ver} (hc : HChain h) (hr : RbInv rbs h) {v : Ver}
    (hv : v ∈ h) :
    viewOf (oabs (buildOverlay rbs v.id.height (h.length - v.id.height) [])) (topStore h) = v.store := by
  induction h with
  | nil => cases hv
  | cons w h ih =>
    have hw := hc.head_height
    rcases List.mem_cons.1 hv with rfl | hv
    · rw [List.length_cons, hw, Nat.sub_self]; rfl
    · have hvh := hc.tail.mem_height hv
      rw [List.length_cons, Nat.succ_sub hvh.2,
        buildOverlay_snoc rbs _ _ [] _ (fun i hi => hr.2.isSome hc.tail _ (by omega) (by omega))
          (by rw [← hr.1, hw]; congr 1; omega),
        oabs_woApply, topStore_cons, hc.head_store]
      exact viewOf_step _ _ _ _ (ih hc.tail hr.2 hv)

theorem Inv.hashIndex {s : Ldb} {h : List Ver} (hi : Inv s h) {v : Ver} (hv : v ∈ h) :
    edDecode (rget s.frontier (keyHeightByHash v.id.hash)) = some (beBytes 8 v.id.height) := by
  have := hi.chain.hashIndex_mem hv
  rwa [← hi.inv0.front] at this

/-- C07-T1 on the executable manager: `Get(id of a version on the chain)` succeeds and reads, for every key,
    the content that version had when it was committed -/
theorem Inv.view {s : Ldb} {h : List Ver} (hi : Inv s h) {v : Ver} (hv : v ∈ h) :
    ∃ r, s.get v.id = some r ∧ r.get = v.store ∧
      (r = Root.front s.frontier ∧ v.id = s.frontierId ∨
       v.id ≠ s.frontierId ∧ ∃ rb, r = Root.hist rb s.frontier ∧ Sorted rb) := by
  have hc := hi.inv0.hchain
  have hnz : v.id.isZero = false := hc.mem_not_zero hv
  have hf := hi.inv0.frontierHeight
  by_cases hvf : v.id = s.frontierId
  · refine ⟨Root.front s.frontier, by simp [Ldb.get, hvf, hvf ▸ hnz], ?_, Or.inl ⟨rfl, hvf⟩⟩
    -- the frontier identifier is that of the newest version, and hashes identify versions
    obtain ⟨w, h', rfl⟩ := List.exists_cons_of_ne_nil (List.ne_nil_of_mem hv)
    rw [Root.get_front, hi.inv0.front,
      hi.chain.hash_inj hv List.mem_cons_self (by rw [hvf, hi.inv0.frontierId]; rfl)]
    rfl
  · refine ⟨Root.hist (buildOverlay s.rollbacks v.id.height (h.length - v.id.height) []) s.frontier, ?_, ?_,
      Or.inr ⟨hvf, _, rfl, sorted_buildOverlay _ _ _ _ Sorted.nil⟩⟩
    · simp [Ldb.get, hnz, hvf, hi.hashIndex hv, beVal_beBytes8 (hc.mem_bound hv), hf]
    · rw [Root.get_hist, hi.inv0.front]
      exact overlay_view hc hi.inv0.rb hv

/-- the view of a version on the chain reads that version and its layers are in key order -/
theorem Inv.view_wf {s : Ldb} {h : List Ver} (hi : Inv s h) {v : Ver} (hv : v ∈ h) :
    ∃ r, s.get v.id = some r ∧ r.get = v.store ∧ r.WF := by
  obtain ⟨r, hg, hget, hshape⟩ := hi.view hv
  refine ⟨r, hg, hget, ?_⟩
  rcases hshape with ⟨rfl, _⟩ | ⟨_, rb, rfl, hrb⟩
  · exact hi.inv0.sorted
  · exact ⟨hrb, hi.inv0.sorted⟩

/-- an identifier that is neither zero nor the identifier of a version on the chain is refused -/
theorem Inv.get_unknown {s : Ldb} {h : List Ver} (hi : Inv s h) {id : Id} (hz : id.isZero = false)
    (hid : ∀ v ∈ h, v.id ≠ id) : s.get id = none := by
  have hne : id ≠ s.frontierId := by
    rw [hi.inv0.frontierId]
    cases h with
    | nil => intro e; rw [e] at hz; cases hz
    | cons v h => exact fun e => hid v List.mem_cons_self e.symm
  -- the hash index has no entry for the hash, or one with another height
  by_cases hx : ∃ v ∈ h, v.id.hash = id.hash
  · obtain ⟨v, hv, hvh⟩ := hx
    have hidx := hi.hashIndex hv
    rw [hvh] at hidx
    have hhe : v.id.height ≠ id.height := by
      intro e
      apply hid v hv
      cases hvi : v.id; cases id; simp_all
    simp [Ldb.get, hz, hne, hidx, beVal_beBytes8 (hi.inv0.hchain.mem_bound hv), hhe]
  · have hidx := hi.chain.hashIndex_none (x := id.hash) (fun v hv e => hx ⟨v, hv, e⟩)
    rw [← hi.inv0.front] at hidx
    simp [Ldb.get, hz, hne, show edDecode _ = none from hidx]

/-- the entries an ordered scan of the view at version `v` must list: exactly the content of `v` under the prefix
    (whether `v` is the frontier or below it) -/
def scanSpec (v : Ver) (p : Bytes) : Bytes → Bytes → Prop :=
  fun k val => isPrefix p k = true ∧ v.store k = some val

theorem Inv.view_scan {s : Ldb} {h : List Ver} (hi : Inv s h) {v : Ver} (hv : v ∈ h) :
    ∃ r, s.get v.id = some r ∧ r.get = v.store ∧
      ∀ p, OrderedEntries (edEntries (r.rawScan p)) (scanSpec v p) := by
  obtain ⟨r, hg, hget, hw⟩ := hi.view_wf hv
  refine ⟨r, hg, hget, fun p => ?_⟩
  have := r.scan_entries hw p
  rwa [hget] at this

/-- the views handed out for one version in two states — whatever else their chains hold — agree on every lookup
    and every ordered prefix scan: both enumerate the version's content -/
theorem Inv.view_agree {s s' : Ldb} {h h' : List Ver} (hi : Inv s h) (hi' : Inv s' h') {v : Ver}
    (hv : v ∈ h) (hv' : v ∈ h') :
    ∃ r r', s.get v.id = some r ∧ s'.get v.id = some r' ∧ (∀ k, r.get k = r'.get k) ∧
      (∀ p, edEntries (r.rawScan p) = edEntries (r'.rawScan p)) := by
  obtain ⟨r, hg, hget, hscan⟩ := hi.view_scan hv
  obtain ⟨r', hg', hget', hscan'⟩ := hi'.view_scan hv'
  exact ⟨r, r', hg, hg', fun k => by rw [hget, hget'], fun p => (hscan p).unique (hscan' p)⟩

/-- observational equality of two manager states: for every identifier `Get` answers alike (refused / a view),
    and the two views agree on every lookup and on every ordered prefix scan -/
def ObsEq (s t : Ldb) : Prop :=
  ∀ i : Id,
    match s.get i, t.get i with
    | some r, some r' => (∀ k, r.get k = r'.get k) ∧ (∀ p, edEntries (r.rawScan p) = edEntries (r'.rawScan p))
    | none, none => True
    | _, _ => False

theorem Inv.obsEq {s t : Ldb} {h : List Ver} (hs : Inv s h) (ht : Inv t h) : ObsEq s t := by
  intro i
  by_cases hz : i.isZero = true
  · have hm : ∀ u : Ldb, u.get i = some Root.mem := fun u => by simp [Ldb.get, hz]
    rw [hm s, hm t]; exact ⟨fun _ => rfl, fun _ => rfl⟩
  · have hz' : i.isZero = false := by simpa using hz
    by_cases hx : ∃ v ∈ h, v.id = i
    · obtain ⟨v, hv, rfl⟩ := hx
      obtain ⟨r, r', hg, hg', hag⟩ := hs.view_agree ht hv hv
      rw [hg, hg']; exact hag
    · have hid : ∀ v ∈ h, v.id ≠ i := fun v hv e => hx ⟨v, hv, e⟩
      rw [hs.get_unknown hz' hid, ht.get_unknown hz' hid]
      trivial

/-- commit on the frontier followed by pop re-establishes the invariant for the SAME history; only the height
    discipline of the popped commit is needed -/
theorem Inv.add_pop {s s1 s2 : Ldb} {h : List Ver} (hi : Inv s h) {id : Id} {ops : Patch}
    (hok : HOk s.frontierId id) (ha : s.add s.frontierId id ops = some s1) (hp : s1.pop = some s2) : Inv s2 h :=
  ⟨hi.chain, (hi.inv0.add ops hok ha).pop hp⟩

/-- a commit on a known non-frontier parent "succeeds" (and, by `add_stale_eq`, changes nothing) -/
theorem Inv.add_stale_succeeds {s : Ldb} {h : List Ver} (hi : Inv s h) {v : Ver} (hv : v ∈ h)
    (hne : v.id ≠ s.frontierId) (id : Id) (ops : Patch) : s.add v.id id ops = some s := by
  obtain ⟨r, hg, _⟩ := hi.view hv
  simp [Ldb.add, hg, hne]

theorem Inv.add_unknown {s : Ldb} {h : List Ver} (hi : Inv s h) {prev : Id} (hz : prev.isZero = false)
    (hid : ∀ v ∈ h, v.id ≠ prev) (id : Id) (ops : Patch) : s.add prev id ops = none := by
  simp [Ldb.add, hi.get_unknown hz hid]

/-- replaying the redo patches of the chain, oldest first, from the empty store gives the frontier content -/
theorem HChain.replay {h : List Ver} (hc : HChain h) :
    (h.reverse.map Ver.patch).foldl applyP Store.empty = topStore h := by
  induction h with
  | nil => rfl
  | cons v h ih =>
    simp only [List.reverse_cons, List.map_append, List.map_cons, List.map_nil, List.foldl_append,
      List.foldl_cons, List.foldl_nil, topStore_cons]
    rw [ih hc.tail, hc.head_store]

theorem RbInv.lookup_eq {rbs rbs' : List (Nat × Patch)} {h : List Ver} (hr : RbInv rbs h) (hr' : RbInv rbs' h)
    (hc : HChain h) (j : Nat) (h1 : 1 ≤ j) (h2 : j ≤ h.length) : lookupH rbs j = lookupH rbs' j := by
  induction h with
  | nil => simp at h2; omega
  | cons v h ih =>
    have hh := hc.head_height
    by_cases hj : j = h.length + 1
    · rw [hj, ← hh, hr.1, hr'.1]
    · exact ih hr.2 hr'.2 hc.tail (by simp at h2; omega)

/-- extending a cached overlay = rebuilding it: an overlay for version `v` that was folded when
    the chain was `h` and is extended, in a later state whose chain still has `h` as its lower part, by the undo
    patches above `h`, is the overlay the cache-free `Get` builds from scratch in the later state -/
theorem Inv0.cached_overlay {s s' : Ldb} {h newer : List Ver} (hi : Inv0 s h) (hi' : Inv0 s' (newer ++ h))
    {v : Ver} (hv : v ∈ h) :
    buildOverlay s'.rollbacks s.frontierId.height (s'.frontierId.height - s.frontierId.height)
        (buildOverlay s.rollbacks v.id.height (s.frontierId.height - v.id.height) []) =
      buildOverlay s'.rollbacks v.id.height (s'.frontierId.height - v.id.height) [] := by
  have hf' := hi'.frontierHeight
  rw [List.length_append] at hf'
  have hrb' : RbInv s'.rollbacks h := hi'.rb.suffix
  -- `a` undo patches lie between `v` and the old frontier; both states store the same ones there
  obtain ⟨a, ha⟩ : ∃ a, h.length = v.id.height + a := ⟨_, (Nat.add_sub_cancel' (hi.hchain.mem_height hv).2).symm⟩
  rw [hi.frontierHeight, hf', ha, Nat.add_sub_cancel_left, Nat.add_sub_cancel, Nat.add_comm newer.length, Nat.add_assoc,
    Nat.add_sub_cancel_left,
    buildOverlay_split s'.rollbacks a newer.length v.id.height []
      (fun i hi0 => hrb'.isSome hi.hchain _ (by omega) (by omega)),
    buildOverlay_congr s.rollbacks s'.rollbacks a v.id.height []
      (fun i hi0 => hi.rb.lookup_eq hrb' hi.hchain _ (by omega) (by omega))]

end ZV.Versioned
