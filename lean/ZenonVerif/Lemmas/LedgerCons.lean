import ZenonVerif.Lemmas.LedgerInv
/-
Conservation: Σ balances + Σ unreceived sends per token, and how each primitive effect moves it.
-/
namespace ZV.Ledger

variable {s s' s0 s1 s2 : State} {e : Ev} {c a : Addr} {h : Hash} {st : Nat} {ds : List Desc}
  {snd nxt x : Send} {out : TokOutcome} {t n : Tok} {toks : List (Tok × TokInfo)} {d : Desc}

/-- Σ of all balances of token `t` -/
def sumBal (s : State) (t : Tok) : Nat := sumBalL s.bal t

/-- Σ of the amounts of token `t` in confirmed sends nobody has received yet -/
def inflightSum (s : State) (t : Tok) : Nat :=
  (s.unreceived.map (fun x => if x.tok = t then x.amt else 0)).sum

/-- supply recorded in the token contract's storage (0 for an unknown token) -/
def supplyOf (s : State) (t : Tok) : Nat := supplyOfL s.toks t

/-- the conservation equation, for every real token -/
def Conserved (s : State) : Prop :=
  ∀ t, t ≠ zeroTok → supplyOf s t = sumBal s t + inflightSum s t

/-- Σ balances + Σ in flight: the right-hand side of `Conserved` -/
def total (s : State) (t : Tok) : Nat := sumBal s t + inflightSum s t

def SupplyLeMax (s : State) : Prop := ∀ t i, getTok s.toks t = some i → i.supply ≤ i.max

/-- every confirmed send passed the send-time validation of its token call -/
def CallsOk (s : State) : Prop := ∀ x ∈ s.sends, CallOk x.call

theorem sumBal_credit (s : State) (a : Addr) (t : Tok) (n : Nat) (t' : Tok) :
    sumBal (s.credit a t n) t' = sumBal s t' + (if t = t' then n else 0) := by
  have := sumBalL_setBal s.bal a t (getBal s.bal a t + n) t'
  show sumBalL (setBal s.bal a t (getBal s.bal a t + n)) t' = sumBalL s.bal t' + _
  by_cases h : t = t'
  · simp only [if_pos h] at this ⊢; omega
  · simp only [if_neg h] at this ⊢; omega

/-- `hle` makes the new value `getBal − n` exact, so the sum drops by `n` -/
theorem sumBal_debit (s : State) (a : Addr) (t : Tok) (n : Nat) (t' : Tok) (hle : n ≤ getBal s.bal a t) :
    sumBal (s.debit a t n) t' + (if t = t' then n else 0) = sumBal s t' := by
  have := sumBalL_setBal s.bal a t (getBal s.bal a t - n) t'
  show sumBalL (setBal s.bal a t (getBal s.bal a t - n)) t' + _ = sumBalL s.bal t'
  by_cases h : t = t'
  · simp only [if_pos h] at this ⊢; omega
  · simp only [if_neg h] at this ⊢; omega

theorem getBal_credit (s : State) (a : Addr) (t : Tok) (n : Nat) (a' : Addr) (t' : Tok) :
    getBal (s.credit a t n).bal a' t' = getBal s.bal a' t' + (if a = a' ∧ t = t' then n else 0) := by
  simp only [State.credit, getBal_setBal, Prod.mk.injEq]
  split
  · rename_i h; obtain ⟨rfl, rfl⟩ := h; rfl
  · rfl

theorem getBal_debit (s : State) (a : Addr) (t : Tok) (n : Nat) (a' : Addr) (t' : Tok)
    (hle : n ≤ getBal s.bal a t) :
    getBal (s.debit a t n).bal a' t' + (if a = a' ∧ t = t' then n else 0) = getBal s.bal a' t' := by
  simp only [State.debit, getBal_setBal, Prod.mk.injEq]
  split
  · rename_i h; obtain ⟨rfl, rfl⟩ := h; omega
  · rfl

/-- removing the one send with hash `x.hash` from a filtered sum -/
theorem sum_filter_remove (l : List Send) (P : Send → Bool) (f : Send → Nat) (x : Send)
    (hnd : (l.map (·.hash)).Nodup) (hx : x ∈ l) (hP : P x = true) :
    ((l.filter (fun y => !(x.hash == y.hash) && P y)).map f).sum + f x = ((l.filter P).map f).sum := by
  induction l with
  | nil => simp at hx
  | cons y r ih =>
    simp only [List.map_cons, List.nodup_cons] at hnd
    rcases List.mem_cons.1 hx with rfl | hx'
    · rw [List.filter_cons, List.filter_cons]
      simp only [beq_self_eq_true, Bool.not_true, Bool.false_and, hP, if_true, List.map_cons, List.sum_cons,
        Bool.false_eq_true, if_false]
      -- no other element has the hash of `x`
      rw [List.filter_congr (q := P) fun z hz => by
        have : (x.hash == z.hash) = false := beq_eq_false_iff_ne.2 fun he => hnd.1 (he ▸ List.mem_map_of_mem hz)
        rw [this]; rfl]
      omega
    · have hne : (x.hash == y.hash) = false := by
        simp only [beq_eq_false_iff_ne, ne_eq]
        intro he
        exact hnd.1 (he ▸ List.mem_map.2 ⟨x, hx', rfl⟩)
      have ih' := ih hnd.2 hx'
      rw [List.filter_cons, List.filter_cons]
      simp only [hne, Bool.not_false, Bool.true_and]
      split
      · simp only [List.map_cons, List.sum_cons]; omega
      · exact ih'

theorem isReceived_pushSend (s : State) (x : Send) (h : Hash) : (pushSend s x).isReceived h = s.isReceived h := rfl

theorem unreceived_pushSend (hw : WF s) (hf : x.hash ∉ s.sends.map (·.hash)) :
    (pushSend s x).unreceived = s.unreceived ++ [x] := by
  have hnr := hw.not_received hf
  show (s.sends ++ [x]).filter (fun y => !(pushSend s x).isReceived y.hash) = _
  simp only [isReceived_pushSend, List.filter_append, State.unreceived]
  congr 1
  simp [hnr]

theorem inflight_pushSend (hw : WF s) (hf : x.hash ∉ s.sends.map (·.hash)) (t : Tok) :
    inflightSum (pushSend s x) t = inflightSum s t + (if x.tok = t then x.amt else 0) := by
  simp only [inflightSum, unreceived_pushSend hw hf, List.map_append, List.sum_append]
  simp

/-- under the gate, the send a receive is about to consume is unreceived -/
theorem checkFrom_unreceived (hw : WF s) (hg : s.gate = true)
    (hc : checkFrom s a h = .ok snd) : s.isReceived h = false := by
  obtain ⟨hfind, hdst, hnot⟩ := checkFrom_ok.1 hc
  obtain ⟨hmem, hh⟩ := findSend_some hfind
  -- a marker for `h` belongs to the addressee of `snd`, which is `a`
  refine isReceived_eq_false.2 fun b hm => hnot ?_
  rwa [← hdst hg, hw.recvAddressee hg _ hm snd hmem hh]

theorem inflight_recvCore (hw : WF s) (hg : s.gate = true)
    (hc : checkFrom s a h = .ok snd) (t : Tok) :
    inflightSum (recvCore s a h snd) t + (if snd.tok = t then snd.amt else 0) = inflightSum s t := by
  have hun := checkFrom_unreceived hw hg hc
  obtain ⟨hfind, _, _⟩ := checkFrom_ok.1 hc
  obtain ⟨hmem, hh⟩ := findSend_some hfind
  subst hh
  have hfun : (fun y : Send => !(recvCore s a snd.hash snd).isReceived y.hash)
      = fun y => !(snd.hash == y.hash) && !s.isReceived y.hash := by
    funext y
    simp [recvCore, State.isReceived, State.credit, List.any_cons, Bool.not_or]
  have := sum_filter_remove s.sends (fun y => !s.isReceived y.hash) (fun x => if x.tok = t then x.amt else 0) snd
    hw.sendHashes hmem (by simp [hun])
  simp only [inflightSum, State.unreceived]
  show ((s.sends.filter (fun y => !(recvCore s a snd.hash snd).isReceived y.hash)).map _).sum + _ = _
  rw [hfun]
  exact this

theorem total_pushSend (hw : WF s) (hf : x.hash ∉ s.sends.map (·.hash)) (hle : x.amt ≤ getBal s.bal x.src x.tok)
    (t : Tok) : total (pushSend s x) t = total s t := by
  have h1 : sumBal (pushSend s x) t + _ = _ := sumBal_debit s x.src x.tok x.amt t hle
  have h2 := inflight_pushSend hw hf t
  simp only [total]
  omega

theorem total_recvCore (hw : WF s) (hg : s.gate = true)
    (hc : checkFrom s a h = .ok snd) (t : Tok) : total (recvCore s a h snd) t = total s t := by
  have h1 : sumBal (recvCore s a h snd) t = _ := sumBal_credit s a snd.tok snd.amt t
  have h2 := inflight_recvCore hw hg hc t
  simp only [total]
  omega

theorem total_applyDescs {c : Addr} : ∀ {ds : List Desc} {s s' : State}, WF s → FreshDescs s ds →
    applyDescs s c ds = .ok s' → ∀ t, total s' t = total s t
  | [], s, s', _, _, hok, t => by simp only [applyDescs] at hok; cases hok; rfl
  | d :: ds, s, s', hw, hf, hok, t => by
    obtain ⟨hz, hle, h2⟩ := applyDescs_cons_ok hok
    rw [total_applyDescs (hw.pushSend hf.head hz) hf.tail h2 t, total_pushSend hw hf.head hle t]

theorem Conserved.of_total (hc : Conserved s) (ht : s'.toks = s.toks)
    (htot : ∀ t, total s' t = total s t) : Conserved s' := by
  intro t hz
  have := hc t hz
  have h2 := htot t
  simp only [total] at h2
  simp only [supplyOf, ht] at this ⊢
  omega

theorem supplyOfL_setTok (toks : List (Tok × TokInfo)) (t : Tok) (i : TokInfo) (t' : Tok) :
    supplyOfL (setTok toks t i) t' = if t = t' then i.supply else supplyOfL toks t' := by
  simp only [supplyOfL, getTok_setTok]
  by_cases h : t = t' <;> simp [h]

theorem inflight_of_frame (hs : s'.sends = s.sends) (hr : s'.recv = s.recv) (t : Tok) :
    inflightSum s' t = inflightSum s t := by
  simp only [inflightSum, State.unreceived, State.isReceived, hs, hr]

/-- mint/burn move the recorded supply and the contract's balance by the same amount; needs the burn guard and
    conservation before (so that the burned amount is within the recorded supply) -/
theorem Conserved.tokStep (hc : Conserved s1) (c : Addr)
    (hm : tokenMethod s1.toks snd n = some out)
    (hburn : out.burn ≤ getBal (tokMint s1 c out).bal c out.mintTok) : Conserved (tokApply s1 c out) := by
  obtain ⟨i', ht, hsup, _⟩ := tokenMethod_summary hm
  intro t hz
  have hcs := hc t hz
  have hinf : inflightSum (tokApply s1 c out) t = inflightSum s1 t := inflight_of_frame rfl rfl t
  have hsb1 : sumBal (tokMint s1 c out) t = sumBal s1 t + (if out.mintTok = t then out.mint else 0) :=
    sumBal_credit s1 c out.mintTok out.mint t
  have hsb2 : sumBal (tokApply s1 c out) t + (if out.mintTok = t then out.burn else 0) = sumBal (tokMint s1 c out) t :=
    sumBal_debit (tokMint s1 c out) c out.mintTok out.burn t hburn
  have hsup' : supplyOf (tokApply s1 c out) t = if out.mintTok = t then i'.supply else supplyOf s1 t := by
    show supplyOfL out.toks t = _
    rw [ht, supplyOfL_setTok]; rfl
  rw [hsup', hinf]
  by_cases he : out.mintTok = t
  · subst he
    simp only [if_true] at hsb1 hsb2 ⊢
    simp only [supplyOf] at hcs
    omega
  · simp only [he, if_false] at hsb1 hsb2 ⊢
    omega

/-- under the burn guard and conservation, what is burned is within the recorded supply plus what was just minted -/
theorem burn_le_supply {s1 : State} (hc : Conserved s1) (c : Addr) {out : TokOutcome}
    (hz : out.mintTok ≠ zeroTok)
    (hburn : out.burn ≤ getBal (tokMint s1 c out).bal c out.mintTok) :
    out.burn ≤ supplyOf s1 out.mintTok + out.mint := by
  have hcs := hc _ hz
  have hgb : getBal (tokMint s1 c out).bal c out.mintTok = getBal s1.bal c out.mintTok + out.mint := by
    have := getBal_credit s1 c out.mintTok out.mint c out.mintTok
    rw [if_pos ⟨rfl, rfl⟩] at this
    exact this
  have hle : getBal s1.bal c out.mintTok ≤ sumBal s1 out.mintTok := getBal_le_sumBalL _ _ _
  omega

end ZV.Ledger
