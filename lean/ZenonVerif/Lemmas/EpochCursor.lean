import ZenonVerif.Model.EpochCursor
/-
Lemmas about the epoch cursor and the deposits (for Props/C11Node.lean, and through `consecutive`, `Coins` and the
one-call lemmas for Lemmas/RewardEpoch.lean and Props/C11Epoch.lean): what each catch-up loop does in one statement,
inversion of `update` and `collect`, and what ONE call of the machine does to the rewarded epochs and to a deposit (the
theorems about sequences of calls are inductions over these).
-/
namespace ZV.EpochCursor

/-- the epochs `cur+1, cur+2, …, cur+n` -/
def consecutive (cur : Int) : Nat → List Int
  | 0 => []
  | n + 1 => (cur + 1) :: consecutive (cur + 1) n

theorem consecutive_length (cur : Int) (n : Nat) : (consecutive cur n).length = n := by
  induction n generalizing cur with
  | zero => rfl
  | succ n ih => simp [consecutive, ih]

theorem mem_consecutive {cur : Int} {n : Nat} {e : Int} : e ∈ consecutive cur n ↔ cur < e ∧ e ≤ cur + n := by
  induction n generalizing cur with
  | zero => simp [consecutive]
  | succ n ih =>
    simp only [consecutive, List.mem_cons, ih]
    omega

theorem consecutive_append (cur : Int) (m n : Nat) :
    consecutive cur m ++ consecutive (cur + m) n = consecutive cur (m + n) := by
  induction m generalizing cur with
  | zero => simp [consecutive]
  | succ m ih =>
    have : cur + ((m + 1 : Nat) : Int) = cur + 1 + (m : Int) := by omega
    rw [this]
    have e : m + 1 + n = (m + n) + 1 := by omega
    rw [e]
    simp only [consecutive, List.cons_append, ih]

theorem consecutive_pairwise (cur : Int) (n : Nat) : (consecutive cur n).Pairwise (· < ·) := by
  induction n generalizing cur with
  | zero => simp [consecutive]
  | succ n ih =>
    simp only [consecutive, List.pairwise_cons]
    refine ⟨?_, ih (cur + 1)⟩
    intro e he
    have := (mem_consecutive.mp he).1
    omega

theorem epochEnd_add (c : Cfg) (e k : Int) : epochEnd c (e + k) = epochEnd c e + k * c.epochSec := by
  unfold epochEnd
  rw [show e + k + 1 = e + 1 + k by omega, Int.mul_add, Int.mul_comm c.epochSec k]
  omega

theorem epochEnd_mono (c : Cfg) {a b : Int} (h : a ≤ b) : epochEnd c a ≤ epochEnd c b := by
  unfold epochEnd
  have := Int.mul_le_mul_of_nonneg_left (show a + 1 ≤ b + 1 by omega) (Int.le_of_lt c.epochSec_pos)
  omega

theorem tooRecent_false_iff (c : Cfg) (cursor ts : Int) :
    tooRecent c cursor ts = false ↔ epochEnd c (cursor + 1) + c.rtl ≤ ts := by
  simp [tooRecent]

theorem tooRecent_true_iff (c : Cfg) (cursor ts : Int) :
    tooRecent c cursor ts = true ↔ ts < epochEnd c (cursor + 1) + c.rtl := by
  simp [tooRecent]

theorem catchUp_stop (c : Cfg) (ts cursor : Int) (h : tooRecent c cursor ts = true) : catchUp c ts cursor = (cursor, []) := by
  rw [catchUp]; simp [h]

theorem catchUp_step (c : Cfg) (ts cursor : Int) (h : tooRecent c cursor ts = false) :
    catchUp c ts cursor = ((catchUp c ts (cursor + 1)).1, (cursor + 1) :: (catchUp c ts (cursor + 1)).2) := by
  rw [catchUp]; simp [h]

theorem liqOrigin_stop (c : Cfg) (ts cursor : Int) (blocks : Nat) (h : tooRecent c cursor ts = true) :
    liqOrigin c ts cursor blocks = (cursor, []) := by
  rw [liqOrigin]; simp [h]

theorem liqOrigin_cap (c : Cfg) (ts cursor : Int) (blocks : Nat) (h : tooRecent c cursor ts = false) (hc : c.maxBlocks ≤ blocks) :
    liqOrigin c ts cursor blocks = (cursor + 1, []) := by
  rw [liqOrigin]; simp [h, hc]

theorem liqOrigin_step (c : Cfg) (ts cursor : Int) (blocks : Nat) (h : tooRecent c cursor ts = false) (hc : ¬ c.maxBlocks ≤ blocks) :
    liqOrigin c ts cursor blocks =
      ((liqOrigin c ts (cursor + 1) (blocks + 2)).1, (cursor + 1) :: (liqOrigin c ts (cursor + 1) (blocks + 2)).2) := by
  rw [liqOrigin]; simp [h, hc]

theorem catchUp_spec (c : Cfg) (ts cursor : Int) :
    ∃ n : Nat, catchUp c ts cursor = (cursor + n, consecutive cursor n) ∧
      (∀ e ∈ consecutive cursor n, epochEnd c e + c.rtl ≤ ts) ∧
      ts < epochEnd c (cursor + n + 1) + c.rtl := by
  induction cursor using catchUp.induct c ts with
  | case1 cursor h =>
    rw [catchUp_stop c ts cursor h]
    exact ⟨0, by simp [consecutive], List.forall_mem_nil _,
      by simpa using (tooRecent_true_iff c cursor ts).mp h⟩
  | case2 cursor h ih =>
    obtain ⟨n, hn, hdue, hstop⟩ := ih
    have hf : tooRecent c cursor ts = false := by simpa using h
    rw [catchUp_step c ts cursor hf, hn]
    refine ⟨n + 1, ?_, List.forall_mem_cons.mpr ⟨(tooRecent_false_iff c cursor ts).mp hf, hdue⟩, ?_⟩
    · simp only [consecutive]
      congr 1
      omega
    · rwa [show cursor + ((n + 1 : Nat) : Int) + 1 = cursor + 1 + n + 1 by omega]

/-- everything the origin-table liquidity loop does: it rewards `n` consecutive due epochs and then either stops at a
    not-yet-due epoch, or — when the block cap is reached while another epoch is due — moves the cursor over one more
    epoch without rewarding it -/
theorem liqOrigin_spec (c : Cfg) (ts cursor : Int) (blocks : Nat) :
    ∃ n : Nat, (liqOrigin c ts cursor blocks).2 = consecutive cursor n ∧
      (∀ e ∈ consecutive cursor n, epochEnd c e + c.rtl ≤ ts) ∧
      (n = 0 ∨ blocks + 2 * (n - 1) < c.maxBlocks) ∧
      (((liqOrigin c ts cursor blocks).1 = cursor + n ∧ ts < epochEnd c (cursor + n + 1) + c.rtl) ∨
       ((liqOrigin c ts cursor blocks).1 = cursor + n + 1 ∧ epochEnd c (cursor + n + 1) + c.rtl ≤ ts ∧
          c.maxBlocks ≤ blocks + 2 * n)) := by
  induction cursor, blocks using liqOrigin.induct c ts with
  | case1 cursor blocks h =>
    rw [liqOrigin_stop c ts cursor blocks h]
    exact ⟨0, rfl, List.forall_mem_nil _, Or.inl rfl,
      Or.inl ⟨by simp, by simpa using (tooRecent_true_iff c cursor ts).mp h⟩⟩
  | case2 cursor blocks h hcap =>
    have hf : tooRecent c cursor ts = false := by simpa using h
    rw [liqOrigin_cap c ts cursor blocks hf hcap]
    exact ⟨0, rfl, List.forall_mem_nil _, Or.inl rfl,
      Or.inr ⟨by simp, by simpa using (tooRecent_false_iff c cursor ts).mp hf, by simpa using hcap⟩⟩
  | case3 cursor blocks h hcap ih =>
    have hf : tooRecent c cursor ts = false := by simpa using h
    obtain ⟨n, hl, hdue, hcnt, hend⟩ := ih
    rw [liqOrigin_step c ts cursor blocks hf hcap]
    refine ⟨n + 1, by simp only [hl]; rfl,
      List.forall_mem_cons.mpr ⟨(tooRecent_false_iff c cursor ts).mp hf, hdue⟩, Or.inr ?_, ?_⟩
    · rcases hcnt with rfl | hcnt <;> omega
    rw [show cursor + ((n + 1 : Nat) : Int) = cursor + 1 + n by omega]
    rcases hend with ⟨a, b⟩ | ⟨a, b, d⟩
    · exact Or.inl ⟨a, b⟩
    · exact Or.inr ⟨a, b, by omega⟩

theorem liqOne_spec (c : Cfg) (ts cursor : Int) :
    (ts < epochEnd c (cursor + 1) + c.rtl ∧ liqOne c ts cursor = (cursor, [])) ∨
    (epochEnd c (cursor + 1) + c.rtl ≤ ts ∧ liqOne c ts cursor = (cursor + 1, [cursor + 1])) := by
  unfold liqOne checkAndPerformUpdateEpoch
  cases h : tooRecent c cursor ts
  · right; exact ⟨(tooRecent_false_iff c cursor ts).mp h, by simp⟩
  · left; exact ⟨(tooRecent_true_iff c cursor ts).mp h, by simp⟩

theorem advance_consecutive (c : Cfg) (v : Variant) (ts cursor : Int) :
    ∃ n : Nat, (advance c v ts cursor).2 = consecutive cursor n ∧
      (∀ e ∈ consecutive cursor n, epochEnd c e + c.rtl ≤ ts) ∧
      cursor + n ≤ (advance c v ts cursor).1 ∧ (advance c v ts cursor).1 ≤ cursor + n + 1 ∧
      (v ≠ .liqOrigin → (advance c v ts cursor).1 = cursor + n) := by
  cases v with
  | loop =>
    obtain ⟨n, hn, hdue, _⟩ := catchUp_spec c ts cursor
    simp only [advance, hn]
    exact ⟨n, rfl, hdue, Int.le_refl _, by omega, fun _ => rfl⟩
  | liqOrigin =>
    obtain ⟨n, h1, h2, _, h4⟩ := liqOrigin_spec c ts cursor 0
    refine ⟨n, h1, h2, ?_, ?_, fun h => absurd rfl h⟩ <;> simp only [advance] <;> omega
  | liqOne =>
    simp only [advance]
    rcases liqOne_spec c ts cursor with ⟨_, h⟩ | ⟨hd, h⟩ <;> rw [h]
    · exact ⟨0, rfl, List.forall_mem_nil _, by simp only; omega, by simp only; omega, fun _ => by simp⟩
    · refine ⟨1, rfl, fun e he => ?_, by simp only; omega, by simp only; omega, fun _ => by simp⟩
      rw [List.mem_singleton.mp he]; exact hd

/-! ### Coins -/

@[simp] theorem Coins.add_znn (a b : Coins) : (a + b).znn = a.znn + b.znn := rfl
@[simp] theorem Coins.add_qsr (a b : Coins) : (a + b).qsr = a.qsr + b.qsr := rfl
@[simp] theorem Coins.zero_znn : Coins.zero.znn = 0 := rfl
@[simp] theorem Coins.zero_qsr : Coins.zero.qsr = 0 := rfl

theorem Coins.ext' {a b : Coins} (h1 : a.znn = b.znn) (h2 : a.qsr = b.qsr) : a = b := by
  cases a; cases b; simp_all

theorem Coins.add_assoc' (a b c : Coins) : a + b + c = a + (b + c) := Coins.ext' (Nat.add_assoc ..) (Nat.add_assoc ..)
theorem Coins.zero_add' (a : Coins) : Coins.zero + a = a := Coins.ext' (Nat.zero_add _) (Nat.zero_add _)
theorem Coins.add_zero' (a : Coins) : a + Coins.zero = a := rfl

/-! ### inversion of the two methods -/

theorem update_eq_some {c : Cfg} {v : Variant} {s s' : CState} {h : Nat} {ts : Int} {es : List Int}
    (hu : update c v s h ts = some (s', es)) :
    s' = { s with cursor := (advance c v ts s.cursor).1, lastUpdate := h } ∧ es = (advance c v ts s.cursor).2 := by
  unfold update at hu
  split at hu
  · cases hu; exact ⟨rfl, rfl⟩
  · cases hu

theorem collect_eq_some {s s' : CState} {a : Addr} {ms : List Mint} (h : collect s a = some (ms, s')) :
    ¬ ((s.dep a).znn = 0 ∧ (s.dep a).qsr = 0) ∧
    ms = (if 0 < (s.dep a).znn then [Mint.mk false (s.dep a).znn a] else []) ++
      (if 0 < (s.dep a).qsr then [Mint.mk true (s.dep a).qsr a] else []) ∧
    s' = { s with dep := fun b => if b = a then Coins.zero else s.dep b } := by
  unfold collect at h
  simp only at h
  split at h
  · cases h
  · rename_i hne; cases h; exact ⟨hne, rfl, rfl⟩

theorem paid_collect {s s' : CState} {a : Addr} {ms : List Mint} (h : collect s a = some (ms, s')) (b : Addr) :
    paid ms b = if b = a then s.dep a else Coins.zero := by
  obtain ⟨_, rfl, _⟩ := collect_eq_some h
  -- the (at most two) mint requests are the two coins of `a`'s deposit, a coin of amount 0 being left out: four cases
  by_cases hb : a = b
  · subst hb
    by_cases hz : 0 < (s.dep a).znn <;> by_cases hq : 0 < (s.dep a).qsr <;>
      simp [paid, hz, hq, Coins.zero] <;> (apply Coins.ext' <;> simp <;> omega)
  · have hb' : ¬ b = a := fun h => hb h.symm
    by_cases hz : 0 < (s.dep a).znn <;> by_cases hq : 0 < (s.dep a).qsr <;> simp [paid, hz, hq, hb, hb']

/-! ### one call -/

theorem run_cons (c : Cfg) (v : Variant) (s : CState) (o : Op) (os : List Op) :
    run c v s (o :: os) = ((run c v (step c v s o).1 os).1, (step c v s o).2 :: (run c v (step c v s o).1 os).2) := rfl

theorem rewardedOf_cons (x : Out) (os : List Out) : rewardedOf (x :: os) = rewardedOf [x] ++ rewardedOf os := by
  cases x <;> simp [rewardedOf]

theorem mintedOf_cons (a : Addr) (x : Out) (os : List Out) : mintedOf a (x :: os) = mintedOf a [x] + mintedOf a os := by
  cases x <;> simp only [mintedOf, Coins.zero_add', Coins.add_zero']

theorem creditedOf_cons (a : Addr) (o : Op) (os : List Op) : creditedOf a (o :: os) = creditedOf a [o] + creditedOf a os := by
  cases o <;> simp only [creditedOf, Coins.zero_add', Coins.add_zero']

theorem step_rewarded (c : Cfg) (v : Variant) (s : CState) (o : Op) :
    ∃ n : Nat, rewardedOf [(step c v s o).2] = consecutive s.cursor n ∧ s.cursor + n ≤ (step c v s o).1.cursor ∧
      (v ≠ .liqOrigin → (step c v s o).1.cursor = s.cursor + n) := by
  have stay : ∀ s' : CState, s'.cursor = s.cursor →
      ∃ n : Nat, [] = consecutive s.cursor n ∧ s.cursor + n ≤ s'.cursor ∧ (v ≠ .liqOrigin → s'.cursor = s.cursor + n) :=
    fun s' h => ⟨0, rfl, by simp [h], fun _ => by simp [h]⟩
  fun_cases step c v s o with
  | case1 h ts s' es hu =>
    obtain ⟨rfl, rfl⟩ := update_eq_some hu
    obtain ⟨n, h1, _, h3, _, h5⟩ := advance_consecutive c v ts s.cursor
    exact ⟨n, by simp only [rewardedOf, List.append_nil, h1], h3, h5⟩
  | case2 => exact stay s rfl
  | case3 => exact stay _ rfl
  | case4 a ms s' hc =>
    obtain ⟨_, _, rfl⟩ := collect_eq_some hc
    exact stay _ rfl
  | case5 => exact stay s rfl

theorem step_deposit (c : Cfg) (v : Variant) (s : CState) (o : Op) (a : Addr) :
    mintedOf a [(step c v s o).2] + (step c v s o).1.dep a = s.dep a + creditedOf a [o] := by
  fun_cases step c v s o with
  | case1 h ts s' es hu =>
    obtain ⟨rfl, _⟩ := update_eq_some hu
    exact Coins.zero_add' _
  | case2 => exact Coins.zero_add' _
  | case3 b x =>
    simp only [credit, mintedOf, creditedOf, Coins.zero_add', Coins.add_zero']
    by_cases hb : a = b
    · subst hb; simp
    · rw [if_neg hb, if_neg (fun h => hb h.symm)]; rfl
  | case4 b ms s' hc =>
    have hp := paid_collect hc a
    obtain ⟨_, _, rfl⟩ := collect_eq_some hc
    simp only [mintedOf, creditedOf, hp, Coins.add_zero']
    by_cases hb : a = b
    · rw [if_pos hb, if_pos hb, hb, Coins.add_zero']
    · rw [if_neg hb, if_neg hb, Coins.zero_add']
  | case5 => exact Coins.zero_add' _

end ZV.EpochCursor
