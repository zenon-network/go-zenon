import ZenonVerif.Model.Pool
/-
The loop of `filterBlocksToCommit` for any "is a ContractSend" test and any limit: its result is a prefix of the input,
within the limit, ends at a batch boundary, and no such prefix is longer. The invariant carried through the loop: `tc`
ends at a boundary and `batch` holds ContractSends only.
-/
namespace ZV.Pool

/-- a list ends at a batch boundary: it is empty or its last element is not a ContractSend -/
def Boundary {α : Type} (isCS : α → Bool) (l : List α) : Prop := ∀ x, l.getLast? = some x → isCS x = false

variable {α : Type} (isCS : α → Bool) (max : Nat)

theorem filterGo_prefix (bs tc batch : List α) : filterGo isCS max bs tc batch <+: tc ++ batch ++ bs := by
  fun_induction filterGo isCS max bs tc batch with
  | case1 => rw [List.append_nil]; exact List.prefix_append _ _
  | case2 _ _ _ _ batch' _ ih => simpa [batch', List.append_assoc] using ih
  | case3 => rw [List.append_assoc]; exact List.prefix_append _ _
  | case4 _ _ _ _ batch' _ _ ih => simpa [batch', List.append_assoc] using ih

theorem filterGo_length (bs tc batch : List α) (h : tc.length ≤ max) : (filterGo isCS max bs tc batch).length ≤ max := by
  fun_induction filterGo isCS max bs tc batch with
  | case1 => exact h
  | case2 _ _ _ _ _ _ ih => exact ih h
  | case3 => exact h
  | case4 _ _ _ _ _ _ _ ih => exact ih (by simp only [List.length_append] at *; omega)

theorem filterGo_boundary (bs tc batch : List α) (h : Boundary isCS tc) : Boundary isCS (filterGo isCS max bs tc batch) := by
  fun_induction filterGo isCS max bs tc batch with
  | case1 => exact h
  | case2 _ _ _ _ _ _ ih => exact ih h
  | case3 => exact h
  | case4 b _ _ _ _ hcs _ ih =>
    refine ih fun x hx => ?_
    rw [← List.append_assoc, List.getLast?_concat] at hx
    cases hx
    simpa using hcs

theorem boundary_prefix_le (tc batch p : List α) (hb : ∀ x ∈ batch, isCS x = true)
    (hp : p <+: tc ++ batch) (hB : Boundary isCS p) : p.length ≤ tc.length := by
  apply Nat.le_of_not_lt
  intro hlt
  -- a longer prefix is `tc` followed by a non-empty prefix of `batch`, whose last element is a ContractSend
  obtain ⟨r, rfl⟩ := List.prefix_of_prefix_length_le (List.prefix_append tc batch) hp (Nat.le_of_lt hlt)
  have hr : r ≠ [] := by rintro rfl; simp at hlt
  have hx := hB _ (by rw [List.getLast?_append, List.getLast?_eq_some_getLast hr]; rfl)
  rw [hb _ (((List.prefix_append_right_inj tc).mp hp).subset (List.getLast_mem hr))] at hx
  cases hx

theorem filterGo_maximal (bs tc batch p : List α) (hb : ∀ x ∈ batch, isCS x = true)
    (hp : p <+: tc ++ batch ++ bs) (hB : Boundary isCS p) (hl : p.length ≤ max) :
    p.length ≤ (filterGo isCS max bs tc batch).length := by
  fun_induction filterGo isCS max bs tc batch with
  | case1 => exact boundary_prefix_le isCS _ _ p hb (by rwa [List.append_nil] at hp) hB
  | case2 b _ _ _ batch' hcs ih =>
    refine ih (fun x hx => ?_) (by simpa [batch', List.append_assoc] using hp)
    rcases List.mem_append.mp hx with h | h
    · exact hb x h
    · rw [List.mem_singleton.mp h]; exact hcs
  | case3 b bs tc batch batch' _ hover =>
    refine boundary_prefix_le isCS tc batch p hb (List.prefix_of_prefix_length_le hp (List.prefix_append _ _) ?_) hB
    simp only [batch', List.length_append, List.length_singleton] at *
    omega
  | case4 _ _ _ _ batch' _ _ ih => exact ih nofun (by simpa [batch', List.append_assoc] using hp)

end ZV.Pool
