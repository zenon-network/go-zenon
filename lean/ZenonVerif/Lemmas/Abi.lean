import ZenonVerif.Model.Abi
import ZenonVerif.Lemmas.Common
/-
Lemmas for C09-T3 (Props/C09Abi.lean): the ABI decoder model never panics.

On a buffer no longer than `maxAlloc` and at an index up to `idxBound` every `int` the decoder computes is a natural number
far below 2^63, so each function of the model has an equation in natural-number arithmetic (`lpp_eq`, `forEachUnpack_eq`,
`toGoType_static` / `_bytes` / `_slice` / `_array`, `unpackValues_cons`). Panic-freedom is read off these equations; the
round trip of Lemmas/AbiPack.lean evaluates the same equations on a canonical encoding.
-/
namespace ZV.Abi
open ZV

theorem Res.bind_ne_panic {α β : Type} {r : Res α} {f : α → Res β}
    (hr : r ≠ .panic) (hf : ∀ v, r = .ok v → f v ≠ .panic) : (r >>= f) ≠ .panic := by
  cases r with
  | ok v => exact hf v rfl
  | err => nofun
  | panic => exact absurd rfl hr

theorem Res.bind_ok {α β : Type} (v : α) (f : α → Res β) : ((Res.ok v) >>= f) = f v := rfl
theorem Res.bind_err {α β : Type} (f : α → Res β) : ((Res.err : Res α) >>= f) = .err := rfl
theorem Res.bind_panic {α β : Type} (f : α → Res β) : ((Res.panic : Res α) >>= f) = .panic := rfl
theorem Res.pure_eq {α : Type} (v : α) : (pure v : Res α) = .ok v := rfl

/-! Every `int` the decoder computes on inputs of admissible size is a natural number below 2^63; the lemmas are stated for
that case, the result as the cast of a natural number. -/

theorem wrap64_nat {x : Int} {c : Nat} (h : x = c) (hc : c < 2 ^ 63) : wrap64 x = c := by
  subst h; unfold wrap64 i63 i64; omega

theorem iadd_nat {a b : Int} {c : Nat} (h : a + b = c) (hc : c < 2 ^ 63) : iadd a b = c := wrap64_nat h hc
theorem isub_nat {a b : Int} {c : Nat} (h : a - b = c) (hc : c < 2 ^ 63) : isub a b = c := wrap64_nat h hc
theorem imul_nat {a b : Int} {c : Nat} (h : a * b = c) (hc : c < 2 ^ 63) : imul a b = c := wrap64_nat h hc

theorem toInt64_u64 {n : Nat} (h : n < 2 ^ 63) : toInt64 (u64 n) = n := by
  unfold toInt64 u64 two64; exact wrap64_nat (by omega) (by omega)

theorem wordSize_eq : wordSize = 32 := rfl
theorem maxAlloc_eq : maxAlloc = 2 ^ 48 := rfl

theorem goSlice_ok {b : Bytes} {lo hi : Int} (h1 : 0 ≤ lo) (h2 : lo ≤ hi) (h3 : hi ≤ (b.length : Int)) :
    goSlice b lo hi = .ok ((b.drop lo.toNat).take (hi.toNat - lo.toNat)) := by
  unfold goSlice; rw [if_pos ⟨h1, h2, h3⟩]

theorem goSlice_ne_panic {b : Bytes} {lo hi : Int} (h1 : 0 ≤ lo) (h2 : lo ≤ hi) (h3 : hi ≤ (b.length : Int)) :
    goSlice b lo hi ≠ .panic := by
  rw [goSlice_ok h1 h2 h3]; nofun

theorem goSlice_nat (b : Bytes) {lo hi : Nat} (h1 : lo ≤ hi) (h2 : hi ≤ b.length) :
    goSlice b lo hi = .ok ((b.drop lo).take (hi - lo)) :=
  goSlice_ok (by omega) (by omega) (by omega)

theorem goSliceFrom_nat (b : Bytes) {lo : Nat} (h : lo ≤ b.length) : goSliceFrom b lo = .ok (b.drop lo) := by
  unfold goSliceFrom; rw [goSlice_nat b h (Nat.le_refl _), List.take_of_length_le (by rw [List.length_drop]; omega)]

theorem goIndex_nat (b : Bytes) {i : Nat} (h : i < b.length) : goIndex b i = .ok (b.getD i 0) := by
  unfold goIndex; rw [if_pos (by omega)]; rfl

/-- `readInteger` on a 32-byte word: the machine widths read the low `bits/8` bytes, every other width the whole word -/
theorem readInteger_word (sg : Bool) (bits : Nat) {w : Bytes} (hw : w.length = 32) :
    readInteger sg bits w = .ok (.num (
      if bits = 8 ∨ bits = 16 ∨ bits = 32 ∨ bits = 64 then
        (if sg then signed bits (beVal (w.drop (32 - bits / 8))) else (beVal (w.drop (32 - bits / 8)) : Nat))
      else beVal w)) := by
  unfold readInteger
  by_cases h8 : bits = 8
  · subst h8
    have hd : w.drop 31 = [w.getD 31 0] := by
      rw [List.getD_eq_getElem?_getD, List.getElem?_eq_getElem (by omega), Option.getD_some,
        List.drop_eq_getElem_cons (by omega), List.drop_eq_nil_of_le (by omega)]
    rw [if_pos rfl, if_pos (Or.inl rfl), hw, isub_nat (c := 31) (by omega) (by omega), goIndex_nat w (by omega), hd]
    rfl
  · rw [if_neg h8]
    by_cases hm : bits = 16 ∨ bits = 32 ∨ bits = 64
    · have hk : 1 ≤ bits / 8 ∧ bits / 8 ≤ 8 := by omega
      rw [if_pos hm, if_pos (Or.inr hm), hw, isub_nat (c := 32 - bits / 8) (by omega) (by omega),
        goSliceFrom_nat w (by omega), Res.bind_ok, if_neg (by rw [List.length_drop]; omega),
        List.take_of_length_le (by rw [List.length_drop]; omega)]
      rfl
    · rw [if_neg hm, if_neg (by omega)]; rfl

theorem readBool_ne_panic {w : Bytes} (hw : w.length = 32) : readBool w ≠ .panic := by
  unfold readBool
  refine Res.bind_ne_panic (goSlice_ne_panic (by omega) (by omega) (by omega)) fun hd _ => ?_
  split
  · nofun
  · rw [show goIndex w 31 = _ from goIndex_nat w (i := 31) (by omega), Res.bind_ok]
    repeat' split
    all_goals nofun

theorem bitLen_le {n : Nat} (h : n < 2 ^ 63) : ¬ bitLen n > 63 := by
  unfold bitLen
  split
  · omega
  · next h0 => have := (Nat.log2_lt h0).mpr h; omega

/-- On an admissible buffer `lengthPrefixPointsTo` is plain arithmetic: with `off` the value of the head word at `i` and
    `ln` the value of the length word at `off`, it returns `(off + 32, ln)` iff `off + 32 + ln` is within the buffer — no
    `int` conversion overflows, both `BitLen` guards are implied by the length guards. -/
theorem lpp_eq {output : Bytes} {i off ln : Nat} (h1 : i + 32 ≤ output.length) (hlen : output.length ≤ maxAlloc)
    (hoff : beVal ((output.drop i).take 32) = off) (hln : beVal ((output.drop off).take 32) = ln) :
    lengthPrefixPointsTo i output =
      if output.length < off + 32 ∨ output.length < off + 32 + ln then .err
      else .ok (((off + 32 : Nat) : Int), (ln : Int)) := by
  have hA := maxAlloc_eq
  unfold lengthPrefixPointsTo
  rw [wordSize_eq, iadd_nat (c := i + 32) (by omega) (by omega), goSlice_nat output (by omega) h1, Res.bind_ok,
    Nat.add_sub_cancel_left, hoff]
  by_cases ho : output.length < off + 32
  · rw [if_pos ho, if_pos (Or.inl ho)]
  · rw [if_neg ho, if_neg (bitLen_le (by omega)), toInt64_u64 (by omega)]
    dsimp only
    rw [isub_nat (c := off) (by omega) (by omega), goSlice_nat output (by omega) (by omega), Res.bind_ok,
      Nat.add_sub_cancel_left, hln]
    by_cases ht : output.length < off + 32 + ln
    · rw [if_pos (Or.inr ht)]; split <;> rfl
    · rw [if_neg (bitLen_le (by omega)), if_neg ht, if_neg (by omega), toInt64_u64 (by omega)]; rfl

theorem lpp_bind_ne_panic {β : Type} {output : Bytes} {i : Nat} {f : Int × Int → Res β}
    (h1 : i + 32 ≤ output.length) (hlen : output.length ≤ maxAlloc)
    (hf : ∀ b l : Nat, b + l ≤ output.length → f (b, l) ≠ .panic) :
    (lengthPrefixPointsTo i output >>= f) ≠ .panic := by
  rw [lpp_eq h1 hlen rfl rfl]
  split
  · nofun
  · exact hf _ _ (by omega)

/-- mathematical `getFullElemSize` -/
def fullSizeNat : Ty → Nat
  | .array n e => fullSizeNat e * n
  | _ => 32

/-- the types `NewType` can produce and more: arbitrary nesting of slices and arrays over the elementary types, with
    non-empty arrays of at most 2^48 bytes of inline words and `bytesN` with N ≤ 32 -/
def Ty.WF : Ty → Prop
  | .array n e => e.WF ∧ 0 < n ∧ fullSizeNat e * n ≤ maxAlloc
  | .slice e => e.WF
  | .fixedBytes n => n ≤ 32
  | _ => True

/-- index bound under which no `int` operation of the decoder overflows: 2 · `maxAlloc`. An index that has passed a length
    guard is at most `maxAlloc`; before the next guard at most one element span, again at most `maxAlloc`, is added. -/
def idxBound : Int := 562949953421312   -- 2^49

theorem le_idxBound {i : Nat} : (i : Int) ≤ idxBound ↔ i ≤ 2 * maxAlloc := by unfold idxBound; rw [maxAlloc_eq]; omega

theorem fullSizeNat_pos (t : Ty) (h : t.WF) : 0 < fullSizeNat t := by
  induction t with
  | array n e ih => exact Nat.mul_pos (ih h.1) h.2.1
  | _ => exact Nat.zero_lt_succ _

theorem fullElemSize_eq (t : Ty) (h : t.WF) : fullElemSize t = (fullSizeNat t : Int) := by
  induction t with
  | array n e ih =>
    have hb : fullSizeNat e * n ≤ maxAlloc := h.2.2
    have hA := maxAlloc_eq
    unfold fullElemSize
    rw [ih h.1]
    exact imul_nat (c := fullSizeNat e * n) (Int.natCast_mul _ _).symm (by omega)
  | _ => rfl

/-- `forEachUnpack` on an admissible buffer: the two guards in natural-number arithmetic, then the element loop;
    `MakeSlice` cannot fail once the guards have passed -/
theorem forEachUnpack_eq (dec : Int → Bytes → Res Val) (isSlice : Bool) (elemSize : Int) {output : Bytes} {start size : Nat}
    (hlen : output.length ≤ maxAlloc) (hs : start ≤ 2 * maxAlloc) (hsz : size ≤ maxAlloc) :
    forEachUnpack dec isSlice elemSize output start size =
      if output.length < start + 32 * size then .err
      else unpackLoop dec elemSize output start size >>= fun vs => pure (.list vs) := by
  have hA := maxAlloc_eq
  unfold forEachUnpack
  rw [if_neg (by omega), wordSize_eq, imul_nat (c := 32 * size) (by omega) (by omega),
    iadd_nat (c := start + 32 * size) (by omega) (by omega)]
  by_cases hc : output.length < start + 32 * size
  · rw [if_pos (by omega), if_pos hc]
  · rw [if_neg (by omega), if_neg hc, Int.toNat_natCast]
    cases isSlice
    · rfl
    · have hk : (0 : Int) ≤ size ∧ (size : Int) * maxElemSize ≤ maxAlloc := by
        unfold maxElemSize; omega
      unfold makeSlice
      rw [if_pos hk]; rfl

theorem unpackLoop_ne_panic (dec : Int → Bytes → Res Val) (elemSize : Nat) (output : Bytes)
    (hdec : ∀ i : Nat, i ≤ 2 * maxAlloc → dec i output ≠ .panic) (n i : Nat) (hb : i + n * elemSize ≤ 2 * maxAlloc) :
    unpackLoop dec elemSize output i n ≠ .panic := by
  induction n generalizing i with
  | zero => nofun
  | succ n ih =>
    have hA := maxAlloc_eq
    rw [Nat.succ_mul] at hb
    unfold unpackLoop
    refine Res.bind_ne_panic (hdec i (by omega)) fun v _ => Res.bind_ne_panic ?_ fun vs _ => nofun
    rw [iadd_nat (c := i + elemSize) (by omega) (by omega)]
    exact ih _ (by omega)

/-- `start` has passed the length guard, so is at most `maxAlloc`; the caller bounds the span of the elements by `maxAlloc`
    (`hb`); hence every index the loop visits is at most 2 · `maxAlloc` = `idxBound`, where `dec` is known not to panic -/
theorem forEachUnpack_ne_panic (dec : Int → Bytes → Res Val) (isSlice : Bool) (elemSize : Nat) {output : Bytes}
    {start size : Nat} (hlen : output.length ≤ maxAlloc) (hs : start ≤ 2 * maxAlloc) (hsz : size ≤ maxAlloc)
    (hdec : ∀ i : Nat, i ≤ 2 * maxAlloc → dec i output ≠ .panic)
    (hb : start + 32 * size ≤ output.length → start + size * elemSize ≤ 2 * maxAlloc) :
    forEachUnpack dec isSlice elemSize output start size ≠ .panic := by
  rw [forEachUnpack_eq _ _ _ hlen hs hsz]
  split
  · nofun
  · exact Res.bind_ne_panic (unpackLoop_ne_panic dec elemSize output hdec _ _ (hb (by omega))) fun _ _ => nofun

/-- the part of `toGoType` after `returnOutput = output[index:index+32]` for the static elementary types -/
def readWord : Ty → Bytes → Res Val
  | .uint bits, w => readInteger false bits w
  | .int bits, w => readInteger true bits w
  | .bool, w => readBool w
  | .address, w => do
      let a ← goSlice w (wordSize - Gen.abiAddressSize) wordSize
      pure (.bytes a)
  | .tokenStandard, w => do
      let a ← goSlice w (wordSize - Gen.abiTokenStandardSize) wordSize
      pure (.bytes a)
  | .hash, w => do
      let a ← goSlice w (wordSize - Gen.abiHashSize) wordSize
      if a.length = Gen.abiHashSize then pure (.bytes a) else .err
  | .fixedBytes n, w => readFixedBytes n w
  | _, _ => .err

def Ty.isStaticElem : Ty → Bool
  | .uint _ | .int _ | .bool | .address | .tokenStandard | .hash | .fixedBytes _ => true
  | _ => false

theorem iadd_wordSize {i : Nat} (hb : (i : Int) ≤ idxBound) : iadd i wordSize = ((i + 32 : Nat) : Int) := by
  rw [wordSize_eq]; exact iadd_nat (by omega) (by have := le_idxBound.1 hb; have := maxAlloc_eq; omega)

theorem toGoType_guard {i : Nat} (hb : (i : Int) ≤ idxBound) (output : Bytes) :
    (iadd i wordSize > (output.length : Int)) = (output.length < i + 32) := by
  rw [iadd_wordSize hb]
  exact propext (by omega)

theorem toGoType_static {t : Ty} (ht : t.isStaticElem = true) {i : Nat} (hb : (i : Int) ≤ idxBound) (output : Bytes) :
    toGoType t i output =
      if output.length < i + 32 then .err else readWord t ((output.drop i).take 32) := by
  unfold toGoType
  simp only [toGoType_guard hb]
  split
  · rfl
  · rw [iadd_wordSize hb, goSlice_nat output (by omega) (by omega), Nat.add_sub_cancel_left]
    cases t
    case string | bytes | slice | array => cases ht
    all_goals rfl

theorem toGoType_bytes {t : Ty} (ht : t = .string ∨ t = .bytes) {i : Nat} (hb : (i : Int) ≤ idxBound) (output : Bytes) :
    toGoType t i output =
      if output.length < i + 32 then .err
      else lengthPrefixPointsTo i output >>= fun (b, l) => goSlice output b (iadd b l) >>= fun s => pure (.bytes s) := by
  rcases ht with rfl | rfl <;> (unfold toGoType; simp only [toGoType_guard hb])

theorem toGoType_slice (e : Ty) {i : Nat} (hb : (i : Int) ≤ idxBound) (output : Bytes) :
    toGoType (.slice e) i output =
      if output.length < i + 32 then .err
      else lengthPrefixPointsTo i output >>= fun (b, l) =>
        goSliceFrom output b >>= fun sub => forEachUnpack (toGoType e) true wordSize sub 0 l := by
  unfold toGoType; simp only [toGoType_guard hb]

theorem toGoType_array (n : Nat) (e : Ty) {i : Nat} (hb : (i : Int) ≤ idxBound) (output : Bytes) :
    toGoType (.array n e) i output =
      if output.length < i + 32 then .err else forEachUnpack (toGoType e) false (fullElemSize e) output i n := by
  unfold toGoType
  simp only [toGoType_guard hb]
  split
  · rfl
  · rw [iadd_wordSize hb, goSlice_nat output (by omega) (by omega), Res.bind_ok]

theorem readWord_ne_panic {t : Ty} (hwf : t.WF) {w : Bytes} (hw : w.length = 32) : readWord t w ≠ .panic := by
  have hsl : ∀ k : Nat, k ≤ 32 → goSlice w (wordSize - k) wordSize ≠ .panic := fun k hk => by
    rw [wordSize_eq]; exact goSlice_ne_panic (by omega) (by omega) (by omega)
  cases t with
  | uint bits | int bits => rw [readWord, readInteger_word _ _ hw]; nofun
  | bool => exact readBool_ne_panic hw
  | address | tokenStandard => exact Res.bind_ne_panic (hsl _ (by decide)) fun _ _ => nofun
  | hash => exact Res.bind_ne_panic (hsl _ (by decide)) fun _ _ => by split <;> nofun
  | fixedBytes n =>
    have hn : n ≤ 32 := hwf
    exact Res.bind_ne_panic (goSlice_ne_panic (by omega) (by omega) (by omega)) fun _ _ => nofun
  | _ => nofun

theorem toGoType_static_ne_panic {t : Ty} (ht : t.isStaticElem = true) (hwf : t.WF) {i : Nat} (hb : (i : Int) ≤ idxBound)
    (output : Bytes) : toGoType t i output ≠ .panic := by
  rw [toGoType_static ht hb]
  split
  · nofun
  · exact readWord_ne_panic hwf (by rw [List.length_take, List.length_drop]; omega)

theorem toGoType_ne_panic : ∀ (t : Ty), t.WF → ∀ (i : Nat) (output : Bytes),
    output.length ≤ maxAlloc → (i : Int) ≤ idxBound → toGoType t i output ≠ .panic := by
  intro t
  induction t with
  | string | bytes =>
    intro _ i output hlen hb
    have hA := maxAlloc_eq
    rw [toGoType_bytes (by decide) hb]
    split
    · nofun
    · refine lpp_bind_ne_panic (by omega) hlen fun b l hle => ?_
      dsimp only
      rw [iadd_nat (c := b + l) (by omega) (by omega), goSlice_nat output (by omega) hle]
      nofun
  | slice e ih =>
    intro hwf i output hlen hb
    have hA := maxAlloc_eq
    rw [toGoType_slice e hb]
    split
    · nofun
    · refine lpp_bind_ne_panic (by omega) hlen fun b l hle => ?_
      have hsub : (output.drop b).length ≤ maxAlloc := by rw [List.length_drop]; omega
      dsimp only
      rw [goSliceFrom_nat output (by omega), Res.bind_ok]
      exact forEachUnpack_ne_panic _ _ 32 (start := 0) hsub (by omega) (by omega)
        (fun j hj => ih hwf j _ hsub (le_idxBound.2 hj)) (by rw [List.length_drop]; omega)
  | array n e ih =>
    intro ⟨he, hn, hsz⟩ i output hlen hb
    have hnle : n ≤ maxAlloc := Nat.le_trans (Nat.le_mul_of_pos_left n (fullSizeNat_pos e he)) hsz
    have hA := maxAlloc_eq
    rw [toGoType_array n e hb, fullElemSize_eq e he]
    split
    · nofun
    · exact forEachUnpack_ne_panic _ _ _ hlen (le_idxBound.1 hb) hnle (fun j hj => ih he j _ hlen (le_idxBound.2 hj))
        (fun _ => by rw [Nat.mul_comm]; omega)
  | _ => exact fun hwf i output _ hb => toGoType_static_ne_panic rfl hwf hb output

/-- mathematical `getArraySize` of `array n e` -/
def arraySizeNat (n : Nat) : Ty → Nat
  | .array m e' => n * arraySizeNat m e'
  | _ => n

/-- number of head words an argument occupies -/
def argWords : Ty → Nat
  | .array n e => arraySizeNat n e
  | _ => 1

def headWords : List Ty → Nat
  | [] => 0
  | t :: ts => argWords t + headWords ts

/-- bound on the number of head words of an argument list (2^40): word `k` is read at byte 32·k ≤ 2^45 ≤ `idxBound` -/
def maxHeadWords : Nat := 1099511627776

theorem maxHeadWords_eq : maxHeadWords = 2 ^ 40 := rfl

theorem fullSizeNat_array (n : Nat) (e : Ty) : fullSizeNat (.array n e) = 32 * arraySizeNat n e := by
  induction e generalizing n with
  | array m e' ih =>
    show fullSizeNat (.array m e') * n = 32 * (n * arraySizeNat m e')
    rw [ih m, Nat.mul_comm n, Nat.mul_assoc]
  | _ => rfl

theorem arraySizeNat_pos (n : Nat) (e : Ty) (h : (Ty.array n e).WF) : 0 < arraySizeNat n e := by
  have h1 := fullSizeNat_pos _ h
  rw [fullSizeNat_array] at h1
  omega

theorem arraySize_eq (n : Nat) (e : Ty) (h : (Ty.array n e).WF) : arraySize n e = (arraySizeNat n e : Int) := by
  induction e generalizing n with
  | array m e' ih =>
    have hle : 32 * (n * arraySizeNat m e') ≤ maxAlloc := Nat.le_trans (Nat.le_of_eq (fullSizeNat_array n (.array m e')).symm) h.2.2
    have hA := maxAlloc_eq
    show imul (n : Int) (arraySize m e') = ((n * arraySizeNat m e' : Nat) : Int)
    rw [ih m h.1]
    exact imul_nat (Int.natCast_mul _ _).symm (by omega)
  | _ => rfl

theorem argWords_of_not_array {t : Ty} (h : ∀ n e, t ≠ .array n e) : argWords t = 1 := by
  cases t <;> first | rfl | exact absurd rfl (h _ _)

theorem argWords_pos {t : Ty} (ht : t.WF) : 0 < argWords t := by
  cases t with
  | array n e => exact arraySizeNat_pos n e ht
  | _ => exact Nat.one_pos

/-- one step of `UnpackValues` in natural-number arithmetic: the argument is read at word `index + va`, and advances the
    head by `argWords` words, one of them through `index` (only arrays touch `virtualArgs`). Well-formedness is asked of
    arrays only (`ht`): it is what keeps `getArraySize` from overflowing, and callers with array-free types have none. -/
theorem unpackValues_cons (t : Ty) (ts : List Ty) (index va : Nat) (data : Bytes)
    (ht : ∀ n e, t = .array n e → t.WF) (hb : index + va + argWords t ≤ maxAlloc) :
    unpackValues (t :: ts) index va data =
      toGoType t ((index + va) * 32 : Nat) data >>= fun v =>
        unpackValues ts (index + 1 : Nat) (va + argWords t - 1 : Nat) data >>= fun vs => pure (v :: vs) := by
  have hA := maxAlloc_eq
  have h1 : iadd (index : Int) va = ((index + va : Nat) : Int) := iadd_nat (by omega) (by omega)
  have h2 : imul ((index + va : Nat) : Int) wordSize = (((index + va) * 32 : Nat) : Int) := by
    rw [wordSize_eq]; exact imul_nat (by omega) (by omega)
  have h3 : iadd (index : Int) 1 = ((index + 1 : Nat) : Int) := iadd_nat (by omega) (by omega)
  conv => lhs; unfold unpackValues
  dsimp only
  rw [h1, h2, h3]
  split
  · next n e =>
    have hwf := ht n e rfl
    have hpos := arraySizeNat_pos n e hwf
    have hb' : index + va + arraySizeNat n e ≤ maxAlloc := hb
    rw [arraySize_eq n e hwf, isub_nat (c := arraySizeNat n e - 1) (by omega) (by omega),
      iadd_nat (c := va + arraySizeNat n e - 1) (by omega) (by omega)]
    rfl
  · next hna =>
    rw [argWords_of_not_array hna, Nat.add_sub_cancel]

theorem unpackValues_ne_panic (tys : List Ty) (hwf : ∀ t ∈ tys, t.WF) (index va : Nat) (data : Bytes)
    (hlen : data.length ≤ maxAlloc) (hb : index + va + headWords tys ≤ maxHeadWords) :
    unpackValues tys index va data ≠ .panic := by
  induction tys generalizing index va with
  | nil => nofun
  | cons t ts ih =>
    obtain ⟨ht, hts⟩ := List.forall_mem_cons.1 hwf
    have hb' : index + va + (argWords t + headWords ts) ≤ maxHeadWords := hb
    have hA := maxAlloc_eq
    have hW := maxHeadWords_eq
    have hpos := argWords_pos ht
    rw [unpackValues_cons t ts index va data (fun _ _ _ => ht) (by omega)]
    exact Res.bind_ne_panic (toGoType_ne_panic t ht _ _ hlen (le_idxBound.2 (by omega))) fun v _ =>
      Res.bind_ne_panic (ih hts _ _ (show _ ≤ maxHeadWords by omega)) fun vs _ => nofun

theorem unpack_ne_panic (tys : List Ty) (hwf : ∀ t ∈ tys, t.WF) (hw : headWords tys ≤ maxHeadWords)
    (data : Bytes) (hlen : data.length ≤ maxAlloc) : unpack tys data ≠ .panic :=
  Res.bind_ne_panic (unpackValues_ne_panic tys hwf 0 0 data hlen (by omega)) fun vs _ => by split <;> nofun

theorem unpackMethod_ne_panic (sel : Bytes) (tys : List Ty) (hwf : ∀ t ∈ tys, t.WF) (hw : headWords tys ≤ maxHeadWords)
    (input : Bytes) (hlen : input.length ≤ maxAlloc) : unpackMethod sel tys input ≠ .panic := by
  unfold unpackMethod
  split
  · nofun
  · rw [show goSlice input 0 4 = _ from goSlice_nat input (lo := 0) (hi := 4) (by omega) (by omega), Res.bind_ok]
    split
    · rw [show goSliceFrom input 4 = _ from goSliceFrom_nat input (lo := 4) (by omega), Res.bind_ok]
      exact unpack_ne_panic tys hwf hw _ (by rw [List.length_drop]; omega)
    · nofun

theorem unpackEmptyMethod_ne_panic (sel : Bytes) (input : Bytes) : unpackEmptyMethod sel input ≠ .panic := by
  unfold unpackEmptyMethod
  split
  · nofun
  · split
    · nofun
    · exact Res.bind_ne_panic (goSlice_ne_panic (by omega) (by omega) (by omega)) fun _ _ => by split <;> nofun

/-- no element occurs twice (Boolean, for evaluation over a generated table) -/
def allDistinct {κ : Type} [BEq κ] : List κ → Bool
  | [] => true
  | a :: l => !l.contains a && allDistinct l

theorem nodup_of_allDistinct {κ : Type} [BEq κ] [LawfulBEq κ] {l : List κ} (h : allDistinct l = true) : l.Nodup := by
  induction l with
  | nil => exact List.nodup_nil
  | cons a l ih =>
    simp only [allDistinct, Bool.and_eq_true, Bool.not_eq_true', List.contains_eq_mem, decide_eq_false_iff_not] at h
    exact List.nodup_cons.2 ⟨h.1, ih h.2⟩

/-- executable well-formedness check (for `decide` over the generated signature table) -/
def Ty.wfb : Ty → Bool
  | .array n e => e.wfb && decide (0 < n) && decide (fullSizeNat e * n ≤ maxAlloc)
  | .slice e => e.wfb
  | .fixedBytes n => decide (n ≤ 32)
  | _ => true

theorem Ty.wfb_sound : ∀ (t : Ty), t.wfb = true → t.WF := by
  intro t
  induction t with
  | array n e ih =>
    intro h
    simp only [Ty.wfb, Bool.and_eq_true, decide_eq_true_eq] at h
    exact ⟨ih h.1.1, h.1.2, h.2⟩
  | slice e ih => exact ih
  | fixedBytes n => exact of_decide_eq_true
  | _ => exact fun _ => trivial

end ZV.Abi
