import ZenonVerif.Model.NodeSync
/-
Invariants of the node-level model (C02): every pooled patch and every confirmed patch is the value of `exec` in the
context the block states; the pool of an account is a chain on top of its confirmed chain.
-/
namespace ZV.NodeSync

variable {P L : Type}

/-- the patch of `t` is what the VM computes on the account chain `view`, in the ledger as of the acknowledged momentum,
    and the block links to `view` -/
def TxOk (W : VM P L) (hist : List (Entry P)) (view : List (Tx P)) (t : Tx P) : Prop :=
  t.1.prev = lastId view ∧ t.1.height = view.length + 1 ∧
    ∃ l, ledgerAt W hist t.1.ack = some l ∧ W.exec l view t.1 = some t.2

/-- a stack of transactions on top of `view`, each one sound on top of the ones below -/
def StackSound (W : VM P L) (hist : List (Entry P)) : List (Tx P) → List (Tx P) → Prop
  | _, [] => True
  | view, t :: rest => TxOk W hist view t ∧ StackSound W hist (view ++ [t]) rest

/-- a sequence of transactions of several accounts, each sound on its own account's chain -/
def TxsSound (W : VM P L) (hist : List (Entry P)) : (Nat → List (Tx P)) → List (Tx P) → Prop
  | _, [] => True
  | views, t :: ts =>
    TxOk W hist (views t.1.acct) t ∧ TxsSound W hist (upd views t.1.acct (views t.1.acct ++ [t])) ts

/-- pool and per-account base chains fit -/
def PoolOver (W : VM P L) (hist : List (Entry P)) (views pool : Nat → List (Tx P)) : Prop :=
  ∀ a, (∀ t ∈ pool a, t.1.acct = a) ∧ StackSound W hist (views a) (pool a)

/-- INVARIANT (a): every pooled patch is `exec (ledger as of b.ack) (account chain up to b.prev) b` -/
def PoolSound (W : VM P L) (s : Node P) : Prop := PoolOver W s.hist (conf W s.hist) s.pool

/-- every confirmed patch is exec-determined, the momentum's patch is `pack` of them, the content lists them -/
def HistSound (W : VM P L) : List (Entry P) → Prop
  | [] => True
  | e :: older =>
    HistSound W older ∧ TxsSound W older (conf W older) e.txs ∧ e.txs.map (·.1.hdr) = e.m.content ∧
      e.patch = W.pack (ledger W older) e.txs

/-- every accepted momentum passed the changes-hash comparison -/
def HashOk (W : VM P L) (hist : List (Entry P)) : Prop := ∀ e ∈ hist, W.hash e.patch = e.m.changesHash

/-- All blocks a node holds belong to `U`. The invariant carries `U` so that a theorem about two operation sequences need
    assume "no two blocks share an identifier" only of the blocks those sequences mention (`hinj` below, `NoCollision` in
    Props/C02Node.lean), not of all blocks. -/
def BlocksIn (U : Block → Prop) (s : Node P) : Prop :=
  (∀ a, ∀ t ∈ s.pool a, U t.1) ∧ (∀ e ∈ s.hist, ∀ t ∈ e.txs, U t.1)

theorem ledgerAt_cons {W : VM P L} {older : List (Entry P)} {x : Nat} {l : L} (e : Entry P)
    (h : ledgerAt W older x = some l) : ledgerAt W (e :: older) x = some l := by
  simp [ledgerAt, h]

theorem TxOk.mono {W : VM P L} {hist : List (Entry P)} {view : List (Tx P)} {t : Tx P} (e : Entry P)
    (h : TxOk W hist view t) : TxOk W (e :: hist) view t := by
  obtain ⟨h1, h2, l, h3, h4⟩ := h
  exact ⟨h1, h2, l, ledgerAt_cons e h3, h4⟩

theorem StackSound.mono {W : VM P L} {hist : List (Entry P)} (e : Entry P) :
    ∀ {view st : List (Tx P)}, StackSound W hist view st → StackSound W (e :: hist) view st := by
  intro view st
  induction st generalizing view with
  | nil => intro _; trivial
  | cons t rest ih => intro h; exact ⟨h.1.mono e, ih h.2⟩

theorem StackSound.append {W : VM P L} {hist : List (Entry P)} :
    ∀ {view xs ys : List (Tx P)}, StackSound W hist view (xs ++ ys) ↔
      StackSound W hist view xs ∧ StackSound W hist (view ++ xs) ys := by
  intro view xs ys
  induction xs generalizing view with
  | nil => simp [StackSound]
  | cons x xs ih =>
    simp only [List.cons_append, StackSound, ih, List.append_assoc, List.nil_append, and_assoc]

theorem StackSound.take {W : VM P L} {hist : List (Entry P)} {view st : List (Tx P)} (k : Nat)
    (h : StackSound W hist view st) : StackSound W hist view (st.take k) := by
  have := (List.take_append_drop k st) ▸ h
  exact (StackSound.append.1 this).1

/-- position of a pooled transaction is fixed by its height -/
theorem StackSound.height_at {W : VM P L} {hist : List (Entry P)} {view st : List (Tx P)}
    (h : StackSound W hist view st) (j : Nat) (t : Tx P) (hj : st[j]? = some t) : t.1.height = view.length + j + 1 := by
  obtain ⟨hlt, rfl⟩ := List.getElem?_eq_some_iff.1 hj
  rw [← List.take_append_drop j st, List.drop_eq_getElem_cons hlt] at h
  rw [(StackSound.append.1 h).2.1.2.1, List.length_append, List.length_take, Nat.min_eq_left (Nat.le_of_lt hlt)]

theorem pushAll_nil (views : Nat → List (Tx P)) : pushAll views [] = views := by
  funext a; simp [pushAll]

theorem pushAll_cons (views : Nat → List (Tx P)) (t : Tx P) (ts : List (Tx P)) :
    pushAll views (t :: ts) = pushAll (upd views t.1.acct (views t.1.acct ++ [t])) ts := by
  funext a
  by_cases ha : a = t.1.acct <;> simp [pushAll, upd, ha, Ne.symm]

theorem pushAll_eq_append (ts : List (Tx P)) (views : Nat → List (Tx P)) (a : Nat) :
    pushAll views ts a = views a ++ pushAll (fun _ => []) ts a := by
  simp [pushAll]

/-- what `splitFor` returns: the stack cut at the block's position, the block linking to what is left below -/
theorem splitFor_some {cf st kept popped : List (Tx P)} {b : Block} (h : splitFor cf st b = some (kept, popped)) :
    ∃ k, kept = st.take k ∧ b.prev = lastId (cf ++ st.take k) ∧ b.height = (cf ++ st.take k).length + 1 := by
  unfold splitFor at h
  simp only at h
  split at h
  · next hc =>
    cases h
    exact ⟨_, rfl, hc.2.2.symm, by simp only [List.length_append, List.length_take]; omega⟩
  · cases h

/-- what a successful `addBlock` (context at the stated previous) did: nothing, or the stack of the block's account is cut
    at some position and the block, executed on what is left below, is put on top -/
theorem addBlock_some {W : VM P L} {force : Bool} {s s' : Node P} {b : Block}
    (h : addBlock W true force s b = some s') :
    s' = s ∨ ∃ k p, TxOk W s.hist (conf W s.hist b.acct ++ (s.pool b.acct).take k) (b, p) ∧
      s' = { s with pool := upd s.pool b.acct ((s.pool b.acct).take k ++ [(b, p)]) } := by
  revert h
  fun_cases addBlock W true force s b
  case case1 => exact fun h => .inl (Option.some.inj h).symm
  case case3 hl p hp _ hs | case4 hl p hp _ _ _ _ hs =>
    obtain ⟨k, rfl, h1, h2⟩ := splitFor_some hs
    exact fun h => .inr ⟨k, p, ⟨h1, h2, _, hl, hp⟩, (Option.some.inj h).symm⟩
  all_goals nofun
theorem addBlock_hist {W : VM P L} {force : Bool} {s s' : Node P} {b : Block}
    (h : addBlock W true force s b = some s') : s'.hist = s.hist := by
  rcases addBlock_some h with rfl | ⟨_, _, _, rfl⟩ <;> rfl

theorem consume_cons {pool q : Nat → List (Tx P)} {h : Hdr} {hs : List Hdr} {ts : List (Tx P)}
    (hc : consume pool (h :: hs) = some (q, ts)) :
    ∃ t rest ts', pool h.1 = t :: rest ∧ t.1.id = h.2 ∧ consume (upd pool h.1 rest) hs = some (q, ts') ∧
      ts = t :: ts' := by
  simp only [consume] at hc
  split at hc
  · cases hc
  · rename_i t rest hp
    split at hc
    · rename_i hid
      split at hc
      · rename_i q' ts' hc'
        simp only [Option.some.injEq, Prod.mk.injEq] at hc
        exact ⟨t, rest, ts', hp, hid, by rw [hc', hc.1], hc.2.symm⟩
      · cases hc
    · cases hc

theorem consume_sound {W : VM P L} {hist : List (Entry P)} :
    ∀ (hs : List Hdr) {views pool q : Nat → List (Tx P)} {ts : List (Tx P)},
      PoolOver W hist views pool → consume pool hs = some (q, ts) →
      TxsSound W hist views ts ∧ PoolOver W hist (pushAll views ts) q ∧ ts.map (·.1.hdr) = hs ∧
        ∀ a, pool a = pushAll (fun _ => []) ts a ++ q a := by
  intro hs
  induction hs with
  | nil =>
    intro views pool q ts hp hc
    simp only [consume, Option.some.injEq, Prod.mk.injEq] at hc
    obtain ⟨rfl, rfl⟩ := hc
    exact ⟨trivial, by rw [pushAll_nil]; exact hp, rfl, fun a => by simp [pushAll]⟩
  | cons h hs ih =>
    intro views pool q ts hp hc
    obtain ⟨t, rest, ts', hpl, hid, hc', rfl⟩ := consume_cons hc
    obtain ⟨hacct, hst⟩ := hp h.1
    rw [hpl] at hacct hst
    have hta : t.1.acct = h.1 := hacct t (by simp)
    have hp' : PoolOver W hist (upd views t.1.acct (views t.1.acct ++ [t])) (upd pool h.1 rest) := by
      intro a
      simp only [upd, hta]
      by_cases ha : a = h.1
      · subst ha
        simp only [if_true]
        exact ⟨fun x hx => hacct x (by simp [hx]), hst.2⟩
      · simp only [ha, if_false]; exact hp a
    obtain ⟨h1, h2, h3, h4⟩ := ih hp' hc'
    refine ⟨⟨by rw [hta]; exact hst.1, h1⟩, by rw [pushAll_cons]; exact h2, ?_, fun a => ?_⟩
    · rw [List.map_cons, h3]
      show (t.1.acct, t.1.id) :: hs = h :: hs
      rw [hta, hid]
    · have := h4 a
      rw [pushAll_cons, pushAll_eq_append]
      by_cases ha : a = h.1
      · subst ha
        simp only [upd, hta, if_true] at this ⊢
        rw [hpl, this]
        simp
      · simpa only [upd, hta, ha, if_false, List.nil_append] using this

structure Inv (U : Block → Prop) (W : VM P L) (s : Node P) : Prop where
  pool : PoolSound W s
  hist : HistSound W s.hist
  hash : HashOk W s.hist
  blocks : BlocksIn U s

/-- a pooled transaction read off the invariant: own account, linked to what lies below it, patch = `exec` in the stated
    context -/
theorem Inv.pool_at {U : Block → Prop} {W : VM P L} {s : Node P} (hi : Inv U W s) {a : Nat} {below above : List (Tx P)}
    {b : Block} {p : P} (h : s.pool a = below ++ (b, p) :: above) :
    b.acct = a ∧ b.prev = lastId (conf W s.hist a ++ below) ∧
      ∃ l, ledgerAt W s.hist b.ack = some l ∧ W.exec l (conf W s.hist a ++ below) b = some p := by
  obtain ⟨hacct, hst⟩ := hi.pool a
  rw [h] at hacct hst
  obtain ⟨hprev, _, hex⟩ := (StackSound.append.1 hst).2.1
  exact ⟨hacct (b, p) (by simp), hprev, hex⟩

/-- the empty pool is sound on any chains -/
theorem PoolOver.empty (W : VM P L) (hist : List (Entry P)) (views : Nat → List (Tx P)) :
    PoolOver W hist views fun _ => [] :=
  fun _ => ⟨fun _ h => (nomatch h), trivial⟩

theorem PoolOver.mono {W : VM P L} {hist : List (Entry P)} {views pool : Nat → List (Tx P)} (e : Entry P)
    (h : PoolOver W hist views pool) : PoolOver W (e :: hist) views pool :=
  fun a => ⟨(h a).1, (h a).2.mono e⟩

/-- cutting the stack of an account and putting one transaction, sound on what is left, on top keeps the invariant -/
theorem Inv.setStack {U : Block → Prop} {W : VM P L} {s : Node P} (hi : Inv U W s) {k : Nat} {x : Tx P} (hx : U x.1)
    (hok : TxOk W s.hist (conf W s.hist x.1.acct ++ (s.pool x.1.acct).take k) x) :
    Inv U W { s with pool := upd s.pool x.1.acct ((s.pool x.1.acct).take k ++ [x]) } := by
  have hmem : ∀ a, ∀ t ∈ upd s.pool x.1.acct ((s.pool x.1.acct).take k ++ [x]) a,
      (t = x ∧ a = x.1.acct) ∨ t ∈ s.pool a := by
    intro a t ht
    unfold upd at ht
    split at ht
    · next ha =>
      rcases List.mem_append.1 ht with ht | ht
      · exact Or.inr (ha ▸ List.mem_of_mem_take ht)
      · exact Or.inl ⟨List.mem_singleton.1 ht, ha⟩
    · exact Or.inr ht
  refine ⟨fun a => ⟨fun t ht => ?_, ?_⟩, hi.hist, hi.hash, fun a t ht => ?_, hi.blocks.2⟩
  · rcases hmem a t ht with ⟨rfl, rfl⟩ | h
    · rfl
    · exact (hi.pool a).1 t h
  · show StackSound W s.hist (conf W s.hist a) (upd s.pool x.1.acct ((s.pool x.1.acct).take k ++ [x]) a)
    unfold upd
    split
    · next ha =>
      subst ha
      exact StackSound.append.2 ⟨(hi.pool _).2.take k, hok, trivial⟩
    · exact (hi.pool a).2
  · rcases hmem a t ht with ⟨rfl, _⟩ | h
    · exact hx
    · exact hi.blocks.1 a t h

theorem addBlock_inv {W : VM P L} {U : Block → Prop} {force : Bool} {s s' : Node P} {b : Block}
    (h : addBlock W true force s b = some s') (hb : U b) (hi : Inv U W s) : Inv U W s' := by
  rcases addBlock_some h with rfl | ⟨k, p, hok, rfl⟩
  · exact hi
  · exact hi.setStack (x := (b, p)) hb hok

theorem blockLoop_hist {W : VM P L} {force : Bool} (bs : List Block) {s s' : Node P} {ok : Bool}
    (h : blockLoop W true force s bs = (s', ok)) : s'.hist = s.hist := by
  revert h
  fun_induction blockLoop W true force s bs with
  | case1 | case3 => exact fun h => by rw [← (Prod.mk.inj h).1]
  | case2 _ _ _ _ h1 ih => exact fun h => by rw [ih h, addBlock_hist h1]

theorem blockLoop_inv {W : VM P L} {U : Block → Prop} {force : Bool} (bs : List Block) {s s' : Node P} {ok : Bool}
    (h : blockLoop W true force s bs = (s', ok)) (hu : ∀ b ∈ bs, U b) (hi : Inv U W s) : Inv U W s' := by
  revert h
  fun_induction blockLoop W true force s bs with
  | case1 | case3 => exact fun h => (Prod.mk.inj h).1 ▸ hi
  | case2 _ b _ _ h1 ih =>
    exact fun h => ih (fun x hx => hu x (List.mem_cons_of_mem _ hx)) (addBlock_inv h1 (hu b List.mem_cons_self) hi) h
theorem stepMomentum_true {W : VM P L} {force : Bool} {s s' : Node P} {d : DM}
    (h : stepMomentum W true force s d = (s', true)) :
    ∃ s1 q txs, blockLoop W true force s d.blocks = (s1, true) ∧ d.m.prev = frontierId W s1.hist ∧
      consume s1.pool d.m.content = some (q, txs) ∧
      W.hash (W.pack (ledger W s1.hist) txs) = d.m.changesHash ∧ W.mvalid (ledger W s1.hist) d.m = true ∧
      s' = { hist := ⟨d.m, txs, W.pack (ledger W s1.hist) txs⟩ :: s1.hist, pool := q } := by
  revert h
  fun_cases stepMomentum W true force s d
  case case4 s1 hb hc q txs hq _ _ hh =>
    exact fun h => ⟨s1, q, txs, hb, Decidable.of_not_not fun hn => hc (.inl hn), hq, hh.1, hh.2, (Prod.mk.inj h).1.symm⟩
  all_goals exact fun h => nomatch (Prod.mk.inj h).2

/-- a refused momentum leaves the node as the block loop left it: blocks may have entered the pool, nothing else -/
theorem stepMomentum_false {W : VM P L} {force : Bool} {s s' : Node P} {d : DM}
    (h : stepMomentum W true force s d = (s', false)) :
    ∃ ok, blockLoop W true force s d.blocks = (s', ok) := by
  revert h
  fun_cases stepMomentum W true force s d
  case case4 => exact fun h => nomatch (Prod.mk.inj h).2
  -- every refusal returns the node of the block loop
  all_goals exact fun h => ⟨_, by rw [← (Prod.mk.inj h).1]; assumption⟩

theorem stepMomentum_inv {W : VM P L} {U : Block → Prop} {force : Bool} {s s' : Node P} {d : DM} {ok : Bool}
    (h : stepMomentum W true force s d = (s', ok)) (hu : ∀ b ∈ d.blocks, U b) (hi : Inv U W s) : Inv U W s' := by
  cases ok with
  | false =>
    obtain ⟨ok, hb⟩ := stepMomentum_false h
    exact blockLoop_inv _ hb hu hi
  | true =>
    obtain ⟨s1, q, txs, hb, _, hq, hh, _, rfl⟩ := stepMomentum_true h
    have hi1 := blockLoop_inv _ hb hu hi
    obtain ⟨c1, c2, c3, c4⟩ := consume_sound _ hi1.pool hq
    have m1 : ∀ t ∈ txs, t ∈ s1.pool t.1.acct := fun t ht => by
      rw [c4]; exact List.mem_append_left _ (by simp [pushAll, ht])
    refine ⟨?_, ⟨hi1.hist, c1, c3, rfl⟩, ?_, ?_, ?_⟩
    · exact PoolOver.mono _ c2
    · intro e he
      rcases List.mem_cons.1 he with rfl | he
      · exact hh
      · exact hi1.hash e he
    · intro a t ht; exact hi1.blocks.1 a t (by rw [c4]; exact List.mem_append_right _ ht)
    · intro e he t ht
      rcases List.mem_cons.1 he with rfl | he
      · exact hi1.blocks.1 _ t (m1 t ht)
      · exact hi1.blocks.2 e he t ht

theorem deliverGo_inv {W : VM P L} {U : Block → Prop} {force : Bool} (ds : List DM) {s s' : Node P} {idx : Nat}
    {r : Option Nat} (h : deliverGo W true force s idx ds = (s', r)) (hu : ∀ d ∈ ds, ∀ b ∈ d.blocks, U b)
    (hi : Inv U W s) : Inv U W s' := by
  revert h
  fun_induction deliverGo W true force s idx ds with
  | case1 => exact fun h => (Prod.mk.inj h).1 ▸ hi
  | case2 _ _ d _ _ h1 ih =>
    exact ih (fun x hx => hu x (List.mem_cons_of_mem _ hx)) (stepMomentum_inv h1 (hu d List.mem_cons_self) hi)
  | case3 _ _ d _ _ h1 => exact fun h => (Prod.mk.inj h).1 ▸ stepMomentum_inv h1 (hu d List.mem_cons_self) hi

theorem deliver_inv {W : VM P L} {U : Block → Prop} {force : Bool} {s : Node P} {batch : List DM}
    (hu : ∀ d ∈ batch, ∀ b ∈ d.blocks, U b) (hi : Inv U W s) : Inv U W (deliver W true force s batch).1 := by
  fun_cases deliver W true force s batch
  case case3 todo _ _ _ =>
    exact deliverGo_inv _ rfl (fun x hx => hu x ((List.dropWhile_sublist _).subset hx)) hi
  all_goals exact hi
theorem step_inv {W : VM P L} {U : Block → Prop} {s : Node P} (o : Op) (hu : ∀ b ∈ opBlocks [o], U b)
    (hi : Inv U W s) : Inv U W (step W s o) := by
  cases o with
  | gossip b =>
    simp only [step]
    cases h : addBlock W true false s b with
    | none => exact hi
    | some s' => exact addBlock_inv h (hu b (by simp [opBlocks])) hi
  | deliver batch =>
    exact deliver_inv (fun d hd b hb => hu b (by simp only [opBlocks, List.append_nil, List.mem_flatMap]; exact ⟨d, hd, hb⟩)) hi
  | restart =>
    exact ⟨PoolOver.empty _ _ _, hi.hist, hi.hash, fun _ _ h => (nomatch h), hi.blocks.2⟩

theorem opBlocks_cons (o : Op) (ops : List Op) : opBlocks (o :: ops) = opBlocks [o] ++ opBlocks ops := by
  cases o <;> simp [opBlocks]

theorem init_inv (W : VM P L) (U : Block → Prop) : Inv U W Node.init :=
  ⟨PoolOver.empty _ _ _, trivial, fun _ h => (nomatch h), fun _ _ h => (nomatch h), fun _ h => nomatch h⟩

theorem run_inv (W : VM P L) (U : Block → Prop) (ops : List Op) (hu : ∀ b ∈ opBlocks ops, U b) :
    Inv U W (run W ops) := by
  suffices h : ∀ (s : Node P), Inv U W s → Inv U W (ops.foldl (step W) s) from h _ (init_inv W U)
  induction ops with
  | nil => exact fun _ hi => hi
  | cons o ops ih =>
    rw [opBlocks_cons] at hu
    exact fun s hi => ih (fun b hb => hu b (List.mem_append_right _ hb)) _
      (step_inv o (fun b hb => hu b (List.mem_append_left _ hb)) hi)

/-! ### the accepted chain determines the stored history -/

/-- `exec` is a function: on one account chain a block has one sound patch -/
theorem TxOk.det {W : VM P L} {hist : List (Entry P)} {view : List (Tx P)} {t1 t2 : Tx P}
    (h1 : TxOk W hist view t1) (h2 : TxOk W hist view t2) (hb : t1.1 = t2.1) : t1 = t2 := by
  obtain ⟨b, p1⟩ := t1
  obtain ⟨_, p2⟩ := t2
  cases hb
  obtain ⟨_, _, l1, hl1, he1⟩ := h1
  obtain ⟨_, _, l2, hl2, he2⟩ := h2
  cases hl1.symm.trans hl2
  cases he1.symm.trans he2
  rfl

theorem TxsSound.det {W : VM P L} {hist : List (Entry P)} {U : Block → Prop}
    (hinj : ∀ b b', U b → U b' → b.id = b'.id → b = b') (ts1 ts2 : List (Tx P)) (views : Nat → List (Tx P))
    (h1 : TxsSound W hist views ts1) (h2 : TxsSound W hist views ts2) (hm : ts1.map (·.1.hdr) = ts2.map (·.1.hdr))
    (hu1 : ∀ t ∈ ts1, U t.1) (hu2 : ∀ t ∈ ts2, U t.1) : ts1 = ts2 := by
  induction ts1 generalizing ts2 views with
  | nil => exact (List.map_eq_nil_iff.1 hm.symm).symm
  | cons t1 ts1 ih =>
    cases ts2 with
    | nil => simp at hm
    | cons t2 ts2 =>
      rw [List.forall_mem_cons] at hu1 hu2
      simp only [List.map_cons, List.cons.injEq] at hm
      have hb : t1.1 = t2.1 := hinj _ _ hu1.1 hu2.1 (Prod.mk.inj hm.1).2
      have ht : t1 = t2 := TxOk.det h1.1 (by rw [hb]; exact h2.1) hb
      subst ht
      rw [ih ts2 _ h1.2 h2.2 hm.2 hu1.2 hu2.2]

/-- blocks are pinned by their headers when identifiers do not collide -/
theorem blocks_eq_of_hdr {U : Block → Prop} (hinj : ∀ b b', U b → U b' → b.id = b'.id → b = b')
    (xs ys : List Block) (h : xs.map Block.hdr = ys.map Block.hdr) (hx : ∀ b ∈ xs, U b) (hy : ∀ b ∈ ys, U b) :
    xs = ys := by
  induction xs generalizing ys with
  | nil => exact (List.map_eq_nil_iff.1 h.symm).symm
  | cons b rest ih =>
    cases ys with
    | nil => simp at h
    | cons b' rest' =>
      rw [List.forall_mem_cons] at hx hy
      simp only [List.map_cons, List.cons.injEq] at h
      rw [hinj b b' hx.1 hy.1 (Prod.mk.inj h.1).2, ih rest' h.2 hx.2 hy.2]

/-- two sound histories of the same momentum sequence are the same history: same blocks, same patches -/
theorem hist_det {W : VM P L} {U : Block → Prop} (hinj : ∀ b b', U b → U b' → b.id = b'.id → b = b')
    (h1 h2 : List (Entry P)) (s1 : HistSound W h1) (s2 : HistSound W h2) (hu1 : ∀ e ∈ h1, ∀ t ∈ e.txs, U t.1)
    (hu2 : ∀ e ∈ h2, ∀ t ∈ e.txs, U t.1) (hm : h1.map (·.m) = h2.map (·.m)) : h1 = h2 := by
  induction h1 generalizing h2 with
  | nil => exact (List.map_eq_nil_iff.1 hm.symm).symm
  | cons e1 o1 ih =>
    cases h2 with
    | nil => simp at hm
    | cons e2 o2 =>
      rw [List.forall_mem_cons] at hu1 hu2
      simp only [List.map_cons, List.cons.injEq] at hm
      have ho : o1 = o2 := ih o2 s1.1 s2.1 hu1.2 hu2.2 hm.2
      subst ho
      obtain ⟨m1, txs1, p1⟩ := e1
      obtain ⟨m2, txs2, p2⟩ := e2
      simp only at hm
      obtain ⟨rfl, _⟩ := hm
      obtain ⟨_, t1, c1, q1⟩ := s1
      obtain ⟨_, t2, c2, q2⟩ := s2
      simp only at t1 t2 c1 c2 q1 q2
      have ht : txs1 = txs2 :=
        TxsSound.det hinj txs1 txs2 _ t1 t2 (by rw [c1, c2]) hu1.1 hu2.1
      subst ht
      rw [q1, q2]

theorem Inv.hist_eq {W : VM P L} {U : Block → Prop} (hinj : ∀ b b', U b → U b' → b.id = b'.id → b = b') {s1 s2 : Node P}
    (i1 : Inv U W s1) (i2 : Inv U W s2) (hchain : s1.chain = s2.chain) : s1.hist = s2.hist :=
  hist_det hinj _ _ i1.hist i2.hist i1.blocks.2 i2.blocks.2 hchain

/-- with an injective changes hash the momentum sequence pins the ledger even between nodes whose VMs differ -/
theorem ledger_of_hash {W1 W2 : VM P L} (hinit : W1.init = W2.init) (hcommit : W1.commit = W2.commit)
    (hhash : W1.hash = W2.hash) (hinj : ∀ p q, W1.hash p = W1.hash q → p = q) (h1 h2 : List (Entry P))
    (k1 : HashOk W1 h1) (k2 : HashOk W2 h2) (hm : h1.map (·.m) = h2.map (·.m)) : ledger W1 h1 = ledger W2 h2 := by
  induction h1 generalizing h2 with
  | nil => cases List.map_eq_nil_iff.1 hm.symm; exact hinit
  | cons e1 o1 ih =>
    cases h2 with
    | nil => simp at hm
    | cons e2 o2 =>
      simp only [List.map_cons, List.cons.injEq] at hm
      have ho := ih o2 (fun e he => k1 e (by simp [he])) (fun e he => k2 e (by simp [he])) hm.2
      have hp : e1.patch = e2.patch := by
        apply hinj
        rw [k1 e1 (by simp), hhash, k2 e2 (by simp), hm.1]
      simp only [ledger, ho, hp, hm.1, hcommit]

/-! ### an honest momentum is accepted whatever the pool holds -/

/-- the delivered block, executed in its stated context and force-inserted, leaves the producer's transaction at the
    producer's position — whether it was pooled before, competes with a pooled block, or extends the pool -/
theorem addBlock_honest {W : VM P L} {U : Block → Prop} (hinj : ∀ b b', U b → U b' → b.id = b'.id → b = b')
    {t : Node P} {x : Tx P} {d r : List (Tx P)} (hi : Inv U W t) (hx : U x.1)
    (hok : TxOk W t.hist (conf W t.hist x.1.acct ++ d) x) (hp : t.pool x.1.acct = d ++ r) :
    ∃ t' r', addBlock W true true t x.1 = some t' ∧ t'.pool x.1.acct = (d ++ [x]) ++ r' ∧
      ∀ a, a ≠ x.1.acct → t'.pool a = t.pool a := by
  obtain ⟨b, p⟩ := x
  obtain ⟨hprev, hheight, l, hl, he⟩ := hok
  simp only at hprev hheight hl he hx hp
  obtain ⟨hacct, hst⟩ := hi.pool b.acct
  by_cases hany : (t.pool b.acct).any (fun y => y.1.id == b.id) = true
  · -- pooled under the same identifier: it is the producer's transaction, at the producer's position
    refine ⟨t, ?_⟩
    obtain ⟨y, hy, hyid⟩ := List.any_eq_true.1 hany
    have hyb : y.1 = b := hinj _ _ (hi.blocks.1 _ y hy) hx (by simpa using hyid)
    obtain ⟨j, hj'⟩ := List.getElem?_of_mem hy
    have hh := hst.height_at j y hj'
    rw [hyb, hheight, List.length_append] at hh
    have hjd : j = d.length := by omega
    subst hjd
    rw [hp] at hj'
    rw [List.getElem?_append_right (Nat.le_refl _), Nat.sub_self] at hj'
    cases r with
    | nil => simp at hj'
    | cons y' r' =>
      simp only [List.getElem?_cons_zero, Option.some.injEq] at hj'
      subst hj'
      rw [hp] at hst
      have hy' : y' = (b, p) := TxOk.det (StackSound.append.1 hst).2.1 ⟨hprev, hheight, l, hl, he⟩ hyb
      subst hy'
      refine ⟨r', ?_, by rw [hp]; simp, fun _ _ => rfl⟩
      unfold addBlock
      simp only [hany, if_true]
  · -- not pooled: executed on the account chain up to its previous, inserted with force
    have hsplit : splitFor (conf W t.hist b.acct) (t.pool b.acct) b = some (d, r) := by
      unfold splitFor
      have hk : b.height - 1 - (conf W t.hist b.acct).length = d.length := by
        rw [hheight, List.length_append]; omega
      simp only [hk]
      rw [hp, List.take_left' rfl, List.drop_left' rfl, if_pos]
      refine ⟨by rw [hheight, List.length_append]; omega, ?_, hprev.symm⟩
      rw [hheight]; simp only [List.length_append]; omega
    refine ⟨{ t with pool := upd t.pool b.acct (d ++ [(b, p)]) }, [], ?_, by simp [upd], ?_⟩
    · unfold addBlock
      simp only [hany, hl, hsplit, if_true, he, Bool.true_or]
      cases r <;> simp
    · intro a ha; simp [upd, ha]

theorem blockLoop_honest {W : VM P L} {U : Block → Prop} (hinj : ∀ b b', U b → U b' → b.id = b'.id → b = b') :
    ∀ (txs : List (Tx P)) (t : Node P) (done : Nat → List (Tx P)), Inv U W t → (∀ x ∈ txs, U x.1) →
      TxsSound W t.hist (fun a => conf W t.hist a ++ done a) txs → (∀ a, ∃ r, t.pool a = done a ++ r) →
      ∃ t', blockLoop W true true t (txs.map (·.1)) = (t', true) ∧ t'.hist = t.hist ∧
        ∀ a, ∃ r, t'.pool a = pushAll done txs a ++ r := by
  intro txs
  induction txs with
  | nil => intro t done hi _ _ hp; exact ⟨t, rfl, rfl, by rw [pushAll_nil]; exact hp⟩
  | cons x xs ih =>
    intro t done hi hu hs hp
    obtain ⟨r, hr⟩ := hp x.1.acct
    obtain ⟨t1, r1, h1, h2, h3⟩ := addBlock_honest hinj hi (hu x (by simp)) hs.1 hr
    have hh1 := addBlock_hist h1
    have hs' : TxsSound W t1.hist (fun a => conf W t1.hist a ++ upd done x.1.acct (done x.1.acct ++ [x]) a) xs := by
      rw [hh1]
      have e : (fun a => conf W t.hist a ++ upd done x.1.acct (done x.1.acct ++ [x]) a) =
          upd (fun a => conf W t.hist a ++ done a) x.1.acct ((conf W t.hist x.1.acct ++ done x.1.acct) ++ [x]) := by
        funext a
        simp only [upd]
        by_cases ha : a = x.1.acct
        · subst ha; simp
        · simp [ha]
      rw [e]; exact hs.2
    have hp' : ∀ a, ∃ r, t1.pool a = upd done x.1.acct (done x.1.acct ++ [x]) a ++ r := by
      intro a
      simp only [upd]
      by_cases ha : a = x.1.acct
      · subst ha; exact ⟨r1, by simpa using h2⟩
      · simp only [ha, if_false]; rw [h3 a ha]; exact hp a
    obtain ⟨t', g1, g2, g4⟩ :=
      ih t1 _ (addBlock_inv h1 (hu x (by simp)) hi) (fun y hy => hu y (by simp [hy])) hs' hp'
    refine ⟨t', ?_, by rw [g2, hh1], by rw [pushAll_cons]; exact g4⟩
    simp only [List.map_cons, blockLoop, h1, g1]

theorem consume_prefix :
    ∀ (txs : List (Tx P)) (pool : Nat → List (Tx P)), (∀ a, ∃ r, pool a = pushAll (fun _ => []) txs a ++ r) →
      ∃ q, consume pool (txs.map (·.1.hdr)) = some (q, txs) := by
  intro txs
  induction txs with
  | nil => intro pool _; exact ⟨pool, rfl⟩
  | cons x xs ih =>
    intro pool hp
    have hx : ∀ a, ∃ r, pool a = (if a = x.1.acct then [x] else []) ++ (pushAll (fun _ => []) xs a ++ r) := by
      intro a
      obtain ⟨r, hr⟩ := hp a
      refine ⟨r, ?_⟩
      rw [hr, pushAll_cons, pushAll_eq_append]
      simp only [upd, List.nil_append, List.append_assoc]
    obtain ⟨r, hr⟩ := hx x.1.acct
    simp only [if_true, List.singleton_append] at hr
    obtain ⟨q, hq⟩ := ih (upd pool x.1.acct (pushAll (fun _ => []) xs x.1.acct ++ r)) (by
      intro a
      simp only [upd]
      by_cases ha : a = x.1.acct
      · subst ha; exact ⟨r, by simp⟩
      · obtain ⟨r', hr'⟩ := hx a
        simp only [ha, if_false, List.nil_append] at hr' ⊢
        exact ⟨r', hr'⟩)
    refine ⟨q, ?_⟩
    simp only [Block.hdr] at hq
    simp only [List.map_cons, consume, Block.hdr, hr, if_true, hq]

theorem contentOk_of_txs (m : Momentum) (txs : List (Tx P)) (h : txs.map (·.1.hdr) = m.content) :
    contentOk ⟨m, txs.map (·.1)⟩ = true := by
  simp only [contentOk, ← h, List.length_map, beq_self_eq_true, Bool.true_and, List.all_eq_true, List.any_eq_true,
    List.mem_map]
  rintro _ ⟨t, ht, rfl⟩
  exact ⟨t.1, ⟨t, ht, rfl⟩, by simp⟩

theorem stepMomentum_honest {W : VM P L} {U : Block → Prop} (hinj : ∀ b b', U b → U b' → b.id = b'.id → b = b')
    {t : Node P} {m : Momentum} {txs : List (Tx P)} (hi : Inv U W t) (hu : ∀ x ∈ txs, U x.1)
    (hs : TxsSound W t.hist (conf W t.hist) txs) (hc : txs.map (·.1.hdr) = m.content)
    (hprev : m.prev = frontierId W t.hist) (hh : W.hash (W.pack (ledger W t.hist) txs) = m.changesHash)
    (hv : W.mvalid (ledger W t.hist) m = true) :
    ∃ q, stepMomentum W true true t ⟨m, txs.map (·.1)⟩ =
      ({ hist := ⟨m, txs, W.pack (ledger W t.hist) txs⟩ :: t.hist, pool := q }, true) := by
  have e : conf W t.hist = fun a => conf W t.hist a ++ (fun _ => ([] : List (Tx P))) a := by funext a; simp
  rw [e] at hs
  obtain ⟨t', g1, g2, g4⟩ := blockLoop_honest hinj txs t (fun _ => []) hi hu hs (fun a => ⟨t.pool a, by simp⟩)
  obtain ⟨q, hq⟩ := consume_prefix txs t'.pool g4
  refine ⟨q, ?_⟩
  unfold stepMomentum
  simp only [g1, g2, hprev, contentOk_of_txs m txs hc, ← hc, hq, hh, hv, ne_eq, not_true_eq_false, or_self,
    Bool.true_eq_false, if_false, and_self, if_true]

/-- what an honest producer packs: transactions of its own pool, sound on its chain in content order, with the changes
    hash of their pooled patches -/
theorem produce_sound {W : VM P L} {U : Block → Prop} {s : Node P} (hi : Inv U W s) {m0 : Momentum} {d : DM}
    (hprod : produce W s m0 = some d) :
    ∃ txs, d = ⟨{ m0 with prev := frontierId W s.hist, changesHash := W.hash (W.pack (ledger W s.hist) txs) },
        txs.map (·.1)⟩ ∧
      (∀ x ∈ txs, U x.1) ∧ TxsSound W s.hist (conf W s.hist) txs ∧ txs.map (·.1.hdr) = m0.content := by
  unfold produce at hprod
  split at hprod
  · cases hprod
  · next q txs hq =>
    obtain ⟨c1, _, c3, c4⟩ := consume_sound _ hi.pool hq
    refine ⟨txs, (Option.some.inj hprod).symm, fun x hx => hi.blocks.1 x.1.acct x ?_, c1, c3⟩
    rw [c4]
    exact List.mem_append_left _ (by simp [pushAll, hx])

theorem deliver_honest {W : VM P L} {U : Block → Prop} (hinj : ∀ b b', U b → U b' → b.id = b'.id → b = b')
    {t : Node P} {m : Momentum} {txs : List (Tx P)} (hi : Inv U W t) (hu : ∀ x ∈ txs, U x.1)
    (hs : TxsSound W t.hist (conf W t.hist) txs) (hc : txs.map (·.1.hdr) = m.content)
    (hprev : m.prev = frontierId W t.hist) (hh : W.hash (W.pack (ledger W t.hist) txs) = m.changesHash)
    (hv : W.mvalid (ledger W t.hist) m = true) :
    (deliver W true true t [⟨m, txs.map (·.1)⟩]).2 = none ∧
      (known t.hist m = false → (deliver W true true t [⟨m, txs.map (·.1)⟩]).1.chain = m :: t.chain) := by
  obtain ⟨q, hq⟩ := stepMomentum_honest hinj hi hu hs hc hprev hh hv
  unfold deliver
  cases hk : known t.hist m
  · simp only [List.dropWhile, hk, hprev, ne_eq, not_true_eq_false, if_false, deliverGo, hq]
    exact ⟨trivial, fun _ => rfl⟩
  · simp [List.dropWhile, hk]

end ZV.NodeSync
