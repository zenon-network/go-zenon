import ZenonVerif.Model.Downloader
/-
Lemmas for C15Sync, code as it is (`Cfg.fixed`). The invariant `Inv` says, phase by phase of the hash fetcher, what the
time-out, the block fetcher and processCh look like (`RunOk`); its transitions are the lemmas of `namespace RunOk`.
`step_out` goes through the step function ONCE and sorts every outcome into `Out`: nobody dropped / the synchronisation ends / a peer
is dropped, each with the facts the theorems need; `inv_step`, `blame_step`, `cache_step` read them off. Last the measure
of `sync_terminates_under_silence`.
-/
namespace ZV.Dl

/-! The notions the statements of Props/C15Sync are written in. -/

/-- a running synchronisation `r` with processCh holding `pc` is well formed -/
structure RunOk (pc : Option Bool) (r : Run) : Prop where
  /-- a hash request is pending: its time-out is armed -/
  armed : r.hf.waiting = true → r.timer.isSome = true
  range : ∀ t, r.timer = some t → 1 ≤ t ∧ t ≤ hashTTL
  /-- fetchBlocks is started when findAncestor is through, not before -/
  off : r.bf = .off ↔ (r.hf = .probe ∨ ∃ lo hi, r.hf = .search lo hi)
  /-- `finished` is set on reading `false` from processCh, which only a hash fetcher that is through sends -/
  fin : r.bf = .run true → r.hf = .done
  /-- a run whose block fetcher has returned is never stored: it returns only when `finished`, the hash fetcher is then
      done (`fin`), and `setRun` ends the run -/
  notDone : r.bf ≠ .done
  /-- a `false` on processCh comes from the hash fetcher of this run -/
  flag : pc = some false → r.hf = .done
  /-- between the hash fetcher's return and the block fetcher's reading of it the flag is on processCh -/
  transit : r.hf = .done → r.bf = .run false → pc = some false
  /-- the hash fetcher blocks on its last send only while processCh is full -/
  full : r.hf = .blocked → pc.isSome = true

structure Inv (s : State) : Prop where
  run : ∀ r, s.run = some r → RunOk s.processCh r
  left : ∀ q ∈ s.inflight, q.left ≤ blockTTL

/-- the node synchronises from p -/
def isOrigin (s : State) (p : Nat) : Prop := ∃ r, s.run = some r ∧ r.origin = p

/-- the hash `id` is part of a request in flight at peer p -/
def requestedFrom (s : State) (p id : Nat) : Prop := ∃ q ∈ s.inflight, q.peer = p ∧ id ∈ q.ids

/-- what must have happened when event `e` in state `s` makes the node drop peer `p` for reason `w` -/
def Blame (s : State) (e : Event) (p : Nat) : Why → Prop
  | .forged => ∃ items, e = .blocks p items ∧ ∃ it ∈ items, it.hashOk = false ∧ requestedFrom s p it.id
  | .importFailed => e = .imp ∧ ∃ b ∈ s.cache, b.src = p ∧ b.ok = false
  | .timeout => isOrigin s p ∧ e = .tick ∧ ∃ r t, s.run = some r ∧ r.timer = some t ∧ t ≤ 1
  | .emptyHashSet => isOrigin s p ∧ ∃ pk, e = .hashes p pk ∧ pk.ids = []
  | .badPeer => isOrigin s p ∧ ∃ pk, e = .hashes p pk
  | .invalidChain => isOrigin s p ∧ ∃ q items, e = .blocks q items ∧
      ∃ it ∈ items, it.hashOk = true ∧ it.inWin = false ∧ requestedFrom s q it.id
  | .unavailable => isOrigin s p ∧ (∃ rs, e = .update rs) ∧ isIdle s p = false
  | .noPeers => False
  | .cancelled => False

/-- the block `b` is in the cache by event `e`: a block pack of the peer the entry names, holding that block under a hash
    requested from that peer -/
def Delivered (s : State) (e : Event) (b : Blk) : Prop :=
  ∃ items, e = .blocks b.src items ∧ ∃ it ∈ items, it.id = b.id ∧ b.ok = (it.valid && it.hashOk) ∧
    requestedFrom s b.src it.id

def flightW : List Req → Nat
  | [] => 0
  | q :: t => q.left + 1 + flightW t

def idleCount : List Peer → Nat
  | [] => 0
  | p :: t => (if p.idle then 1 else 0) + idleCount t

/-- the hand-over of the last flag still to come: 2 while the hash fetcher is blocked on sending it, 1 while it lies on
    processCh unread, 0 otherwise -/
def phaseW (r : Run) : Nat :=
  match r.hf, r.bf with
  | .blocked, _ => 2
  | .done, .run false => 1
  | _, _ => 0

/-- what is left of a running synchronisation when nobody says anything: ticks of the armed hash time-out, ticks of the
    requests in flight, one full block time-out per peer that can still be asked, and the hand-over of the last flag -/
def measure (s : State) : Nat :=
  match s.run with
  | none => 0
  | some r => 1 + r.timer.getD 0 + flightW s.inflight + idleCount s.peers * (blockTTL + 2) + phaseW r

/-- the requests handed out in an update leave no idle peer unasked while hashes are pending — what the loop
    `for _, peer := range d.peers.IdlePeers()` of fetchBlocks does -/
def MaximalAt (u : State) (rs : List (Nat × List Nat)) : Prop :=
  (reserve (expire u.sched) rs).pending = [] ∨ anyIdle (reserve (expire u.sched) rs) = false

/-- 100 ms of silence: the ticker fires, the block fetcher runs its update and hands out the requests `rs` -/
def quiet (s : State) (rs : List (Nat × List Nat)) : State := (step .fixed (step .fixed s .tick).1 (.update rs)).1

def silentRun : State → List (List (Nat × List Nat)) → State
  | s, [] => s
  | s, c :: cs => silentRun (quiet s c) cs

/-- every update of the run offers a request to every idle peer -/
def MaximalRun : State → List (List (Nat × List Nat)) → Prop
  | _, [] => True
  | s, c :: cs => MaximalAt (step .fixed s .tick).1 c ∧ MaximalRun (quiet s c) cs

theorem hashTTL_eq : hashTTL = 50 := rfl
theorem blockTTL_eq : blockTTL = 90 := rfl

/-! ### the transitions of a run: each keeps `RunOk` -/

namespace RunOk
variable {pc : Option Bool} {r : Run}

theorem range_hashTTL (t : Nat) (h : some hashTTL = some t) : 1 ≤ t ∧ t ≤ hashTTL := by cases h; decide

theorem ancestor_ne {hf : HF} (h : hf = .probe ∨ ∃ lo hi, hf = .search lo hi) :
    hf ≠ .fetch ∧ hf ≠ .blocked ∧ hf ≠ .done := by
  rcases h with rfl | ⟨_, _, rfl⟩ <;> exact ⟨nofun, nofun, nofun⟩

/-- while findAncestor runs the flag has not been sent -/
theorem noFlag (ok : RunOk pc r) (hb : r.bf = .off) : pc ≠ some false :=
  fun h => (ancestor_ne (ok.off.mp hb)).2.2 (ok.flag h)

/-- findAncestor goes on: the next hash of the binary search is requested -/
theorem search (ok : RunOk pc r) (hb : r.bf = .off) (lo hi : Nat) :
    RunOk pc { r with hf := .search lo hi, timer := some hashTTL } :=
  ⟨fun _ => rfl, range_hashTTL, ⟨fun _ => .inr ⟨_, _, rfl⟩, fun _ => hb⟩, (fun h => nomatch hb.symm.trans h), ok.notDone,
    fun h => (ok.noFlag hb h).elim, nofun, nofun⟩

/-- findAncestor is through: both fetchers start -/
theorem startFetch (ok : RunOk pc r) (hb : r.bf = .off) :
    RunOk pc { r with hf := .fetch, timer := some hashTTL, bf := .run false } :=
  ⟨fun _ => rfl, range_hashTTL, ⟨nofun, fun h => ((ancestor_ne h).1 rfl).elim⟩, nofun, nofun,
    fun h => (ok.noFlag hb h).elim, nofun, nofun⟩

/-- during the hash download the block fetcher runs, not finished, and the flag has not been sent -/
theorem of_fetch (ok : RunOk pc r) (hp : r.hf = .fetch) : r.bf = .run false ∧ pc ≠ some false := by
  refine ⟨?_, fun h => nomatch hp.symm.trans (ok.flag h)⟩
  match hb : r.bf with
  | .off => exact absurd hp (ancestor_ne (ok.off.mp hb)).1
  | .run true => cases hp.symm.trans (ok.fin hb)
  | .run false => rfl
  | .done => exact absurd hb ok.notDone

/-- the empty pack that ends the hash download: the flag is on its way to the block fetcher… -/
theorem lastPack (ok : RunOk pc r) (hp : r.hf = .fetch) : RunOk (some false) { r with hf := .done, timer := none } :=
  ⟨nofun, nofun, ⟨(fun h => nomatch (ok.of_fetch hp).1.symm.trans h), fun h => ((ancestor_ne h).2.2 rfl).elim⟩,
    fun _ => rfl, ok.notDone, fun _ => rfl, fun _ _ => rfl, nofun⟩

/-- …or cannot be sent yet because processCh is full -/
theorem block (ok : RunOk pc r) (hp : r.hf = .fetch) (hpc : pc.isSome = true) :
    RunOk pc { r with hf := .blocked, timer := none } :=
  ⟨nofun, nofun, ⟨(fun h => nomatch (ok.of_fetch hp).1.symm.trans h), fun h => ((ancestor_ne h).2.1 rfl).elim⟩,
    (fun h => nomatch (ok.of_fetch hp).1.symm.trans h), ok.notDone, fun h => ((ok.of_fetch hp).2 h).elim, nofun, fun _ => hpc⟩

/-- hashes arrived and the next request is sent; processCh may have taken a `true` meanwhile -/
theorem rearm (ok : RunOk pc r) (hp : r.hf = .fetch) {pc' : Option Bool} (hpc : pc' ≠ some false) :
    RunOk pc' { r with timer := some hashTTL } :=
  ⟨fun _ => rfl, range_hashTTL, ok.off, ok.fin, ok.notDone, fun h => (hpc h).elim,
    (fun h => nomatch hp.symm.trans h), (fun h => nomatch hp.symm.trans h)⟩

theorem tick (ok : RunOk pc r) {t : Nat} (ht : r.timer = some t) (h1 : ¬t ≤ 1) :
    RunOk pc { r with timer := some (t - 1) } :=
  ⟨fun _ => rfl, fun u hu => by cases hu; have := (ok.range t ht).2; omega, ok.off, ok.fin, ok.notDone, ok.flag,
    ok.transit, ok.full⟩

/-- the block fetcher takes what is on processCh: a blocked hash fetcher gets its flag through and is done; a `false`
    taken makes the block fetcher `finished` -/
theorem takeProcess (ok : RunOk pc r) {fin : Bool} (hb : r.bf = .run fin) :
    RunOk (takeProcess pc r.hf fin).1
      { r with hf := (takeProcess pc r.hf fin).2.1, bf := .run (takeProcess pc r.hf fin).2.2 } := by
  fun_cases Dl.takeProcess pc r.hf fin
  · rw [← hb]; exact ok
  · exact ⟨nofun, ok.range, ⟨nofun, fun h => ((ancestor_ne h).2.2 rfl).elim⟩, fun _ => rfl, nofun, fun _ => rfl,
      fun _ _ => rfl, nofun⟩
  · next c hnb =>
    refine ⟨ok.armed, ok.range, ⟨nofun, fun h => nomatch hb.symm.trans (ok.off.mpr h)⟩, ?_, nofun, nofun, ?_,
      fun h => (hnb h).elim⟩
    · cases c
      · exact fun _ => ok.flag rfl
      · intro h; rw [Bool.not_true, Bool.or_false] at h; exact ok.fin (h ▸ hb)
    · intro hd h
      cases c
      · simp at h
      · rw [Bool.not_true, Bool.or_false] at h; exact nomatch ok.transit hd (h ▸ hb)

theorem start (p head : Nat) : RunOk none ⟨p, head, .probe, some hashTTL, .off⟩ :=
  ⟨fun _ => rfl, range_hashTTL, ⟨fun _ => .inl rfl, fun _ => rfl⟩, nofun, nofun, nofun, nofun, nofun⟩

end RunOk

@[simp] theorem dropPeer_run (s : State) (p : Nat) (w : Why) : (dropPeer s p w).1.run = s.run := by
  unfold dropPeer; split <;> rfl
@[simp] theorem dropPeer_processCh (s : State) (p : Nat) (w : Why) : (dropPeer s p w).1.processCh = s.processCh := by
  unfold dropPeer; split <;> rfl
@[simp] theorem dropPeer_inflight (s : State) (p : Nat) (w : Why) : (dropPeer s p w).1.inflight = s.inflight := by
  unfold dropPeer; split <;> rfl
@[simp] theorem dropPeer_pending (s : State) (p : Nat) (w : Why) : (dropPeer s p w).1.pending = s.pending := by
  unfold dropPeer; split <;> rfl
@[simp] theorem dropPeer_cache (s : State) (p : Nat) (w : Why) : (dropPeer s p w).1.cache = s.cache := by
  unfold dropPeer; split <;> rfl

@[simp] theorem abort_run (s : State) (r : Run) (w : Why) : (abort s r w).1.run = none := by
  unfold abort; split <;> simp [resetQueue]
@[simp] theorem abort_inflight (s : State) (r : Run) (w : Why) : (abort s r w).1.inflight = [] := by
  unfold abort; split <;> simp [resetQueue]
@[simp] theorem abort_cache (s : State) (r : Run) (w : Why) : (abort s r w).1.cache = [] := by
  unfold abort; split <;> simp [resetQueue]

@[simp] theorem setIdle_run (s : State) (p : Nat) (b : Bool) : (setIdle s p b).run = s.run := rfl
@[simp] theorem setIdle_processCh (s : State) (p : Nat) (b : Bool) : (setIdle s p b).processCh = s.processCh := rfl
@[simp] theorem setIdle_inflight (s : State) (p : Nat) (b : Bool) : (setIdle s p b).inflight = s.inflight := rfl

@[simp] theorem withSched_run (s : State) (q : Sched) : (s.withSched q).run = s.run := rfl
@[simp] theorem withSched_processCh (s : State) (q : Sched) : (s.withSched q).processCh = s.processCh := rfl
@[simp] theorem withSched_inflight (s : State) (q : Sched) : (s.withSched q).inflight = q.inflight := rfl

theorem inv_norun {s : State} (h1 : s.run = none) (h2 : ∀ q ∈ s.inflight, q.left ≤ blockTTL) : Inv s :=
  ⟨fun _ hr => (nomatch h1.symm.trans hr), h2⟩

theorem inv_mk {s' : State} {r' : Run} (h1 : s'.run = some r') (h2 : RunOk s'.processCh r')
    (h3 : ∀ q ∈ s'.inflight, q.left ≤ blockTTL) : Inv s' :=
  ⟨fun r hr => by rw [h1] at hr; cases hr; exact h2, h3⟩

theorem inv_setRun {s : State} {r : Run} (h2 : ¬(r.hf = .done ∧ r.bf = .done) → RunOk s.processCh r)
    (h3 : ∀ q ∈ s.inflight, q.left ≤ blockTTL) : Inv (setRun s r) := by
  unfold setRun
  split
  · exact inv_norun rfl h3
  · next hn => exact inv_mk rfl (h2 hn) h3

/-- the run, processCh and the requests in flight are all the invariant looks at -/
theorem inv_congr {s s' : State} (h : Inv s) (h1 : s'.run = s.run) (h2 : s'.processCh = s.processCh)
    (h3 : ∀ q ∈ s'.inflight, q ∈ s.inflight) : Inv s' :=
  ⟨fun r hr => by rw [h2]; exact h.run r (h1 ▸ hr), fun q hq => h.left q (h3 q hq)⟩

theorem reserve_inflight (q : Sched) (rs : List (Nat × List Nat)) :
    ∀ x ∈ (reserve q rs).inflight, x ∈ q.inflight ∨ x.left = blockTTL := by
  fun_induction reserve q rs with
  | case1 q => exact fun _ => .inl
  | case2 q p ids rest hc ih =>
    exact fun x hx => (ih x hx).elim (fun h => (List.mem_cons.mp h).elim (· ▸ .inr rfl) .inl) .inr
  | case3 q p ids rest hc ih => exact ih

def dec (q : Req) : Req := { q with left := q.left - 1 }

/-- a tick takes one off every request that has time left -/
theorem flightW_dec (l : List Req) :
    flightW (l.map dec) ≤ flightW l ∧ ((∃ x ∈ l, x.left ≠ 0) → flightW (l.map dec) < flightW l) := by
  induction l with
  | nil => exact ⟨Nat.le_refl _, nofun⟩
  | cons a t ih =>
    simp only [List.map_cons, flightW, dec]
    refine ⟨by omega, fun ⟨x, hx, hx0⟩ => ?_⟩
    rcases List.mem_cons.mp hx with rfl | hx
    · omega
    · have := ih.2 ⟨x, hx, hx0⟩; omega

/-- `queue.Expire` takes out the requests whose time is up -/
theorem flightW_filter (l : List Req) :
    flightW (l.filter (·.left != 0)) ≤ flightW l ∧
    ((∃ x ∈ l, x.left = 0) → flightW (l.filter (·.left != 0)) < flightW l) := by
  induction l with
  | nil => exact ⟨Nat.le_refl _, nofun⟩
  | cons a t ih =>
    rw [List.filter_cons]
    split
    · next ha =>
      simp only [flightW]
      refine ⟨by omega, fun ⟨x, hx, hx0⟩ => ?_⟩
      rcases List.mem_cons.mp hx with rfl | hx
      · simp [hx0] at ha
      · have := ih.2 ⟨x, hx, hx0⟩; omega
    · simp only [flightW]; omega

/-- a request handed to an idle peer takes it out of the count -/
theorem idleCount_markBusy (ps : List Peer) (p : Nat) :
    idleCount (markBusy ps p) + (if ps.any (fun x => x.id == p && x.idle) then 1 else 0) ≤ idleCount ps := by
  induction ps with
  | nil => exact Nat.le_refl _
  | cons a t ih =>
    rw [markBusy, List.map_cons, ← markBusy, List.any_cons]
    cases hp : a.id == p <;> cases hi : a.idle <;>
      simp only [idleCount, hi, Bool.and_false, Bool.and_true, Bool.false_or, Bool.true_or, if_true, if_false,
        Bool.false_eq_true] <;> omega

/-- an idle peer weighs `blockTTL + 2`, one more than the new request (`blockTTL + 1`) that `queue.Reserve` may hand to it, so
    that handing out a request lowers the weight -/
def schedW (q : Sched) : Nat := flightW q.inflight + idleCount q.peers * (blockTTL + 2)

/-- `queue.Reserve`: either nothing is handed out, or the new requests weigh less than the idle peers they occupy -/
theorem reserve_cases (q : Sched) (rs : List (Nat × List Nat)) :
    reserve q rs = q ∨ (schedW (reserve q rs) < schedW q ∧ (reserve q rs).inflight ≠ []) := by
  fun_induction reserve q rs with
  | case1 q => exact .inl rfl
  | case2 q p ids rest hc ih =>
    right
    simp only [Bool.and_eq_true] at hc
    have h1 := idleCount_markBusy q.peers p
    rw [hc.1.1.1, if_pos rfl] at h1
    have h2 := Nat.mul_le_mul_right (blockTTL + 2) h1
    rw [Nat.add_mul] at h2
    generalize hq' : Sched.mk (markBusy q.peers p) _ (⟨p, ids, blockTTL⟩ :: q.inflight) = q' at ih
    have hlt : schedW q' < schedW q := by subst hq'; simp only [schedW, flightW]; omega
    rcases ih with heq | ⟨h3, h4⟩
    · rw [heq]; exact ⟨hlt, by subst hq'; nofun⟩
    · exact ⟨Nat.lt_trans h3 hlt, h4⟩
  | case3 q p ids rest hc ih => exact ih

theorem reserve_of_inflight_nil (q : Sched) (rs : List (Nat × List Nat)) (h : (reserve q rs).inflight = []) :
    reserve q rs = q :=
  (reserve_cases q rs).elim id fun h' => (h'.2 h).elim

theorem expire_peers (q : Sched) : (expire q).peers = q.peers := rfl

theorem expire_W_le (q : Sched) : schedW (expire q) ≤ schedW q :=
  Nat.add_le_add_right (flightW_filter q.inflight).1 _

theorem expire_W_lt (q : Sched) (h : ∃ x ∈ q.inflight, x.left = 0) : schedW (expire q) < schedW q :=
  Nat.add_lt_add_right ((flightW_filter q.inflight).2 h) _

theorem dropPeer_drops {s : State} {p0 : Nat} {w0 : Why} {d : Drop} (h : d ∈ (dropPeer s p0 w0).2) :
    d = (p0, w0) ∧ registered s p0 = true := by
  unfold dropPeer at h
  split at h
  · next hr => exact ⟨List.mem_singleton.mp h, hr⟩
  · cases h

/-- the end of a synchronisation drops at most its origin, and only for an error `Synchronise` answers with a drop -/
theorem abort_drops {s : State} {r : Run} {w0 : Why} {d : Drop} (h : d ∈ (abort s r w0).2) :
    d = (r.origin, w0) ∧ w0.dropsOrigin = true ∧ registered s r.origin = true := by
  unfold abort at h
  split at h
  · next hd => exact ⟨(dropPeer_drops h).1, hd, (dropPeer_drops h).2⟩
  · cases h

/-- what `queue.Deliver` has found so far, in terms of the whole pack `items` and the hashes `W` of the request -/
structure DeliverOk (p : Nat) (items : List Item) (W : List Nat) (a : DAcc) : Prop where
  want : ∀ x ∈ a.want, x ∈ W
  forged : a.forged = true → ∃ it ∈ items, it.hashOk = false ∧ it.id ∈ W
  invalid : a.invalid = true → ∃ it ∈ items, it.hashOk = true ∧ it.inWin = false ∧ it.id ∈ W
  got : ∀ b ∈ a.got, ∃ it ∈ items, it.id = b.id ∧ b.src = p ∧ b.ok = (it.valid && it.hashOk) ∧ it.id ∈ W

theorem deliverLoop_ok {p : Nat} {items : List Item} {W : List Nat} (rest : List Item) (a : DAcc)
    (hs : ∀ it ∈ rest, it ∈ items) (h : DeliverOk p items W a) : DeliverOk p items W (deliverLoop .fixed p rest a) := by
  fun_induction deliverLoop .fixed p rest a with
  | case1 a => exact h
  | case2 it rest a hi => exact h
  | case3 it rest a hi hw ih => exact ih (List.forall_mem_cons.mp hs).2 ⟨h.want, h.forged, h.invalid, h.got⟩
  | case4 it rest a hi hw hh ih =>
    obtain ⟨hit, hs⟩ := List.forall_mem_cons.mp hs
    exact ih hs ⟨h.want, fun _ => ⟨it, hit, by simpa [Cfg.fixed] using hh, h.want _ (by simpa using hw)⟩, h.invalid, h.got⟩
  | case5 it rest a hi hw hh hwin =>
    exact ⟨h.want, h.forged, fun _ => ⟨it, hs it List.mem_cons_self, by simpa [Cfg.fixed] using hh, by simpa using hwin,
      h.want _ (by simpa using hw)⟩, h.got⟩
  | case6 it rest a hi hw hh hwin ih =>
    obtain ⟨hit, hs⟩ := List.forall_mem_cons.mp hs
    exact ih hs ⟨fun x hx => h.want x (List.mem_of_mem_erase hx), h.forged, h.invalid,
      List.forall_mem_cons.mpr ⟨⟨it, hit, rfl, rfl, rfl, h.want _ (by simpa using hw)⟩, h.got⟩⟩

theorem deliverLoop_spec (p : Nat) (items : List Item) (ids : List Nat) :
    DeliverOk p items ids (deliverLoop .fixed p items ⟨ids, [], 0, false, false⟩) :=
  deliverLoop_ok items _ (fun _ => id) ⟨fun _ => id, nofun, nofun, nofun⟩

theorem takeBlocks_mem (c : List Blk) (off n : Nat) : ∀ b ∈ takeBlocks c off n, b ∈ c := by
  fun_induction takeBlocks c off n with
  | case1 => nofun
  | case2 => nofun
  | case3 off n x hx ih => exact List.forall_mem_cons.mpr ⟨List.mem_of_find?_eq_some hx, ih⟩

theorem firstBad_eq (l : List Blk) : firstBad l = l.findIdx? (!·.ok) := by
  induction l with
  | nil => rfl
  | cons a t ih => rw [firstBad, List.findIdx?_cons, ih]; cases a.ok <;> rfl

theorem firstBad_spec (l : List Blk) (i : Nat) (h : firstBad l = some i) :
    ∃ b, (l.drop i).head? = some b ∧ b.ok = false ∧ b ∈ l := by
  obtain ⟨hi, hp, _⟩ := List.findIdx?_eq_some_iff_getElem.mp (firstBad_eq l ▸ h)
  exact ⟨l[i], by rw [List.head?_drop, List.getElem?_eq_getElem hi], by simpa using hp, List.getElem_mem hi⟩

theorem noPeers_no_drop : Why.dropsOrigin .noPeers = false := by decide +kernel

@[simp] theorem setRun_cache (s : State) (r : Run) : (setRun s r).cache = s.cache := by
  unfold setRun; split <;> rfl

theorem foldl_cacheInsert_mem (got c : List Blk) : ∀ b ∈ got.foldl cacheInsert c, b ∈ c ∨ b ∈ got :=
  List.foldlRecOn got cacheInsert (motive := fun acc => ∀ b ∈ acc, b ∈ c ∨ b ∈ got) (fun _ => .inl) fun _ ih _ ha b hb =>
    (List.mem_cons.mp hb).elim (· ▸ .inr ha) fun h => ih b (List.mem_filter.mp h).1

/-- `Synchronise` in the code as it is: refused (busy, or blocks waiting for import), or everything but the peer set and the
    height starts afresh — with the head probe sent if the peer is known -/
theorem onSync_out (s : State) (p head : Nat) :
    onSync .fixed s p head = (s, []) ∨
    ∃ R, (R = none ∨ R = some ⟨p, head, .probe, some hashTTL, .off⟩) ∧
      onSync .fixed s p head =
        ({ peers := s.peers.map fun x => { x with idle := true }, run := R, head := max s.head head }, []) := by
  fun_cases onSync .fixed s p head
  · exact .inl rfl
  · exact .inl rfl
  · next hn _ _ _ _ _ => exact .inr ⟨s.run, .inl (Option.not_isSome_iff_eq_none.mp hn), rfl⟩
  · exact .inr ⟨_, .inr rfl, rfl⟩
  · -- the channels were drained: nothing is left on hashCh
    next x => exact nomatch (show none = some _ from x)

/-- The three ways an event ends, each with what every theorem about the step needs of it: `noDrop` — nobody is dropped, the
    invariant is kept, the cache gains only what was delivered; `abort` — the synchronisation ends, and if the error is one
    `Synchronise` answers with a drop the origin is to blame; `drop` — a peer is dropped for a fault of its own. -/
inductive Out (s : State) (e : Event) : State × List Drop → Prop where
  | noDrop {s' : State} : (Inv s → Inv s') → (∀ b ∈ s'.cache, b ∈ s.cache ∨ Delivered s e b) → Out s e (s', [])
  | abort {s₀ : State} (r : Run) (w : Why) : (∀ p, registered s₀ p = true → registered s p = true) →
      (w.dropsOrigin = true → Blame s e r.origin w) → Out s e (abort s₀ r w)
  | drop {s' : State} (p : Nat) (w : Why) : (Inv s → Inv s') → (∀ b ∈ s'.cache, b ∈ s.cache ∨ Delivered s e b) →
      (registered s' p = true → registered s p = true) → Blame s e p w → Out s e (dropPeer s' p w)

/-- nothing the theorems look at has changed -/
theorem Out.same {s s' : State} {e : Event} (h1 : s'.run = s.run) (h2 : s'.processCh = s.processCh)
    (h3 : s'.inflight = s.inflight) (h4 : s'.cache = s.cache) : Out s e (s', []) :=
  .noDrop (fun h => inv_congr h h1 h2 (h3 ▸ fun _ => id)) (h4 ▸ fun _ => .inl)

/-- findAncestor has its answer: it asks for the next hash of the binary search, or hands over to fetchHashes -/
theorem ancestor_next {s : State} {r : Run} {e : Event} (hr : s.run = some r)
    (hp : r.hf = .probe ∨ ∃ lo hi, r.hf = .search lo hi) (c : Prop) [Decidable c] (lo hi frm : Nat) :
    Out s e (if c then ({ s with run := some { r with hf := .search lo hi, timer := some hashTTL } }, [])
      else (startFetch s r frm, [])) := by
  have hb := fun (h : Inv s) => (h.run r hr).off.mpr hp
  split
  · exact .noDrop (fun h => inv_mk rfl ((h.run r hr).search (hb h) lo hi) h.left) fun _ => .inl
  · exact .noDrop (fun h => inv_mk rfl ((h.run r hr).startFetch (hb h)) h.left) fun _ => .inl

theorem onProbe_out {s : State} {r : Run} (hr : s.run = some r) (hp : r.hf = .probe) (p : Nat) (pk : HashPack) :
    Out s (.hashes p pk) (onProbe s r p pk) := by
  unfold onProbe
  split
  · exact .same rfl rfl rfl rfl
  · next hne =>
    cases Decidable.of_not_not hne
    split
    · next hids => exact .abort r _ (fun _ => id) fun _ => ⟨⟨r, hr, rfl⟩, pk, rfl, hids⟩
    · exact ancestor_next hr (.inl hp) _ _ _ _

theorem onSearch_out {s : State} {r : Run} (hr : s.run = some r) {lo hi : Nat} (hp : r.hf = .search lo hi) (p : Nat)
    (pk : HashPack) : Out s (.hashes p pk) (onSearch s r lo hi p pk) := by
  have bad : Out s (.hashes r.origin pk) (abort s r .badPeer) := .abort r _ (fun _ => id) fun _ => ⟨⟨r, hr, rfl⟩, pk, rfl⟩
  unfold onSearch
  split
  · exact .same rfl rfl rfl rfl
  · next hne =>
    cases Decidable.of_not_not hne
    split
    · exact bad
    · split
      · exact bad
      · exact ancestor_next hr (.inr ⟨lo, hi, hp⟩) _ _ _ _

theorem onFetch_out {s : State} {r : Run} (hr : s.run = some r) (hp : r.hf = .fetch) (p : Nat) (pk : HashPack) :
    Out s (.hashes p pk) (onFetch .fixed s r p pk) := by
  unfold onFetch
  simp only [Cfg.fixed, if_true]
  split
  · exact .same hr.symm rfl rfl rfl
  · next hne =>
    cases Decidable.of_not_not hne
    split
    · split
      · exact .noDrop (fun h => inv_setRun (fun _ => (h.run r hr).lastPack hp) h.left) (by rw [setRun_cache]; exact fun _ => .inl)
      · next hpc => exact .noDrop (fun h => inv_mk rfl ((h.run r hr).block hp (by rw [hpc]; rfl)) h.left) fun _ => .inl
    · split
      · exact .abort _ _ (fun _ => id) fun _ => ⟨⟨r, hr, rfl⟩, pk, rfl⟩
      · split
        · exact .noDrop (fun h => inv_mk rfl ((h.run r hr).rearm hp nofun) h.left) fun _ => .inl
        · exact .noDrop (fun h => inv_mk rfl ((h.run r hr).rearm hp ((h.run r hr).of_fetch hp).2) h.left) fun _ => .inl

theorem onHashes_out (s : State) (p : Nat) (pk : HashPack) : Out s (.hashes p pk) (onHashes .fixed s p pk) := by
  unfold onHashes
  split
  · exact .same rfl rfl rfl rfl
  · next r hr =>
    split
    · next hp => exact onProbe_out hr hp p pk
    · next hp => exact onSearch_out hr hp p pk
    · next hp => exact onFetch_out hr hp p pk
    · split <;> exact .same rfl rfl rfl rfl

/-- what `Deliver` files in the cache was delivered by this pack -/
theorem got_delivered {s : State} {p : Nat} {items : List Item} {q : Req} (hq : q ∈ s.inflight) (hp : q.peer = p) :
    ∀ b ∈ (deliverLoop .fixed p items ⟨q.ids, [], 0, false, false⟩).got.foldl cacheInsert s.cache,
      b ∈ s.cache ∨ Delivered s (.blocks p items) b := by
  intro b hb
  refine (foldl_cacheInsert_mem _ _ b hb).imp_right fun h => ?_
  obtain ⟨it, hit, h1, rfl, h3, h4⟩ := (deliverLoop_spec p items q.ids).got b h
  exact ⟨items, rfl, it, hit, h1, h3, q, hq, hp, h4⟩

theorem onBlocksRun_out {s : State} {r : Run} (hr : s.run = some r) (p : Nat) (items : List Item) :
    Out s (.blocks p items) (onBlocksRun .fixed s r p items) := by
  have hsub : ∀ q ∈ s.inflight.filter (·.peer != p), q ∈ s.inflight := fun _ hq => (List.mem_filter.mp hq).1
  unfold onBlocksRun
  split
  · exact .same rfl rfl rfl rfl
  · next q hq =>
    have hq1 := List.mem_of_find?_eq_some hq
    have hq2 : q.peer = p := by simpa using List.find?_some hq
    have spec := deliverLoop_spec p items q.ids
    simp only
    split
    · next hinv =>
      obtain ⟨it, hit, h1, h2, h3⟩ := spec.invalid hinv
      exact .abort r _ (fun _ => id) fun _ => ⟨⟨r, hr, rfl⟩, p, items, rfl, it, hit, h1, h2, q, hq1, hq2, h3⟩
    · split
      · next hf =>
        obtain ⟨it, hit, h1, h2⟩ := spec.forged hf
        exact .drop p _ (fun h => inv_congr h rfl rfl hsub) (got_delivered hq1 hq2) id ⟨items, rfl, it, hit, h1, q, hq1, hq2, h2⟩
      · split <;> exact .noDrop (fun h => inv_congr h rfl rfl hsub) (got_delivered hq1 hq2)

theorem onBlocks_out (s : State) (p : Nat) (items : List Item) : Out s (.blocks p items) (onBlocks .fixed s p items) := by
  unfold onBlocks
  split
  · exact .same rfl rfl rfl rfl
  · next r hr =>
    split
    · exact .same rfl rfl rfl rfl
    · split
      · exact onBlocksRun_out hr p items
      · exact .same rfl rfl rfl rfl
    · split <;> exact .same rfl rfl rfl rfl

theorem onTick_out (s : State) : Out s .tick (onTick s) := by
  have hl : Inv s → ∀ q ∈ s.inflight.map dec, q.left ≤ blockTTL :=
    fun h => List.forall_mem_map.mpr fun a ha => Nat.le_trans (Nat.sub_le ..) (h.left a ha)
  unfold onTick
  simp only
  split
  · next hr => exact .noDrop (fun h => inv_norun hr (hl h)) fun _ => .inl
  · next r hr =>
    split
    · exact .noDrop (fun h => inv_mk hr (h.run r hr) (hl h)) fun _ => .inl
    · next t ht =>
      split
      · next hle => exact .abort r _ (fun _ => id) fun _ => ⟨⟨r, hr, rfl⟩, rfl, r, t, hr, ht, hle⟩
      · next h1 => exact .noDrop (fun h => inv_mk rfl ((h.run r hr).tick ht h1) (hl h)) fun _ => .inl

theorem isIdle_le_anyIdle (s : State) (p : Nat) (h : anyIdle s.sched = false) : isIdle s p = false :=
  List.any_eq_false.mpr fun x hx => by
    have := List.any_eq_false.mp h x hx
    simp_all

theorem onUpdate_out (s : State) (rs : List (Nat × List Nat)) : Out s (.update rs) (onUpdate s rs) := by
  unfold onUpdate
  split
  · exact .same rfl rfl rfl rfl
  · next r hr =>
    split
    · next fin hb =>
      have ok := fun (h : Inv s) => (h.run r hr).takeProcess hb
      have hle : Inv s → ∀ x ∈ (expire s.sched).inflight, x.left ≤ blockTTL :=
        fun h x hx => h.left x (List.mem_filter.mp hx).1
      simp only
      split
      · exact .abort _ _ (fun _ => id) fun hd => nomatch noPeers_no_drop.symm.trans hd
      · split
        · split
          · next hfin =>
            refine .noDrop (fun h => inv_setRun (fun hn => ?_) (hle h)) (by rw [setRun_cache]; exact fun _ => .inl)
            exact (hn ⟨(ok h).fin (congrArg BF.run (Bool.and_eq_true_iff.mp hfin).2), rfl⟩).elim
          · exact .noDrop (fun h => inv_mk rfl (ok h) (hle h)) fun _ => .inl
        · split
          · next hc =>
            -- nothing is in flight, so nothing was handed out, and still nobody is idle
            obtain ⟨hnil, hidle⟩ := Bool.and_eq_true_iff.mp hc
            rw [reserve_of_inflight_nil _ _ (List.isEmpty_iff.mp hnil)] at hidle ⊢
            exact .abort _ _ (fun _ => id) fun _ =>
              ⟨⟨r, hr, rfl⟩, ⟨rs, rfl⟩, isIdle_le_anyIdle s _ ((Bool.not_eq_true' _).mp hidle)⟩
          · refine .noDrop (fun h => inv_mk rfl (ok h) fun x hx => ?_) fun _ => .inl
            exact (reserve_inflight _ _ x hx).elim (hle h x) Nat.le_of_eq
    · exact .same rfl rfl rfl rfl

theorem onImp_out (s : State) : Out s .imp (onImp s) := by
  unfold onImp
  simp only
  split
  · exact .same rfl rfl rfl rfl
  · split
    · exact .noDrop (fun h => inv_congr h rfl rfl fun _ => id) fun b hb => .inl (List.mem_filter.mp hb).1
    · next i hi =>
      obtain ⟨b, hb1, hb2, hb3⟩ := firstBad_spec _ _ hi
      simp only [hb1, Option.map_some]
      exact .drop _ _ (fun _ => inv_norun rfl nofun) nofun id ⟨rfl, b, takeBlocks_mem _ _ _ b hb3, rfl, hb2⟩

theorem step_out (s : State) (e : Event) : Out s e (step .fixed s e) := by
  cases e with
  | register p => simp only [step]; split <;> exact .same rfl rfl rfl rfl
  | unregister p => exact .same rfl rfl rfl rfl
  | sync p head =>
    change Out s _ (onSync .fixed s p head)
    rcases onSync_out s p head with heq | ⟨R, hR, heq⟩ <;> rw [heq]
    · exact .same rfl rfl rfl rfl
    · rcases hR with rfl | rfl
      · exact .noDrop (fun _ => inv_norun rfl nofun) nofun
      · exact .noDrop (fun _ => inv_mk rfl (.start p head) nofun) nofun
  | hashes p pk => exact onHashes_out s p pk
  | blocks p items => exact onBlocks_out s p items
  | tick => exact onTick_out s
  | update rs => exact onUpdate_out s rs
  | requeue p => exact .noDrop (fun h => inv_congr h rfl rfl fun _ hq => (List.mem_filter.mp hq).1) fun _ => .inl
  | imp => exact onImp_out s
  | cancel => exact .noDrop (fun _ => inv_norun rfl nofun) nofun

theorem inv_step {s : State} (h : Inv s) (e : Event) : Inv (step .fixed s e).1 := by
  have ho := step_out s e
  generalize step .fixed s e = out at ho
  cases ho with
  | noDrop hi => exact hi h
  | abort => exact inv_norun (abort_run ..) (by rw [abort_inflight]; nofun)
  | drop p w hi => exact inv_congr (hi h) (dropPeer_run ..) (dropPeer_processCh ..) (by rw [dropPeer_inflight]; exact fun _ => id)

theorem inv_init : Inv {} := inv_norun rfl nofun

theorem inv_reach {s : State} (h : Reach .fixed s) : Inv s := by
  induction h with
  | init k => exact inv_norun rfl nofun
  | step e _ ih => exact inv_step ih e

theorem exec_append (cfg : Cfg) (s : State) (a b : List Event) :
    exec cfg s (a ++ b) = ((exec cfg (exec cfg s a).1 b).1, (exec cfg s a).2 ++ (exec cfg (exec cfg s a).1 b).2) := by
  induction a generalizing s with
  | nil => rfl
  | cons e a ih => simp only [List.cons_append, exec, ih, List.append_assoc]

theorem blame_step (s : State) (e : Event) (p : Nat) (w : Why) (h : (p, w) ∈ (step .fixed s e).2) :
    Blame s e p w ∧ registered s p = true := by
  have ho := step_out s e
  generalize step .fixed s e = out at ho h
  cases ho with
  | noDrop => cases h
  | abort r w' hreg hb =>
    obtain ⟨hd, hdo, hr⟩ := abort_drops h
    cases hd
    exact ⟨hb hdo, hreg _ hr⟩
  | drop p' w' _ _ hreg hb =>
    obtain ⟨hd, hr⟩ := dropPeer_drops h
    cases hd
    exact ⟨hb, hreg hr⟩

theorem cache_step (s : State) (e : Event) : ∀ b ∈ (step .fixed s e).1.cache, b ∈ s.cache ∨ Delivered s e b := by
  intro b hb
  have ho := step_out s e
  generalize step .fixed s e = out at ho hb
  cases ho with
  | noDrop _ hc => exact hc b hb
  | abort => rw [abort_cache] at hb; cases hb
  | drop p w _ hc => rw [dropPeer_cache] at hb; exact hc b hb

theorem phaseW_take_le (pc : Option Bool) (r : Run) (fin : Bool) (hb : r.bf = .run fin) :
    phaseW { r with hf := (takeProcess pc r.hf fin).2.1, bf := .run (takeProcess pc r.hf fin).2.2 } ≤ phaseW r := by
  -- `takeProcess` moves the hash fetcher only from blocked to done (2 → 1 or 0) and `finished` only from false to true
  -- (1 → 0); evaluated over the five phases and the two flags
  unfold takeProcess
  cases pc with
  | none => simp [phaseW, hb]
  | some c =>
    cases hh : r.hf <;> cases c <;> cases fin <;> simp [phaseW, hb, hh]

theorem phaseW_take_lt (pc : Option Bool) (r : Run) (fin : Bool) (hb : r.bf = .run fin) (ok : RunOk pc r)
    (hp : r.hf = .blocked ∨ (r.hf = .done ∧ fin = false)) :
    phaseW { r with hf := (takeProcess pc r.hf fin).2.1, bf := .run (takeProcess pc r.hf fin).2.2 } < phaseW r := by
  unfold takeProcess
  rcases hp with hp | ⟨hp, hf⟩
  · have := ok.full hp
    cases pc with
    | none => cases this
    | some c => cases c <;> cases fin <;> simp [phaseW, hb, hp]
  · subst hf
    have := ok.transit hp hb
    subst this
    simp [phaseW, hp, hb]

theorem measure_run {s : State} {r : Run} (h : s.run = some r) :
    measure s = 1 + r.timer.getD 0 + schedW s.sched + phaseW r := by
  simp only [measure, h, schedW, State.sched]; omega

theorem measure_none {s : State} (h : s.run = none) : measure s = 0 := by simp only [measure, h]

theorem measure_pos {s : State} {r : Run} (h : s.run = some r) : 1 ≤ measure s := by
  rw [measure_run h]; omega

theorem measure_mono {u u' : State} {r r' : Run} (hr : u.run = some r) (hr' : u'.run = some r')
    (ht : r'.timer.getD 0 ≤ r.timer.getD 0) (hp : phaseW r' ≤ phaseW r) (hs : schedW u'.sched ≤ schedW u.sched) :
    measure u' ≤ measure u ∧
    ((r'.timer.getD 0 < r.timer.getD 0 ∨ phaseW r' < phaseW r ∨ schedW u'.sched < schedW u.sched) →
      measure u' < measure u) := by
  rw [measure_run hr, measure_run hr']; omega

theorem takeProcess_fin_true (pc : Option Bool) (hf : HF) : (takeProcess pc hf true).2.2 = true := by
  fun_cases takeProcess pc hf true <;> rfl

theorem update_measure {u : State} {r : Run} (h : Inv u) (hr : u.run = some r) (rs : List (Nat × List Nat)) :
    (onUpdate u rs).1.run = none ∨
    (measure (onUpdate u rs).1 ≤ measure u ∧
      (r.timer = none → MaximalAt u rs → (u.inflight = [] ∨ ∃ x ∈ u.inflight, x.left = 0) →
        measure (onUpdate u rs).1 < measure u)) := by
  have ok := h.run r hr
  have armed : r.timer = none → r.hf.waiting = true → False := fun ht hw => nomatch ht ▸ ok.armed hw
  unfold onUpdate
  simp only [hr]
  cases hb : r.bf with
  | off =>
    refine .inr ⟨Nat.le_refl _, fun ht _ => (armed ht ?_).elim⟩
    rcases ok.off.mp hb with h1 | ⟨lo, hi, h1⟩ <;> rw [h1] <;> rfl
  | done => exact absurd hb ok.notDone
  | run fin =>
    simp only
    have ok' := ok.takeProcess hb
    have ple := phaseW_take_le u.processCh r fin hb
    have e1 := expire_W_le u.sched
    -- with no time-out armed the hash fetcher is through: the phase moves on unless the block fetcher already knows
    have prog : r.timer = none →
        phaseW { r with hf := (takeProcess u.processCh r.hf fin).2.1, bf := .run (takeProcess u.processCh r.hf fin).2.2 }
          < phaseW r ∨ fin = true := by
      intro ht
      have hw : r.hf = .blocked ∨ r.hf = .done ∨ r.hf.waiting = true := by cases r.hf <;> simp [HF.waiting]
      rcases hw with hh | hh | hh
      · exact .inl (phaseW_take_lt _ r fin hb ok (.inl hh))
      · cases fin with
        | false => exact .inl (phaseW_take_lt _ r _ hb ok (.inr ⟨hh, rfl⟩))
        | true => exact .inr rfl
      · exact (armed ht hh).elim
    split
    · exact .inl (abort_run ..)
    · split
      · split
        · next hfin =>
          left
          have hd := ok'.fin (congrArg BF.run (Bool.and_eq_true_iff.mp hfin).2)
          unfold setRun
          rw [if_pos ⟨hd, rfl⟩]
        · next hfin =>
          refine .inr (And.imp_right (fun lt ht _ hp => lt ?_) (measure_mono hr rfl (Nat.le_refl _) ple e1))
          rcases prog ht with a | rfl
          · exact .inr (.inl a)
          · rcases hp with hnil | hz
            · exact (hfin (by simp [takeProcess_fin_true, expire, State.sched, hnil])).elim
            · exact .inr (.inr (expire_W_lt u.sched hz))
      · next hpend =>
        split
        · exact .inl (abort_run ..)
        · next hab =>
          have rc := reserve_cases (expire u.sched) rs
          have e2 : schedW (reserve (expire u.sched) rs) ≤ schedW (expire u.sched) :=
            rc.elim (fun heq => Nat.le_of_eq (congrArg schedW heq)) fun h' => Nat.le_of_lt h'.1
          have e3 := Nat.le_trans e2 e1
          refine .inr (And.imp_right (fun lt ht hm hp => lt ?_) (measure_mono hr rfl (Nat.le_refl _) ple e3))
          rcases prog ht with a | rfl
          · exact .inr (.inl a)
          · rcases hp with hnil | hz
            · rcases rc with heq | ⟨hlt, _⟩
              · -- nothing in flight, nothing handed out although hashes are pending: then nobody is idle, and the
                -- update would have given up
                refine (hab ?_).elim
                unfold MaximalAt at hm
                change ((reserve (expire u.sched) rs).inflight.isEmpty && !anyIdle (reserve (expire u.sched) rs)) = true
                rw [heq] at hm ⊢
                rcases hm with hm | hm
                · exact (hpend (by change (expire u.sched).pending.isEmpty = true; rw [hm]; rfl)).elim
                · have hq : (expire u.sched).inflight = [] := by simp [expire, State.sched, hnil]
                  rw [hq, hm]; rfl
              · exact .inr (.inr (Nat.lt_of_lt_of_le hlt e1))
            · exact .inr (.inr (Nat.lt_of_le_of_lt e2 (expire_W_lt u.sched hz)))

theorem tick_measure {s : State} {r : Run} (hr : s.run = some r) :
    (onTick s).1.run = none ∨
    (measure (onTick s).1 ≤ measure s ∧ (r.timer ≠ none → measure (onTick s).1 < measure s) ∧
      ((∃ x ∈ s.inflight, x.left ≠ 0) → measure (onTick s).1 < measure s) ∧
      (onTick s).1.inflight = s.inflight.map dec ∧
      ∃ r1, (onTick s).1.run = some r1 ∧ (r.timer = none → r1.timer = none)) := by
  unfold onTick
  simp only [hr]
  have d1 : schedW (⟨s.peers, s.pending, s.inflight.map dec⟩ : Sched) ≤ schedW s.sched :=
    Nat.add_le_add_right (flightW_dec s.inflight).1 _
  cases ht : r.timer with
  | none =>
    simp only
    have m := measure_mono hr (u' := { s with inflight := s.inflight.map dec, run := some r }) rfl (Nat.le_refl _) (Nat.le_refl _) d1
    exact .inr ⟨m.1, fun h => (h rfl).elim, fun hx => m.2 (.inr (.inr (Nat.add_lt_add_right ((flightW_dec s.inflight).2 hx) _))), rfl, r, rfl, fun _ => ht⟩
  | some t =>
    simp only
    split
    · exact .inl (abort_run ..)
    · next hlt =>
      have htl : (some (t - 1)).getD 0 < r.timer.getD 0 := by rw [ht]; exact Nat.sub_one_lt (by omega)
      have hlt := (measure_mono hr (u' := { s with inflight := s.inflight.map dec, run := some { r with timer := some (t - 1) } })
        rfl (Nat.le_of_lt htl) (Nat.le_refl _) d1).2 (.inl htl)
      exact .inr ⟨Nat.le_of_lt hlt, fun _ => hlt, fun _ => hlt, rfl, _, rfl, nofun⟩

theorem quiet_measure {s : State} (h : Inv s) (rs : List (Nat × List Nat)) (hm : MaximalAt (step .fixed s .tick).1 rs)
    (hrun : s.run ≠ none) : measure (quiet s rs) < measure s := by
  cases hr : s.run with
  | none => exact absurd hr hrun
  | some r =>
    have hpos := measure_pos hr
    change measure (onUpdate (onTick s).1 rs).1 < measure s
    change MaximalAt (onTick s).1 rs at hm
    rcases tick_measure hr with h1 | ⟨t1, t2, t3, t4, r1, hr1, t5⟩
    · have : (onUpdate (onTick s).1 rs).1 = (onTick s).1 := by unfold onUpdate; rw [h1]
      rw [this, measure_none h1]; exact hpos
    · rcases update_measure (u := (onTick s).1) (inv_step h .tick) hr1 rs with h2 | ⟨u1, u2⟩
      · rw [measure_none h2]; exact hpos
      · cases ht : r.timer with
        | some t => exact Nat.lt_of_le_of_lt u1 (t2 (by rw [ht]; nofun))
        | none =>
          -- a request in flight either has time left, which the tick takes, or has none, and the update expires it
          cases hl : s.inflight with
          | nil => exact Nat.lt_of_lt_of_le (u2 (t5 ht) hm (.inl (by rw [t4, hl]; rfl))) t1
          | cons x rest =>
            have hx : x ∈ s.inflight := by rw [hl]; exact List.mem_cons_self
            by_cases h0 : x.left = 0
            · exact Nat.lt_of_lt_of_le
                (u2 (t5 ht) hm (.inr ⟨dec x, by rw [t4]; exact List.mem_map_of_mem hx, by simp only [dec, h0]⟩)) t1
            · exact Nat.lt_of_le_of_lt u1 (t3 ⟨x, hx, h0⟩)

theorem silentRun_none {s : State} (h : s.run = none) (cs : List (List (Nat × List Nat))) : (silentRun s cs).run = none := by
  induction cs generalizing s with
  | nil => exact h
  | cons c cs ih => exact ih (by simp [quiet, step, onTick, onUpdate, h])

theorem silent_terminates {s : State} (h : Inv s) (cs : List (List (Nat × List Nat))) (hm : MaximalRun s cs)
    (hn : measure s ≤ cs.length) : (silentRun s cs).run = none := by
  induction cs generalizing s with
  | nil =>
    cases hr : s.run with
    | none => exact hr
    | some r => exact absurd (Nat.le_trans (measure_pos hr) hn) (by decide)
  | cons c cs ih =>
    cases hr : s.run with
    | none => exact silentRun_none hr _
    | some r =>
      have hlt := quiet_measure h c hm.1 (by rw [hr]; nofun)
      exact ih (inv_step (inv_step h .tick) (.update c)) hm.2 (by rw [List.length_cons] at hn; omega)

theorem flightW_le (l : List Req) (h : ∀ q ∈ l, q.left ≤ blockTTL) : flightW l ≤ l.length * (blockTTL + 2) := by
  induction l with
  | nil => exact Nat.le_refl _
  | cons a t ih =>
    have := ih fun q hq => h q (List.mem_cons_of_mem _ hq)
    have := h a List.mem_cons_self
    simp only [flightW, List.length_cons, Nat.add_mul]; omega

theorem idleCount_le (ps : List Peer) : idleCount ps ≤ ps.length := by
  induction ps with
  | nil => exact Nat.le_refl _
  | cons a t ih => simp only [idleCount, List.length_cons]; split <;> omega

theorem measure_bound {s : State} (h : Inv s) :
    measure s ≤ hashTTL + 3 + (s.inflight.length + s.peers.length) * (blockTTL + 2) := by
  cases hr : s.run with
  | none => rw [measure_none hr]; omega
  | some r =>
    rw [measure_run hr]
    have f := flightW_le s.inflight h.left
    have i := Nat.mul_le_mul_right (blockTTL + 2) (idleCount_le s.peers)
    have t : r.timer.getD 0 ≤ hashTTL := by
      cases ht : r.timer with
      | none => exact Nat.zero_le _
      | some t => exact ((h.run r hr).range t ht).2
    have p : phaseW r ≤ 2 := by unfold phaseW; split <;> omega
    simp only [schedW, State.sched, Nat.add_mul]; omega

end ZV.Dl
