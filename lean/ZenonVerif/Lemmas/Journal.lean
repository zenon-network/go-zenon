import ZenonVerif.Model.Journal
/-
C08 — lemmas about the journal format: the reader against a well-formed layout (byte level), the chunk-level reader
against the chunks of records, and the layout the writer produces.
-/
namespace ZV.Journal

variable (B : Nat) (crc : Bytes → UInt32)

theorem rd32_le32 (w : UInt32) :
    rd32 (UInt8.ofNat w.toNat) (UInt8.ofNat (w.toNat / 256)) (UInt8.ofNat (w.toNat / 65536))
      (UInt8.ofNat (w.toNat / 16777216)) = w := by
  unfold rd32
  simp only [UInt8.toNat_ofNat']
  have h := w.toNat_lt
  -- the four base-256 digits of a number below 2^32
  have : w.toNat % 2 ^ 8 + 256 * (w.toNat / 256 % 2 ^ 8) + 65536 * (w.toNat / 65536 % 2 ^ 8)
      + 16777216 * (w.toNat / 16777216 % 2 ^ 8) = w.toNat := by omega
  rw [this]
  exact UInt32.ofNat_toNat

theorem rd16_le16 (n : Nat) (h : n < 65536) : rd16 (UInt8.ofNat n) (UInt8.ofNat (n / 256)) = n := by
  unfold rd16
  simp only [UInt8.toNat_ofNat']
  omega

@[simp] theorem length_encChunk (ty : UInt8) (p : Bytes) : (encChunk crc ty p).length = 7 + p.length := by
  simp [encChunk]; omega

theorem parse_short (avail : Nat) (rest : Bytes) (h : avail < 7) : parse crc avail rest = .short := by
  simp [parse, h]

theorem parse_chunk (avail : Nat) (ty : UInt8) (p t : Bytes) (hty : validTy ty = true) (hp : p.length < 65536)
    (ha : 7 + p.length ≤ avail) : parse crc avail (encChunk crc ty p ++ t) = .ok ty p := by
  have h7 : ¬ avail < 7 := by omega
  have hov : ¬ avail < 7 + p.length := by omega
  have ht : List.take p.length (p ++ t) = p := List.take_left' rfl
  simp only [parse, h7, if_false, encChunk, List.cons_append, hty, rd16_le16 _ hp, rd32_le32, ht, hov]
  simp

/-- a header whose type byte is not 1..4 (in particular a zero header) drops the rest of the block -/
theorem parse_bad_ty (avail : Nat) (rest : Bytes) (h7 : 7 ≤ avail) (ty : UInt8) (h : rest[6]? = some ty)
    (hty : validTy ty = false) : parse crc avail rest = .bad := by
  have hn : ¬ avail < 7 := by omega
  -- `parse` matches on seven conses: the lists too short to have a byte 6 go one by one
  rcases rest with _ | ⟨c0, _ | ⟨c1, _ | ⟨c2, _ | ⟨c3, _ | ⟨l0, _ | ⟨l1, _ | ⟨t, body⟩⟩⟩⟩⟩⟩⟩ <;> simp at h
  subst h
  simp [parse, hn, hty]

/-- a chunk cut at byte `n` and continued by zeros is rejected: inside the header the type byte reads 0; inside the
    payload either the length overflows what is there, or - when the zeros make up for the missing bytes - the checksum
    test has to tell (`hdet`) -/
theorem parse_torn (avail n z : Nat) (ty : UInt8) (p : Bytes) (hty : validTy ty = true) (hp : p.length < 65536)
    (hn : n < 7 + p.length) (h7 : 7 ≤ avail) (ha : avail ≤ n + z)
    (hdet : 7 ≤ n → 7 + p.length ≤ avail →
      crc (ty :: p) ≠ crc (ty :: (p.take (n - 7) ++ List.replicate (p.length - (n - 7)) 0))) :
    parse crc avail ((encChunk crc ty p).take n ++ List.replicate z 0) = .bad := by
  by_cases hn7 : n < 7
  · have hlen : ((encChunk crc ty p).take n).length = n := by rw [List.length_take, length_encChunk]; omega
    refine parse_bad_ty crc _ _ h7 0 ?_ rfl
    rw [List.getElem?_append_right (by omega), List.getElem?_replicate, if_pos (by omega)]
  · obtain ⟨m, rfl⟩ : ∃ m, n = m + 7 := ⟨n - 7, by omega⟩
    have h7' : ¬ avail < 7 := by omega
    simp only [parse, h7', if_false, encChunk, List.take_succ_cons, List.cons_append, hty, rd16_le16 _ hp, rd32_le32]
    by_cases hov : avail < 7 + p.length
    · simp [hov]
    · have htake : (p.take m ++ List.replicate z (0 : UInt8)).take p.length
          = p.take m ++ List.replicate (p.length - m) 0 := by
        rw [List.take_append, List.take_take, List.length_take, List.take_replicate,
          Nat.min_eq_right (by omega : m ≤ p.length), Nat.min_eq_left (by omega : m ≤ p.length),
          Nat.min_eq_left (by omega : p.length - m ≤ z)]
      simpa [hov, htake] using hdet (by omega) (by omega)

@[simp] theorem readAux_nil (f off : Nat) (acc : Option Record) : readAux B crc f off [] acc = [] := by
  cases f with
  | zero => rfl
  | succ f => simp [readAux, parse]

theorem readAux_short (f off : Nat) (rest : Bytes) (acc : Option Record)
    (h : parse crc (min (B - off) rest.length) rest = .short) :
    readAux B crc (f + 1) off rest acc
      = if rest.length ≤ B - off then [] else readAux B crc f 0 (rest.drop (B - off)) acc := by
  simp only [readAux, h]

theorem readAux_bad (f off : Nat) (rest : Bytes) (acc : Option Record)
    (h : parse crc (min (B - off) rest.length) rest = .bad) :
    readAux B crc (f + 1) off rest acc = readAux B crc f 0 (rest.drop (min (B - off) rest.length)) none := by
  simp only [readAux, h]

theorem readAux_ok (f off : Nat) (rest : Bytes) (acc : Option Record) (ty : UInt8) (p : Bytes)
    (h : parse crc (min (B - off) rest.length) rest = .ok ty p) :
    readAux B crc (f + 1) off rest acc
      = emit (onChunk acc ty p).1
          (readAux B crc f (adv B off (7 + p.length)) (rest.drop (7 + p.length)) (onChunk acc ty p).2) := by
  simp only [readAux, h]

/-- zeros never form a chunk -/
theorem readAux_zeros : ∀ (f off m : Nat) (acc : Option Record),
    readAux B crc f off (List.replicate m 0) acc = [] := by
  intro f
  induction f with
  | zero => intro off m acc; rfl
  | succ f ih =>
    intro off m acc
    by_cases hav : min (B - off) (List.replicate m (0 : UInt8)).length < 7
    · rw [readAux_short B crc f off _ acc (parse_short crc _ _ hav), List.drop_replicate]
      split
      · rfl
      · exact ih _ _ _
    · have hm : 6 < m := by simp only [List.length_replicate] at hav; omega
      have hpar : parse crc (min (B - off) (List.replicate m (0 : UInt8)).length) (List.replicate m 0) = .bad :=
        parse_bad_ty crc _ _ (by omega) 0 (by rw [List.getElem?_replicate, if_pos hm]) rfl
      rw [readAux_bad B crc f off _ acc hpar, List.drop_replicate]
      exact ih _ _ _

theorem readAux_pad (f off : Nat) (pad rest : Bytes) (acc : Option Record) (hk : pad.length = B - off)
    (h7 : B - off < 7) : readAux B crc (f + 1) off (pad ++ rest) acc = readAux B crc f 0 rest acc := by
  have hav : min (B - off) (pad ++ rest).length < 7 := Nat.lt_of_le_of_lt (Nat.min_le_left _ _) h7
  rw [readAux_short B crc f off _ acc (parse_short crc _ _ hav), List.drop_left' hk]
  split
  · next hT =>
    have : rest = [] := List.eq_nil_of_length_eq_zero (by rw [List.length_append] at hT; omega)
    rw [this, readAux_nil]
  · rfl

theorem readAux_chunk (f off : Nat) (ty : UInt8) (p rest : Bytes) (acc : Option Record) (hp : p.length < 65536)
    (hfit : off + 7 + p.length ≤ B) (hty : validTy ty = true) :
    readAux B crc (f + 1) off (encChunk crc ty p ++ rest) acc
      = emit (onChunk acc ty p).1 (readAux B crc f (adv B off (7 + p.length)) rest (onChunk acc ty p).2) := by
  have hpar := parse_chunk crc (min (B - off) (encChunk crc ty p ++ rest).length) ty p rest hty hp
    (by rw [List.length_append, length_encChunk]; omega)
  rw [readAux_ok B crc f off _ acc ty p hpar, List.drop_left' (length_encChunk crc ty p)]

theorem readAux_torn (f off n z : Nat) (acc : Option Record) (ty : UInt8) (p : Bytes) (hp : p.length < 65536)
    (hfit : off + 7 + p.length ≤ B) (hty : validTy ty = true) (hn : n < 7 + p.length)
    (hdet : 7 ≤ n → 7 + p.length ≤ n + z →
      crc (ty :: p) ≠ crc (ty :: (p.take (n - 7) ++ List.replicate (p.length - (n - 7)) 0))) :
    readAux B crc (f + 1) off ((encChunk crc ty p).take n ++ List.replicate z 0) acc = [] := by
  have hroom : 7 + p.length ≤ B - off := by omega
  have hlen : ((encChunk crc ty p).take n).length = n := by
    rw [List.length_take, length_encChunk]; exact Nat.min_eq_left (Nat.le_of_lt hn)
  have hD : ((encChunk crc ty p).take n ++ List.replicate z (0 : UInt8)).length = n + z := by
    rw [List.length_append, hlen, List.length_replicate]
  by_cases hav : n + z < 7
  · have hle : n + z ≤ B - off := by omega
    rw [readAux_short B crc f off _ acc (parse_short crc _ _ (by rw [hD, Nat.min_eq_right hle]; exact hav)),
      if_pos (by rw [hD]; exact hle)]
  · have hpar := parse_torn crc (min (B - off) (n + z)) n z ty p hty hp hn
      (Nat.le_min.2 ⟨by omega, by omega⟩) (Nat.min_le_right _ _)
      (fun a b => hdet a (Nat.le_trans b (Nat.min_le_right _ _)))
    rw [← hD] at hpar
    rw [readAux_bad B crc f off _ acc hpar, List.drop_append,
      List.drop_of_length_le (by rw [hlen, hD]; exact Nat.le_min.2 ⟨by omega, Nat.le_add_right _ _⟩),
      List.nil_append, List.drop_replicate]
    exact readAux_zeros B crc _ _ _ _

theorem take_append_tail {α : Type} (a b t : List α) (n : Nat) (h : a.length ≤ n) :
    (a ++ b).take n ++ t = a ++ (b.take (n - a.length) ++ t) := by
  rw [List.take_append, List.take_of_length_le h, List.append_assoc]

/-- Byte level = chunk level, with `z` zeros behind the cut: on the first `n` bytes of a well-formed layout the reader
    delivers what the chunk-level reader delivers on the chunks that lie completely inside these bytes. Segment by
    segment: padding is skipped, a complete chunk is handed on, and the segment the cut falls into delivers nothing -
    without zeros behind it because its length field overflows the file, with zeros by `TornDetected`. -/
theorem read_segs_tail (hB : B ≤ 65542) (ss : List Seg) (off n z fuel : Nat) (acc : Option Record)
    (hwf : WF B off ss) (hdet : z = 0 ∨ TornDetected crc n ss)
    (hf : ((encSegs crc ss).take n ++ List.replicate z 0).length < fuel) :
    readAux B crc fuel off ((encSegs crc ss).take n ++ List.replicate z 0) acc
      = recoverChunks (wholeChunks n ss) acc := by
  induction ss generalizing off n fuel acc with
  | nil =>
    simp only [encSegs, List.take_nil, List.nil_append, wholeChunks, recoverChunks]
    exact readAux_zeros B crc _ _ _ _
  | cons s ss ih =>
    obtain ⟨f, rfl⟩ : ∃ f, fuel = f + 1 := ⟨fuel - 1, by omega⟩
    cases s with
    | pad k =>
      obtain ⟨_, hlt, hk, hwf'⟩ := hwf
      simp only [encSegs, Seg.enc] at hf ⊢
      by_cases hkn : k ≤ n
      · have hD := take_append_tail (List.replicate k (0 : UInt8)) (encSegs crc ss) (List.replicate z 0) n
          (by rw [List.length_replicate]; exact hkn)
        rw [List.length_replicate] at hD
        rw [hD] at hf ⊢
        rw [List.length_append, List.length_replicate] at hf
        rw [readAux_pad B crc f off _ _ acc (by rw [List.length_replicate, hk]) hlt]
        simp only [wholeChunks, hkn, if_true]
        exact ih 0 (n - k) f acc hwf' (hdet.imp id (by simp only [TornDetected, hkn, if_true]; exact id))
          (by omega)
      · have hD : (List.replicate k (0 : UInt8) ++ encSegs crc ss).take n ++ List.replicate z 0
            = List.replicate (n + z) 0 := by
          rw [List.take_append_of_le_length (by rw [List.length_replicate]; omega), List.take_replicate,
            Nat.min_eq_left (by omega), List.replicate_append_replicate]
        rw [hD, readAux_zeros]
        simp only [wholeChunks, hkn, if_false, recoverChunks]
    | chunk c =>
      obtain ⟨hfit, hty, hwf'⟩ := hwf
      -- 65542 = 7 + 65535: a chunk inside one block has a payload that fits the 16-bit length field
      have hp : c.payload.length < 65536 := by omega
      simp only [encSegs, Seg.enc] at hf ⊢
      by_cases hcn : 7 + c.payload.length ≤ n
      · have hD := take_append_tail (encChunk crc c.ty c.payload) (encSegs crc ss) (List.replicate z 0) n
          (by rw [length_encChunk]; exact hcn)
        rw [length_encChunk] at hD
        rw [hD] at hf ⊢
        rw [List.length_append, length_encChunk] at hf
        rw [readAux_chunk B crc f off _ _ _ acc hp hfit hty]
        simp only [wholeChunks, hcn, if_true, recoverChunks]
        rw [ih _ _ f _ hwf' (hdet.imp id (by simp only [TornDetected, hcn, if_true]; exact id)) (by omega)]
      · rw [List.take_append_of_le_length (by rw [length_encChunk]; omega)]
        simp only [wholeChunks, hcn, if_false, recoverChunks]
        refine readAux_torn B crc f off n z acc c.ty c.payload hp hfit hty (by omega) (fun h7 hz => ?_)
        rcases hdet with rfl | hdet
        · omega
        · simp only [TornDetected, hcn, if_false] at hdet
          exact hdet h7

/-- Byte level = chunk level: on the first `n` bytes of a well-formed layout the reader delivers what the chunk-level
    reader delivers on the chunks that lie completely inside these bytes. -/
theorem read_segs (hB : B ≤ 65542) : ∀ (ss : List Seg) (off n fuel : Nat) (acc : Option Record),
    WF B off ss → ((encSegs crc ss).take n).length < fuel →
    readAux B crc fuel off ((encSegs crc ss).take n) acc = recoverChunks (wholeChunks n ss) acc := by
  intro ss off n fuel acc hwf hf
  have h := read_segs_tail B crc hB ss off n 0 fuel acc hwf (Or.inl rfl)
  rw [List.replicate_zero, List.append_nil] at h
  exact h hf

theorem recoverChunks_cont (ps : List Bytes) (hne : ps ≠ []) (a : Record) (cs : List Chunk) :
    recoverChunks (contChunks ps ++ cs) (some a) = (a ++ ps.flatten) :: recoverChunks cs none := by
  induction ps generalizing a with
  | nil => exact absurd rfl hne
  | cons p t ih =>
    cases t with
    | nil => simp [contChunks, recoverChunks, onChunk, emit]
    | cons q ps =>
      have h3 : ¬ ((3 : UInt8) = 1 ∨ (3 : UInt8) = 4) := by decide
      simp only [contChunks, List.cons_append, recoverChunks, onChunk, h3, if_false, emit]
      rw [ih (by simp) (a ++ p)]
      simp

theorem recoverChunks_cont_prefix (ps : List Bytes) (a : Record) (j : Nat) (h : j < (contChunks ps).length) :
    recoverChunks ((contChunks ps).take j) (some a) = [] := by
  induction ps generalizing a j with
  | nil => simp [contChunks] at h
  | cons p t ih =>
    cases j with
    | zero => simp [recoverChunks]
    | succ j =>
      cases t with
      | nil => simp [contChunks] at h
      | cons q ps =>
        have h3 : ¬ ((3 : UInt8) = 1 ∨ (3 : UInt8) = 4) := by decide
        simp only [contChunks, List.take_succ_cons, recoverChunks, onChunk, h3, if_false, emit]
        exact ih (a ++ p) j (by simpa [contChunks] using h)

theorem recoverChunks_rec (ps : List Bytes) (hne : ps ≠ []) (cs : List Chunk) :
    recoverChunks (recChunks ps ++ cs) none = ps.flatten :: recoverChunks cs none := by
  match ps, hne with
  | [p], _ => simp [recChunks, recoverChunks, onChunk, emit]
  | p :: q :: ps, _ =>
    have h2 : ¬ ((2 : UInt8) = 1) := by decide
    simp only [recChunks, List.cons_append, recoverChunks, onChunk, h2, if_false, if_true, emit]
    rw [recoverChunks_cont (q :: ps) (by simp) p cs]
    simp

theorem recoverChunks_rec_prefix (ps : List Bytes) (j : Nat) (h : j < (recChunks ps).length) :
    recoverChunks ((recChunks ps).take j) none = [] := by
  match ps, j, h with
  | [], _, h => simp [recChunks] at h
  | _ :: _, 0, _ => simp [recoverChunks]
  | [p], j + 1, h => simp [recChunks] at h
  | p :: q :: ps, j + 1, h =>
    have h2 : ¬ ((2 : UInt8) = 1) := by decide
    simp only [recChunks, List.take_succ_cons, recoverChunks, onChunk, h2, if_false, if_true, emit]
    exact recoverChunks_cont_prefix (q :: ps) p j (by simpa [recChunks] using h)

theorem segsSize_append (s1 s2 : List Seg) : segsSize (s1 ++ s2) = segsSize s1 + segsSize s2 := by
  induction s1 with
  | nil => simp [segsSize]
  | cons s t ih => simp [segsSize, ih]; omega

theorem length_encSegs (ss : List Seg) : (encSegs crc ss).length = segsSize ss := by
  induction ss with
  | nil => rfl
  | cons s t ih => cases s <;> simp [encSegs, segsSize, Seg.enc, Seg.size, ih]

theorem wholeChunks_chunks_le (cs : List Chunk) (ss : List Seg) (n : Nat) (h : segsSize (cs.map Seg.chunk) ≤ n) :
    wholeChunks n (cs.map Seg.chunk ++ ss) = cs ++ wholeChunks (n - segsSize (cs.map Seg.chunk)) ss := by
  induction cs generalizing n with
  | nil => simp [segsSize]
  | cons c t ih =>
    simp only [List.map_cons, segsSize, Seg.size] at h ⊢
    have hc : 7 + c.payload.length ≤ n := by omega
    simp only [List.cons_append, wholeChunks, hc, if_true]
    rw [ih _ (by omega)]
    simp only [Nat.sub_sub]

theorem wholeChunks_chunks_lt (cs : List Chunk) (ss : List Seg) (n : Nat) (h : n < segsSize (cs.map Seg.chunk)) :
    ∃ j, j < cs.length ∧ wholeChunks n (cs.map Seg.chunk ++ ss) = cs.take j := by
  induction cs generalizing n with
  | nil => simp [segsSize] at h
  | cons c t ih =>
    simp only [List.map_cons, segsSize, Seg.size] at h
    by_cases hc : 7 + c.payload.length ≤ n
    · obtain ⟨j, hj, he⟩ := ih (n - (7 + c.payload.length)) (by omega)
      refine ⟨j + 1, by simp; omega, ?_⟩
      simp only [List.map_cons, List.cons_append, wholeChunks, hc, if_true, he, List.take_succ_cons]
    · exact ⟨0, by simp, by simp [wholeChunks, hc]⟩

theorem contPieces_flatten (cap f : Nat) (p : Bytes) : (contPieces cap f p).flatten = p := by
  fun_induction contPieces cap f p <;> simp [*]

theorem contPieces_ne_nil (cap f : Nat) (p : Bytes) : contPieces cap f p ≠ [] := by
  fun_cases contPieces cap f p <;> simp

theorem pieces_flatten (off : Nat) (r : Record) : (pieces B off r).flatten = r := by
  unfold pieces; split <;> simp [contPieces_flatten]

theorem pieces_ne_nil (off : Nat) (r : Record) : pieces B off r ≠ [] := by
  unfold pieces; split <;> simp

theorem recChunks_length_pos (ps : List Bytes) (h : ps ≠ []) : 0 < (recChunks ps).length := by
  match ps, h with
  | [p], _ => simp [recChunks]
  | p :: q :: ps, _ => simp [recChunks]

theorem recover_recSegs_le (off n : Nat) (r : Record) (ss : List Seg) (h : segsSize (recSegs B off r) ≤ n) :
    recoverChunks (wholeChunks n (recSegs B off r ++ ss)) none
      = r :: recoverChunks (wholeChunks (n - segsSize (recSegs B off r)) ss) none := by
  unfold recSegs at h ⊢
  split
  · rename_i hpad
    simp only [hpad, if_true, segsSize, Seg.size] at h
    have hk : B - off ≤ n := by omega
    simp only [List.cons_append, wholeChunks, hk, if_true, segsSize, Seg.size]
    rw [wholeChunks_chunks_le _ _ _ (by omega), recoverChunks_rec _ (pieces_ne_nil B 0 r), pieces_flatten,
      Nat.sub_sub]
  · rename_i hpad
    simp only [hpad, if_false] at h
    rw [wholeChunks_chunks_le _ _ _ h, recoverChunks_rec _ (pieces_ne_nil B off r), pieces_flatten]

theorem recover_recSegs_lt (off n : Nat) (r : Record) (ss : List Seg) (h : n < segsSize (recSegs B off r)) :
    recoverChunks (wholeChunks n (recSegs B off r ++ ss)) none = [] := by
  unfold recSegs at h ⊢
  split
  · rename_i hpad
    simp only [hpad, if_true, segsSize, Seg.size] at h
    by_cases hk : B - off ≤ n
    · simp only [List.cons_append, wholeChunks, hk, if_true]
      obtain ⟨j, hj, he⟩ := wholeChunks_chunks_lt (recChunks (pieces B 0 r)) ss (n - (B - off)) (by omega)
      rw [he]
      exact recoverChunks_rec_prefix _ j hj
    · simp [wholeChunks, hk, recoverChunks]
  · rename_i hpad
    simp only [hpad, if_false] at h
    obtain ⟨j, hj, he⟩ := wholeChunks_chunks_lt (recChunks (pieces B off r)) ss n h
    rw [he]
    exact recoverChunks_rec_prefix _ j hj

theorem recoverChunks_journal (rs : List Record) (off n : Nat) :
    recoverChunks (wholeChunks n (journalSegs B off rs)) none = rs.take (wholeRecs B off rs n) := by
  induction rs generalizing off n with
  | nil => simp [journalSegs, wholeChunks, recoverChunks]
  | cons r rs ih =>
    simp only [journalSegs, wholeRecs]
    by_cases h : segsSize (recSegs B off r) ≤ n
    · rw [recover_recSegs_le B off n r _ h, ih, if_pos h, Nat.add_comm 1, List.take_succ_cons]
    · rw [recover_recSegs_lt B off n r _ (by omega), if_neg h, List.take_zero]

theorem adv_lt (hB : 0 < B) (off n : Nat) : adv B off n < B := by
  unfold adv; split <;> omega

theorem adv_full {off n : Nat} (h : off + n = B) : adv B off n = 0 := by
  simp [adv, h]

theorem next_lt (hB : 0 < B) (off : Nat) (s : Seg) : s.next B off < B := by
  cases s with
  | pad n => exact hB
  | chunk c => exact adv_lt B hB _ _

theorem segsEnd_lt (hB : 0 < B) (ss : List Seg) (off : Nat) (h : off < B) : segsEnd B off ss < B := by
  induction ss generalizing off with
  | nil => exact h
  | cons s t ih => exact ih _ (next_lt B hB off s)

theorem segsEnd_append (s1 s2 : List Seg) (off : Nat) :
    segsEnd B off (s1 ++ s2) = segsEnd B (segsEnd B off s1) s2 := by
  induction s1 generalizing off with
  | nil => rfl
  | cons s t ih => exact ih _

theorem WF_append (s1 : List Seg) (off : Nat) (s2 : List Seg) (h1 : WF B off s1)
    (h2 : WF B (segsEnd B off s1) s2) : WF B off (s1 ++ s2) := by
  induction s1 generalizing off with
  | nil => exact h2
  | cons s t ih =>
    cases s with
    | pad n => exact ⟨h1.1, h1.2.1, h1.2.2.1, ih 0 h1.2.2.2 h2⟩
    | chunk c => exact ⟨h1.1, h1.2.1, ih _ h1.2.2 h2⟩

theorem contChunks_cons (p : Bytes) {ps : List Bytes} (h : ps ≠ []) :
    contChunks (p :: ps) = ⟨3, p⟩ :: contChunks ps := by
  cases ps with
  | nil => exact absurd rfl h
  | cons q ps => rfl

theorem recChunks_cons (p : Bytes) {ps : List Bytes} (h : ps ≠ []) :
    recChunks (p :: ps) = ⟨2, p⟩ :: contChunks ps := by
  cases ps with
  | nil => exact absurd rfl h
  | cons q ps => rfl

/-- the rest of a record written from the start of a block on: every piece but the last fills its block exactly -/
theorem WF_contPieces (h8 : 8 ≤ B) (f : Nat) (p : Bytes) (h : p.length ≤ f) :
    WF B 0 ((contChunks (contPieces (B - 7) f p)).map Seg.chunk) := by
  induction f generalizing p with
  | zero => exact ⟨by show 0 + 7 + p.length ≤ B; omega, rfl, trivial⟩
  | succ f ih =>
    unfold contPieces
    split
    · exact ⟨by show 0 + 7 + p.length ≤ B; omega, rfl, trivial⟩
    · have hl : (p.take (B - 7)).length = B - 7 := by rw [List.length_take]; omega
      rw [contChunks_cons _ (contPieces_ne_nil _ _ _)]
      refine ⟨by show 0 + 7 + (p.take (B - 7)).length ≤ B; omega, rfl, ?_⟩
      rw [adv_full B (by show 0 + (7 + (p.take (B - 7)).length) = B; omega)]
      exact ih _ (by rw [List.length_drop]; omega)

theorem WF_pieces (h8 : 8 ≤ B) (off : Nat) (hoff : off + 7 ≤ B) (r : Record) :
    WF B off ((recChunks (pieces B off r)).map Seg.chunk) := by
  unfold pieces
  split
  · exact ⟨by show off + 7 + r.length ≤ B; omega, rfl, trivial⟩
  · have hl : (r.take (B - off - 7)).length = B - off - 7 := by rw [List.length_take]; omega
    rw [recChunks_cons _ (contPieces_ne_nil _ _ _)]
    refine ⟨by show off + 7 + (r.take (B - off - 7)).length ≤ B; omega, rfl, ?_⟩
    rw [adv_full B (by show off + (7 + (r.take (B - off - 7)).length) = B; omega)]
    exact WF_contPieces B h8 _ _ (by rw [List.length_drop]; omega)

theorem WF_recSegs (h8 : 8 ≤ B) (off : Nat) (hoff : off < B) (r : Record) : WF B off (recSegs B off r) := by
  unfold recSegs
  split
  · rename_i hpad
    exact ⟨hoff, hpad, rfl, WF_pieces B h8 0 (by omega) r⟩
  · exact WF_pieces B h8 off (by omega) r

theorem WF_journal (h8 : 8 ≤ B) (rs : List Record) (off : Nat) (hoff : off < B) : WF B off (journalSegs B off rs) := by
  induction rs generalizing off with
  | nil => trivial
  | cons r rs ih =>
    exact WF_append B _ off _ (WF_recSegs B h8 off hoff r) (ih _ (segsEnd_lt B (by omega) _ off hoff))

theorem wholeRecs_le_length : ∀ (rs : List Record) (off n : Nat), wholeRecs B off rs n ≤ rs.length := by
  intro rs off n
  fun_induction wholeRecs B off rs n with
  | case1 => exact Nat.zero_le _
  | case2 _ _ _ _ _ ih => rw [List.length_cons]; omega
  | case3 => exact Nat.zero_le _

theorem journalSegs_append (r1 : List Record) (off : Nat) (r2 : List Record) :
    journalSegs B off (r1 ++ r2)
      = journalSegs B off r1 ++ journalSegs B (segsEnd B off (journalSegs B off r1)) r2 := by
  induction r1 generalizing off with
  | nil => rfl
  | cons r rs ih => simp only [List.cons_append, journalSegs, ih, List.append_assoc, segsEnd_append]

theorem wholeRecs_append (r1 : List Record) (off : Nat) (r2 : List Record) (n : Nat)
    (h : segsSize (journalSegs B off r1) ≤ n) :
    wholeRecs B off (r1 ++ r2) n
      = r1.length + wholeRecs B (segsEnd B off (journalSegs B off r1)) r2 (n - segsSize (journalSegs B off r1)) := by
  induction r1 generalizing off n with
  | nil => simp [journalSegs, segsSize, segsEnd]
  | cons r rs ih =>
    simp only [journalSegs, segsSize_append] at h
    simp only [List.cons_append, wholeRecs, journalSegs, segsSize_append, segsEnd_append]
    rw [if_pos (by omega), ih _ _ (by omega), List.length_cons, Nat.sub_sub]
    omega

theorem wholeRecs_all (rs : List Record) (off n : Nat) (h : segsSize (journalSegs B off rs) ≤ n) :
    wholeRecs B off rs n = rs.length := by
  simpa [wholeRecs] using wholeRecs_append B rs off [] n h

theorem wholeRecs_eq_count (rs : List Record) (off n : Nat) :
    wholeRecs B off rs n
      = ((List.range rs.length).filter
          (fun i => decide (segsSize (journalSegs B off (rs.take (i + 1))) ≤ n))).length := by
  induction rs generalizing off n with
  | nil => simp [wholeRecs]
  | cons r rs ih =>
    simp only [wholeRecs, List.length_cons, List.range_succ_eq_map, List.filter_cons, List.take_succ_cons,
      journalSegs, segsSize_append, List.filter_map]
    by_cases h : segsSize (recSegs B off r) ≤ n
    · have h0 : decide (segsSize (recSegs B off r) + segsSize (journalSegs B (segsEnd B off (recSegs B off r))
          (List.take 0 rs)) ≤ n) = true := by simp [journalSegs, segsSize, h]
      rw [if_pos h, if_pos h0, List.length_cons, List.length_map, ih, Nat.add_comm]
      congr 2
      apply List.filter_congr
      intro i _
      simp only [Function.comp, Nat.succ_eq_add_one]
      apply decide_eq_decide.mpr
      omega
    · have h0 : ¬ decide (segsSize (recSegs B off r) + segsSize (journalSegs B (segsEnd B off (recSegs B off r))
          (List.take 0 rs)) ≤ n) = true := by simp [journalSegs, segsSize, h]
      rw [if_neg h, if_neg h0, List.length_map]
      symm
      rw [List.length_eq_zero_iff, List.filter_eq_nil_iff]
      intro i _
      simp only [Function.comp, decide_eq_true_eq]
      omega

theorem completeAt_eq (rs : List Record) (n : Nat) : completeAt B rs n = wholeRecs B 0 rs n := by
  rw [wholeRecs_eq_count]; rfl

theorem encSegs_append (s1 s2 : List Seg) : encSegs crc (s1 ++ s2) = encSegs crc s1 ++ encSegs crc s2 := by
  induction s1 with
  | nil => rfl
  | cons s t ih => simp [encSegs, ih]

theorem tornDetected_of_size_le (ss : List Seg) (n : Nat) (h : segsSize ss ≤ n) : TornDetected crc n ss := by
  induction ss generalizing n with
  | nil => trivial
  | cons s t ih =>
    cases s with
    | pad k =>
      simp only [segsSize, Seg.size] at h
      simp only [TornDetected, show k ≤ n by omega, if_true]
      exact ih _ (by omega)
    | chunk c =>
      simp only [segsSize, Seg.size] at h
      simp only [TornDetected, show 7 + c.payload.length ≤ n by omega, if_true]
      exact ih _ (by omega)

theorem completeAt_all (rs : List Record) : completeAt B rs (journalSize B rs) = rs.length := by
  rw [completeAt_eq]; exact wholeRecs_all B rs 0 _ (Nat.le_refl _)

/-- a journal cut at ANY byte `n`, with `z` zeros behind the cut, is read back as the records whose encoding ends at or
    before `n`; with zeros behind the cut the checksum has to reject the chunk the cut falls into -/
theorem recover_cut (h8 : 8 ≤ B) (hB : B ≤ 65542) (rs : List Record) (n z : Nat)
    (hdet : z = 0 ∨ TornDetected crc n (journalSegs B 0 rs)) :
    recover B crc ((encodeJournal B crc rs).take n ++ List.replicate z 0) = rs.take (completeAt B rs n) := by
  unfold recover encodeJournal
  rw [read_segs_tail B crc hB _ 0 n z _ none (WF_journal B h8 rs 0 (by omega)) hdet (Nat.lt_succ_self _),
    recoverChunks_journal, completeAt_eq]

/-- on ANY bytes: when the strict reader does not refuse, it delivers what the non-strict reader delivers -/
theorem strictAux_some (f off : Nat) (rest : Bytes) (acc : Option Record) (l : List Record)
    (h : strictAux B crc f off rest acc = some l) : readAux B crc f off rest acc = l := by
  induction f generalizing off rest acc l with
  | zero => simp only [strictAux, Option.some.injEq] at h; simp [readAux, h]
  | succ f ih =>
    cases hp : parse crc (min (B - off) rest.length) rest with
    | short =>
      rw [readAux_short B crc f off rest acc hp]
      simp only [strictAux, hp] at h
      by_cases hle : rest.length ≤ B - off
      · rw [if_pos hle] at h ⊢
        split at h
        · cases h
        · exact Option.some.inj h
      · rw [if_neg hle] at h ⊢
        exact ih _ _ _ _ h
    | bad =>
      simp only [strictAux, hp] at h
      cases h
    | ok ty p =>
      rw [readAux_ok B crc f off rest acc ty p hp]
      simp only [strictAux, hp] at h
      cases hs : strictAux B crc f (adv B off (7 + p.length)) (rest.drop (7 + p.length)) (onChunk acc ty p).2 with
      | none => rw [hs] at h; cases h
      | some l' =>
        rw [hs] at h
        simp only [Option.map_some, Option.some.injEq] at h
        rw [ih _ _ _ _ hs, h]

end ZV.Journal
