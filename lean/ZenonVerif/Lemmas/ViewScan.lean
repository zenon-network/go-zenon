import ZenonVerif.Model.Versioned
import ZenonVerif.Lemmas.KvLogic
import ZenonVerif.Lemmas.KvOrder
import ZenonVerif.Lemmas.KvChanges
/-
Ordered scans through a root (memdb / frontier snapshot / historical overlay) and through a first-level view: a
private top layer (the view's own writes) over a root.
-/
namespace ZV.Versioned
open ZV ZV.Kv ZV.KvLogic

/-- the layers of a root are in key order -/
def Root.WF : Root → Prop
  | .mem => True
  | .front base => Sorted base
  | .hist rb base => Sorted rb ∧ Sorted base

theorem Root.sorted_rawScan {root : Root} (hw : root.WF) (p : Bytes) : Sorted (root.rawScan p) := by
  cases root with
  | mem => exact Sorted.nil
  | front base => exact Sorted.rscan hw p
  | hist rb base => exact (hw.1.rscan p).merge2 (hw.2.rscan p)

/-- the raw scan of a root holds its raw lookup under the prefix (tombstones included: they are what hides the
    lower layers; the delete-enabled iterator on top drops them) -/
theorem Root.rget_rawScan {root : Root} (hw : root.WF) (p k : Bytes) :
    rget (root.rawScan p) k = if isPrefix p k = true then root.rawGet k else none := by
  cases root with
  | mem => simp [Root.rawScan, Root.rawGet, rget]
  | front base => exact rget_rscan base p k
  | hist rb base => exact rget_merge2_rscan hw.1 hw.2 p k

/-- ordered scan of ANY root through the delete-enabled iterator: the key-ordered list of exactly the entries the
    root READS under the prefix -/
theorem Root.scan_entries {root : Root} (hw : root.WF) (p : Bytes) :
    OrderedEntries (edEntries (root.rawScan p)) (fun k v => isPrefix p k = true ∧ root.get k = some v) :=
  .edEntries_of_rget (root.sorted_rawScan hw p) (root.rget_rawScan hw p)

/-- raw read through a first-level view: `rawGetV` (Model/Versioned.lean) on a node `.layer top none root` -/
def layerRawGet (top : Raw) (root : Root) (k : Bytes) : Option Bytes :=
  match rget top k with
  | some v => some v
  | none => root.rawGet k

/-- logical read through a first-level view (`enableDeleteDB.Get` over merged [top, root]) -/
def layerGet (top : Raw) (root : Root) (k : Bytes) : Option Bytes := edDecode (layerRawGet top root k)

/-- raw scan through a first-level view: `rawScanV` on a node `.layer top none root` -/
def layerRawScan (top : Raw) (root : Root) (p : Bytes) : Raw := merge2 (rscan top p) (root.rawScan p)

/-- ordered scan through a first-level view over ANY root (memdb, frontier snapshot, historical overlay): the
    key-ordered list of exactly the entries the view READS under the prefix -/
theorem layer_scan_entries {top : Raw} (hs : Sorted top) {root : Root} (hw : root.WF) (p : Bytes) :
    OrderedEntries (edEntries (layerRawScan top root p))
      (fun k v => isPrefix p k = true ∧ layerGet top root k = some v) := by
  refine .edEntries_of_rget ((hs.rscan p).merge2 (root.sorted_rawScan hw p)) fun k => ?_
  rw [rget_merge2 (hs.rscan p) (root.sorted_rawScan hw p)]
  simp only [mget2, rget_rscan, root.rget_rawScan hw, layerRawGet]
  cases isPrefix p k <;> rfl

theorem layerGet_eq (top : Raw) (root : Root) : layerGet top root = viewOf (oabs top) root.get :=
  funext fun k => edDecode_layer top (root.rawGet k) k

/-- a view that received the writes `ops` (through `Put`/`Delete`, starting from the empty memdb) reads the root's
    content with `ops` applied -/
theorem layerGet_edApply (ops : Patch) (root : Root) : layerGet (edApply [] ops) root = applyP root.get ops := by
  rw [layerGet_eq, viewOf_edApply]; rfl

/-- every ordered prefix scan of a view that received the writes `ops` is the key-ordered list of exactly the
    entries it reads -/
theorem layer_writes_scan_entries (ops : Patch) {root : Root} (hw : root.WF) (p : Bytes) :
    OrderedEntries (edEntries (layerRawScan (edApply [] ops) root p))
      (fun k v => isPrefix p k = true ∧ applyP root.get ops k = some v) := by
  have := layer_scan_entries (Sorted.nil.edApply ops) hw p
  rwa [layerGet_edApply] at this

end ZV.Versioned
