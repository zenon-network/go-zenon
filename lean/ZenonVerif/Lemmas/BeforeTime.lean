import ZenonVerif.Lemmas.Consensus
/-
Helper lemmas for `GetMomentumBeforeTime` (C05 d): the reversed-range scan of the specification, Go's
sort.Search, partial correctness of the estimate loop for every instant, total correctness for whole seconds.
-/
namespace ZV.Consensus
open ZV

/-! ### the specification scan -/

/-- scanning `n-1, …, 0` finds the greatest index satisfying `p` -/
theorem findLast_eq_some (p : Nat → Bool) {i : Nat} (hp : p i = true) : ∀ n, i < n →
    (∀ j, i < j → j < n → p j = false) → (List.range n).reverse.find? p = some i
  | n + 1, hi, hlast => by
    rw [List.range_succ, List.reverse_append, List.reverse_singleton, List.singleton_append, List.find?_cons]
    rcases Nat.lt_or_eq_of_le (Nat.le_of_lt_succ hi) with h | rfl
    · rw [hlast n h (Nat.lt_succ_self n)]
      exact findLast_eq_some p hp n h fun j h1 h2 => hlast j h1 (Nat.lt_succ_of_lt h2)
    · rw [hp]

/-- timestamp of height h (1-based) -/
def T (ts : List Int) (h : Nat) : Int := ts.getD (h - 1) 0

theorem tsAt_of_range {ts : List Int} {h : Nat} (h1 : 1 ≤ h) (h2 : h ≤ ts.length) : tsAt ts h = some (T ts h) := by
  unfold tsAt T
  rw [if_neg (by omega), List.getElem?_eq_getElem (by omega), List.getElem_eq_getD 0]

theorem tsAt_some {ts : List Int} {h : Nat} {b : Int} (hb : tsAt ts h = some b) :
    1 ≤ h ∧ h ≤ ts.length ∧ b = T ts h := by
  unfold tsAt at hb
  split at hb
  · cases hb
  · obtain ⟨hlt, rfl⟩ := List.getElem?_eq_some_iff.mp hb
    exact ⟨by omega, by omega, List.getElem_eq_getD 0⟩

theorem T_take (ts : List Int) {h k : Nat} (h1 : 1 ≤ h) (hk : h ≤ k) : T (ts.take k) h = T ts h := by
  unfold T
  rw [List.getD_eq_getElem?_getD, List.getElem?_take_of_lt (by omega), ← List.getD_eq_getElem?_getD]

/-- the chain's timestamps never decrease with the height -/
def Mono (ts : List Int) : Prop := ∀ a b, 1 ≤ a → a ≤ b → b ≤ ts.length → T ts a ≤ T ts b

variable {ts : List Int} {tNs : Int}

theorem mono_lt (hm : Mono ts) {a b : Nat} (h1 : 1 ≤ a) (hab : a ≤ b) (hb : b ≤ ts.length)
    (h : T ts b * nsPerSec < tNs) : T ts a * nsPerSec < tNs :=
  Int.lt_of_le_of_lt (Int.mul_le_mul_of_nonneg_right (hm a b h1 hab hb) (by decide)) h

/-- what the specification returns is a height whose timestamp is before the instant -/
theorem beforeSpec_some {h : Nat} (hs : beforeSpec ts tNs = some h) :
    1 ≤ h ∧ h ≤ ts.length ∧ T ts h * nsPerSec < tNs := by
  obtain ⟨i, hi, rfl⟩ := Option.map_eq_some_iff.mp hs
  have hp := List.find?_some hi
  exact ⟨Nat.succ_pos i, List.mem_range.mp (List.mem_reverse.mp (List.mem_of_find?_eq_some hi)),
    of_decide_eq_true hp⟩

/-! ### Go's sort.Search -/

theorem searchLoop_inv (f : Nat → Bool) (P Q : Nat → Prop) (hP : ∀ m, f m = false → P (m + 1))
    (hQ : ∀ m, f m = true → Q m) (fuel i j : Nat) (hij : i ≤ j) (hf : j - i < fuel) (hi : P i) (hj : Q j) :
    searchLoop f fuel i j ≤ j ∧ P (searchLoop f fuel i j) ∧ Q (searchLoop f fuel i j) := by
  fun_induction searchLoop f fuel i j with
  | case1 => exact absurd hf (Nat.not_lt_zero _)
  | case2 fuel i j hlt m hfm ih =>
    have hm : i ≤ m ∧ m < j := by omega
    exact ih hm.2 (by omega) (hP m ((Bool.not_eq_true' _).mp hfm)) hj
  | case3 fuel i j hlt m hfm ih =>
    have hm : i ≤ m ∧ m < j := by omega
    obtain ⟨h1, h2⟩ := ih hm.1 (by omega) hi (hQ m (by simpa using hfm))
    exact ⟨Nat.le_trans h1 (Nat.le_of_lt hm.2), h2⟩
  | case4 fuel i j hlt => exact ⟨hij, hi, Nat.le_antisymm hij (Nat.le_of_not_lt hlt) ▸ hj⟩

/-- between an argument where `f` is false and one where it is true `sort.Search` finds adjacent ones;
    no monotonicity is needed for that -/
theorem goSearch_boundary (f : Nat → Bool) (m : Nat) (h0 : f 0 = false) (hm : f m = true) :
    ∃ r, goSearch (m + 1) f = r + 1 ∧ r < m ∧ f r = false ∧ f (r + 1) = true := by
  obtain ⟨h1, h2, h3⟩ := searchLoop_inv f (fun i => f (i - 1) = false) (fun j => j = m + 1 ∨ f j = true)
    (fun _ h => h) (fun _ h => Or.inr h) (m + 1 + 1) 0 (m + 1) (Nat.zero_le _) (Nat.lt_succ_self _) h0 (Or.inl rfl)
  unfold goSearch
  generalize searchLoop f (m + 1 + 1) 0 (m + 1) = s at h1 h2 h3
  cases s with
  | zero => rw [h0] at h3; simp at h3
  | succ r =>
    have hr : r ≠ m := fun h => by rw [h, Nat.add_sub_cancel, hm] at h2; cases h2
    exact ⟨r, rfl, by omega, h2, h3.resolve_left (by omega)⟩

/-! ### partial correctness of the search -/

/-- a good answer: a height below the instant whose successor (if any) is not below it, or "none" when the
    genesis momentum is not below it -/
def GoodBT (ts : List Int) (tNs : Int) : BT → Prop
  | .found h => 1 ≤ h ∧ h ≤ ts.length ∧ T ts h * nsPerSec < tNs ∧ (h = ts.length ∨ T ts (h + 1) * nsPerSec ≥ tNs)
  | .none => 1 ≤ ts.length ∧ T ts 1 * nsPerSec ≥ tNs
  | _ => False

theorem beforeSpec_eq_some {h : Nat} (hm : Mono ts) (hg : GoodBT ts tNs (.found h)) :
    beforeSpec ts tNs = some h := by
  obtain ⟨h1, h2, hlt, hnext⟩ := hg
  have key := findLast_eq_some (fun i => decide (ts.getD i 0 * nsPerSec < tNs)) (i := h - 1) (decide_eq_true hlt)
    ts.length (by omega) fun j hj1 hj2 => decide_eq_false fun hj => hnext.elim (by omega)
      fun hn => Int.not_lt.mpr hn (mono_lt hm (b := j + 1) (Nat.succ_pos h) (by omega) hj2 hj)
  rw [beforeSpec, key, Option.map_some, Nat.sub_add_cancel h1]

theorem beforeSpec_eq_none (hm : Mono ts) (hg : GoodBT ts tNs .none) : beforeSpec ts tNs = none := by
  unfold beforeSpec
  simp only [Option.map_eq_none_iff, List.find?_eq_none, List.mem_reverse, List.mem_range, decide_eq_true_eq]
  exact fun j hj hlt => Int.not_lt.mpr hg.2 (mono_lt hm (Nat.le_refl 1) (Nat.succ_pos j) hj hlt)

theorem eq_spec_of_good (hm : Mono ts) : ∀ {r : BT}, GoodBT ts tNs r →
    r = match beforeSpec ts tNs with | some h => .found h | none => .none
  | .found _, hg => by rw [beforeSpec_eq_some hm hg]
  | .none, hg => by rw [beforeSpec_eq_none hm hg]

/-- partial correctness: the search may fail to return (`hang`) or fail (`err`), but never returns a wrong answer -/
def WeakGood (ts : List Int) (tNs : Int) (r : BT) : Prop := r = .hang ∨ r = .err ∨ GoodBT ts tNs r

theorem binarySearchBefore_good {lo hi : Nat}
    (h1 : 1 ≤ lo) (h2 : lo < hi) (h3 : hi ≤ ts.length)
    (hlo : T ts lo * nsPerSec < tNs) (hhi : T ts hi * nsPerSec ≥ tNs) :
    GoodBT ts tNs (binarySearchBefore ts tNs lo hi) := by
  obtain ⟨d, rfl⟩ : ∃ d, hi = lo + (d + 1) := ⟨hi - lo - 1, by omega⟩
  unfold binarySearchBefore
  simp only [Nat.add_sub_cancel_left]
  generalize hf : (fun i => match tsAt ts (lo + i) with
    | some b => decide (b * nsPerSec ≥ tNs)
    | none => true) = f
  -- inside the chain the predicate handed to `sort.Search` is "height lo+i is not before the instant"
  have fval : ∀ i, i ≤ d + 1 → f i = decide (T ts (lo + i) * nsPerSec ≥ tNs) := fun i hi => by
    rw [← hf]
    simp only [tsAt_of_range (Nat.le_trans h1 (Nat.le_add_right lo i)) (Nat.le_trans (Nat.add_le_add_left hi lo) h3)]
  obtain ⟨r, hr, hrd, hfr, hfr1⟩ := goSearch_boundary f (d + 1)
    (by rw [fval 0 (Nat.zero_le _)]; exact decide_eq_false (Int.not_le.mpr hlo))
    (by rw [fval (d + 1) (Nat.le_refl _)]; exact decide_eq_true hhi)
  rw [fval r (Nat.le_of_lt hrd), decide_eq_false_iff_not, Int.not_le] at hfr
  rw [fval (r + 1) hrd, decide_eq_true_eq] at hfr1
  rw [hr, if_neg (by omega), if_neg (Nat.succ_ne_zero _)]
  exact ⟨Nat.le_trans h1 (Nat.le_add_right _ _), by omega, hfr, Or.inr hfr1⟩

/-- what the estimate loop knows about its boundaries: the high one is not before the instant, the low one is -/
def Bounds (ts : List Int) (tNs : Int) (high low : Option Nat) : Prop :=
  (∀ hi, high = some hi → 1 ≤ hi ∧ hi ≤ ts.length ∧ T ts hi * nsPerSec ≥ tNs) ∧
  (∀ lo, low = some lo → 1 ≤ lo ∧ lo ≤ ts.length ∧ T ts lo * nsPerSec < tNs)

theorem btFinish_good (hm : Mono ts) {lo hi : Nat}
    (hb : Bounds ts tNs (some hi) (some lo)) : GoodBT ts tNs (btFinish ts tNs hi lo) := by
  obtain ⟨h4, h3, hhi⟩ := hb.1 hi rfl
  obtain ⟨h1, hlo', hlo⟩ := hb.2 lo rfl
  have hlt : lo < hi := Nat.lt_of_not_le fun h => Int.not_lt.mpr hhi (mono_lt hm h4 h hlo' hlo)
  unfold btFinish
  split
  · rename_i heq
    exact ⟨h1, hlo', hlo, Or.inr (heq ▸ hhi)⟩
  · exact binarySearchBefore_good h1 hlt h3 hlo hhi

/-- induction over the estimate loop: `P` holds of its result from every state satisfying `I` if it holds of the final
    search once both boundaries are known, of `hang` when the fuel is used up, and of one round all of whose
    continuations satisfy `P` on the states satisfying `I` -/
theorem btLoop_induct {tSec : Int} {F : Nat} {P : BT → Prop}
    {I : Nat → Nat → Option Nat → Option Nat → Prop}
    (hfin : ∀ fuel est hi lo, I fuel est (some hi) (some lo) → P (btFinish ts tNs hi lo))
    (hzero : ∀ est high low, high = none ∨ low = none → I 0 est high low → P .hang)
    (hbody : ∀ n est high low k, high = none ∨ low = none → I (n + 1) est high low →
      (∀ e h l, I n e h l → P (k e h l)) → P (btBody ts tNs tSec F k est high low)) :
    ∀ fuel est high low, I fuel est high low → P (btLoop ts tNs tSec F fuel est high low)
  | 0, est, some hi, some lo, h => hfin 0 est hi lo h
  | _ + 1, est, some hi, some lo, h => hfin _ est hi lo h
  | 0, est, none, low, h => hzero est none low (Or.inl rfl) h
  | 0, est, some hi, none, h => hzero est (some hi) none (Or.inr rfl) h
  | n + 1, est, none, low, h => hbody n est none low _ (Or.inl rfl) h (btLoop_induct hfin hzero hbody n)
  | n + 1, est, some hi, none, h => hbody n est (some hi) none _ (Or.inr rfl) h (btLoop_induct hfin hzero hbody n)

/-- one round of the estimate loop either fails to read the estimated height, or finishes with a good answer, or
    continues with boundaries that are still right: downwards below a new high boundary `est`, or upwards from a new
    low boundary `est` by the distance in seconds -/
theorem btBody_step {tSec : Int} (hm : Mono ts)
    (hg : T ts 1 * nsPerSec < tNs) (hf : T ts ts.length * nsPerSec ≥ tNs) (hne : 1 ≤ ts.length)
    (k : Nat → Option Nat → Option Nat → BT) (est : Nat) {high low : Option Nat} (hb : Bounds ts tNs high low) :
    (tsAt ts est = none ∧ btBody ts tNs tSec ts.length k est high low = .err) ∨
    GoodBT ts tNs (btBody ts tNs tSec ts.length k est high low) ∨
    (∃ est', est' < est ∧ 1 ≤ est' ∧ Bounds ts tNs (some est) low ∧
      btBody ts tNs tSec ts.length k est high low = k est' (some est) low) ∨
    ∃ est' high', est' = (est + toUInt64 (tSec - T ts est)) % two64 ∧
      high' = (if est' > ts.length then some ts.length else high) ∧ Bounds ts tNs high' (some est) ∧
      btBody ts tNs tSec ts.length k est high low = k est' high' (some est) := by
  unfold btBody
  cases hbt : tsAt ts est with
  | none => exact Or.inl ⟨rfl, rfl⟩
  | some b =>
    obtain ⟨e1, e2, rfl⟩ := tsAt_some hbt
    refine Or.inr ?_
    simp only
    by_cases hge : T ts est * nsPerSec ≥ tNs
    · have hb' : Bounds ts tNs (some est) low := ⟨fun hi h => Option.some.inj h ▸ ⟨e1, e2, hge⟩, hb.2⟩
      rw [if_pos hge]
      have hgap : 1 ≤ (if toUInt64 (T ts est - tSec) = 0 then 1 else toUInt64 (T ts est - tSec)) := by
        split <;> omega
      generalize (if toUInt64 (T ts est - tSec) = 0 then 1 else toUInt64 (T ts est - tSec)) = gap at hgap
      by_cases hle : est ≤ gap
      · rw [if_pos hle]
        exact Or.inl (btFinish_good hm ⟨hb'.1, fun lo h => Option.some.inj h ▸ ⟨Nat.le_refl _, hne, hg⟩⟩)
      · rw [if_neg hle]
        exact Or.inr (Or.inl ⟨est - gap, by omega, by omega, hb', rfl⟩)
    · rw [if_neg hge]
      refine Or.inr (Or.inr ⟨_, _, rfl, rfl, ⟨fun hi h => ?_, fun lo h => Option.some.inj h ▸ ⟨e1, e2, Int.not_le.mp hge⟩⟩, rfl⟩)
      split at h
      · exact Option.some.inj h ▸ ⟨hne, Nat.le_refl _, hf⟩
      · exact hb.1 hi h

theorem btLoop_good {tSec : Int} (hm : Mono ts)
    (hg : T ts 1 * nsPerSec < tNs) (hf : T ts ts.length * nsPerSec ≥ tNs) (hne : 1 ≤ ts.length) :
    ∀ (fuel est : Nat) (high low : Option Nat), Bounds ts tNs high low →
      WeakGood ts tNs (btLoop ts tNs tSec ts.length fuel est high low) :=
  btLoop_induct (I := fun _ _ high low => Bounds ts tNs high low)
    (fun _ _ _ _ hb => Or.inr (Or.inr (btFinish_good hm hb))) (fun _ _ _ _ _ => Or.inl rfl)
    fun _ est _ _ k _ hb ih => by
      rcases btBody_step (tSec := tSec) hm hg hf hne k est hb with
        ⟨_, h⟩ | h | ⟨_, _, _, hb', h⟩ | ⟨_, _, _, _, hb', h⟩
      · exact Or.inr (Or.inl h)
      · exact Or.inr (Or.inr h)
      · rw [h]; exact ih _ _ _ hb'
      · rw [h]; exact ih _ _ _ hb'

theorem head?_eq_T (hne : 1 ≤ ts.length) : ts.head? = some (T ts 1) := by
  cases ts with
  | nil => cases hne
  | cons _ _ => rfl

theorem getLast?_eq_T (hne : 1 ≤ ts.length) : ts.getLast? = some (T ts ts.length) := by
  rw [List.getLast?_eq_getElem?, List.getElem?_eq_getElem (by omega), List.getElem_eq_getD 0]
  rfl

theorem bounds_none (ts : List Int) (tNs : Int) : Bounds ts tNs none none :=
  ⟨fun _ h => (nomatch h), fun _ h => (nomatch h)⟩

/-- on a non-empty chain the two shortcuts give a good answer; otherwise the estimate loop runs from the frontier,
    between a genesis before the instant and a frontier not before it -/
theorem getMomentumBeforeTime_cases (hne : 1 ≤ ts.length) (tNs : Int) :
    GoodBT ts tNs (getMomentumBeforeTime ts tNs) ∨
    (T ts 1 * nsPerSec < tNs ∧ T ts ts.length * nsPerSec ≥ tNs ∧ getMomentumBeforeTime ts tNs =
      btLoop ts tNs (tNs / nsPerSec) ts.length (2 * ts.length + 4)
        (if ts.length > toUInt64 (T ts ts.length - tNs / nsPerSec)
          then ts.length - toUInt64 (T ts ts.length - tNs / nsPerSec) else 1) none none) := by
  unfold getMomentumBeforeTime
  rw [head?_eq_T hne, getLast?_eq_T hne]
  simp only
  split
  · rename_i c1; exact Or.inl ⟨hne, c1⟩
  · rename_i c1
    split
    · rename_i c2; exact Or.inl ⟨hne, Nat.le_refl _, c2, Or.inl rfl⟩
    · rename_i c2; exact Or.inr ⟨Int.not_le.mp c1, Int.not_lt.mp c2, rfl⟩

theorem getMomentumBeforeTime_weakGood (hm : Mono ts) (tNs : Int) :
    WeakGood ts tNs (getMomentumBeforeTime ts tNs) := by
  rcases Nat.eq_zero_or_pos ts.length with h0 | hne
  · rw [List.length_eq_zero_iff.mp h0]; exact Or.inr (Or.inl rfl)
  · rcases getMomentumBeforeTime_cases hne tNs with h | ⟨hg, hf, h⟩
    · exact Or.inr (Or.inr h)
    · rw [h]; exact btLoop_good hm hg hf hne _ _ _ _ (bounds_none _ _)

/-! ### termination for whole-second instants -/

/-- rounds still needed: 0 once both boundaries are known; while only the high boundary is known the estimate
    walks down, while only the low boundary is known it walks up -/
def mu (H est : Nat) : Option Nat → Option Nat → Nat
  | some _, some _ => 0
  | some _, none => est
  | none, some _ => H + 1 - est
  | none, none => H + 1

theorem mu_down {H est e' : Nat} {high low : Option Nat} (hn : high = none ∨ low = none) (he : e' < est)
    (hH : est ≤ H) (x : Nat) : mu H e' (some x) low < mu H est high low :=
  match high, low, hn with
  | none, none, _ => show e' < H + 1 by omega
  | none, some _, _ => show 0 < H + 1 - est by omega
  | some _, none, _ => he
  | some _, some _, hn => by rcases hn with h | h <;> cases h

theorem mu_up {H est e' : Nat} {high low : Option Nat} (hn : high = none ∨ low = none) (he : est < e')
    (h1 : 1 ≤ est) (hH : e' ≤ H) (x : Nat) : mu H e' high (some x) < mu H est high low :=
  match high, low, hn with
  | none, none, _ => show H + 1 - e' < H + 1 by omega
  | none, some _, _ => show H + 1 - e' < H + 1 - est by omega
  | some _, none, _ => h1
  | some _, some _, hn => by rcases hn with h | h <;> cases h

/-- bound on instants (Unix seconds) and chain length in `before_time_eq_spec`: the upward step `est + (tSec - ts)` is
    computed in uint64, so any two bounds whose sum stays below 2^64 would do; 2^62 is far above both in practice -/
def two62 : Int := 4611686018427387904

/-- the upward step by a positive distance below 2^62 from a height below 2^62 does not wrap around -/
theorem est_up {est : Nat} {d : Int} (hd : 0 < d) (hd2 : d < two62) (he : (est : Int) < two62) :
    est < (est + toUInt64 d) % two64 := by
  rw [toUInt64_of_nonneg d (Int.le_of_lt hd) (by simp only [two62, two64i] at *; omega),
    Nat.mod_eq_of_lt (by simp only [two62, two64] at *; omega)]
  omega

/-- for a whole-second instant in range the estimate loop returns, and returns a good answer: every round moves
    the estimate by at least one height -/
theorem btLoop_total {tSec : Int} (hm : Mono ts)
    (hg : T ts 1 * nsPerSec < tSec * nsPerSec) (hf : T ts ts.length * nsPerSec ≥ tSec * nsPerSec)
    (hne : 1 ≤ ts.length) (hr : ∀ h, 1 ≤ h → h ≤ ts.length → 0 ≤ T ts h)
    (ht : tSec < two62) (hH : (ts.length : Int) < two62) :
    ∀ (fuel est : Nat) (high low : Option Nat), Bounds ts (tSec * nsPerSec) high low ∧
      (high = none ∨ low = none → 1 ≤ est ∧ est ≤ ts.length) ∧ mu ts.length est high low ≤ fuel →
      GoodBT ts (tSec * nsPerSec) (btLoop ts (tSec * nsPerSec) tSec ts.length fuel est high low) :=
  btLoop_induct (fun _ _ _ _ h => btFinish_good hm h.1)
    (fun est _ _ hn h => absurd (Nat.lt_of_lt_of_le (mu_down hn (h.2.1 hn).1 (h.2.1 hn).2 0) h.2.2) (Nat.not_lt_zero _))
    fun n est high low k hn ⟨hb, hest, hmu⟩ ih => by
      obtain ⟨e1, e2⟩ := hest hn
      rcases btBody_step (tSec := tSec) hm hg hf hne k est hb with
        ⟨h, _⟩ | h | ⟨est', hlt, h1, hb', h⟩ | ⟨est', high', rfl, rfl, hb', h⟩
      · rw [tsAt_of_range e1 e2] at h; cases h
      · exact h
      · rw [h]
        exact ih _ _ _ ⟨hb', fun _ => ⟨h1, by omega⟩, Nat.le_of_lt_succ (Nat.lt_of_lt_of_le (mu_down hn hlt e2 est) hmu)⟩
      · rw [h]
        have hup := est_up (est := est) (d := tSec - T ts est)
          (Int.sub_pos_of_lt (Int.lt_of_mul_lt_mul_right (hb'.2 est rfl).2.2 (by decide)))
          (by have := hr est e1 e2; omega) (by omega)
        generalize (est + toUInt64 (tSec - T ts est)) % two64 = est' at *
        by_cases hle : est' > ts.length
        · rw [if_pos hle] at hb' ⊢
          exact ih _ _ _ ⟨hb', fun h => by simp at h, Nat.zero_le _⟩
        · rw [if_neg hle] at hb' ⊢
          exact ih _ _ _ ⟨hb', fun _ => ⟨by omega, by omega⟩,
            Nat.le_of_lt_succ (Nat.lt_of_lt_of_le (mu_up hn hup e1 (by omega) est) hmu)⟩

theorem getMomentumBeforeTime_good {tSec : Int} (hm : Mono ts) (hne : 1 ≤ ts.length)
    (hr : ∀ h, 1 ≤ h → h ≤ ts.length → 0 ≤ T ts h) (ht : tSec < two62) (hH : (ts.length : Int) < two62) :
    GoodBT ts (tSec * nsPerSec) (getMomentumBeforeTime ts (tSec * nsPerSec)) := by
  rcases getMomentumBeforeTime_cases hne (tSec * nsPerSec) with h | ⟨hg, hf, h⟩
  · exact h
  · rw [h, Int.mul_ediv_cancel _ (show nsPerSec ≠ 0 by decide)]
    generalize toUInt64 (T ts ts.length - tSec) = gap
    refine btLoop_total hm hg hf hne hr ht hH _ _ _ _ ⟨bounds_none _ _, fun _ => ?_,
      show ts.length + 1 ≤ _ by omega⟩
    clear h hg hf hr ht hH
    split <;> omega

end ZV.Consensus
