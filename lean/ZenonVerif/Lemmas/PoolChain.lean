import ZenonVerif.Model.Pool
/-
The pool of one address (Model/Pool.lean) as a state machine: its pooled blocks form one chain on top of the confirmed
chain (`Linked`, `MgrOK`, `Inv`), so that lookups by height are index lookups, the rollback loop cuts that chain, and
`rebuild` keeps a suffix of it. Props/C14.lean states T1/T2/T4 over `Reachable`.
-/
namespace ZV.Pool

/-- consecutive links: the first block's `Previous()` is `start`, every other block's is its predecessor's identifier -/
def Linked : Id → List Blk → Prop
  | _, [] => True
  | start, b :: bs => b.prev = start ∧ Linked b.id bs

def Linked.dec : ∀ (start : Id) (xs : List Blk), Decidable (Linked start xs)
  | _, [] => isTrue trivial
  | start, b :: bs =>
    match (inferInstance : Decidable (b.prev = start)), Linked.dec b.id bs with
    | isTrue h1, isTrue h2 => isTrue ⟨h1, h2⟩
    | isFalse h1, _ => isFalse (fun h => h1 h.1)
    | _, isFalse h2 => isFalse (fun h => h2 h.2)

instance (start : Id) (xs : List Blk) : Decidable (Linked start xs) := Linked.dec start xs

/-- the verifier accepts no block of height 0 -/
def HeightsOK (xs : List Blk) : Prop := ∀ b ∈ xs, b.height ≠ 0

instance (xs : List Blk) : Decidable (HeightsOK xs) := by unfold HeightsOK; infer_instance

/-- `lastId` with the identifier to fall back on as a parameter, so that it splits over `++`: the frontier of a manager
    is `lastIdFrom (lastId base) pooled` -/
def lastIdFrom (start : Id) (xs : List Blk) : Id :=
  match xs.getLast? with
  | some b => b.id
  | none => start

theorem lastId_eq (c : List Blk) : lastId c = lastIdFrom zeroId c := rfl

theorem lastIdFrom_nil (start : Id) : lastIdFrom start [] = start := rfl

theorem lastIdFrom_cons (start : Id) (x : Blk) (xs : List Blk) : lastIdFrom start (x :: xs) = lastIdFrom x.id xs := by
  simp only [lastIdFrom, List.getLast?_cons]
  cases xs.getLast? <;> rfl

theorem lastIdFrom_append (start : Id) (xs ys : List Blk) :
    lastIdFrom start (xs ++ ys) = lastIdFrom (lastIdFrom start xs) ys := by
  induction xs generalizing start with
  | nil => simp [lastIdFrom_nil]
  | cons x xs ih => simp only [List.cons_append, lastIdFrom_cons, ih]

theorem lastId_append (base pooled : List Blk) : lastId (base ++ pooled) = lastIdFrom (lastId base) pooled := by
  simp only [lastId_eq, lastIdFrom_append]

theorem lastIdFrom_concat (start : Id) (xs : List Blk) (b : Blk) : lastIdFrom start (xs ++ [b]) = b.id := by
  simp [lastIdFrom]

theorem linked_append (ys : List Blk) : ∀ (xs : List Blk) (start : Id),
    Linked start (xs ++ ys) ↔ Linked start xs ∧ Linked (lastIdFrom start xs) ys
  | [], start => by simp [Linked, lastIdFrom_nil]
  | x :: xs, start => by
    simp only [List.cons_append, Linked, lastIdFrom_cons, linked_append ys xs x.id, and_assoc]

theorem linked_take (n : Nat) (xs : List Blk) (start : Id) (h : Linked start xs) : Linked start (xs.take n) := by
  rw [← List.take_append_drop n xs, linked_append] at h; exact h.1

theorem linked_getElem_prev (c : List Blk) (start : Id) (hl : Linked start c) (i : Nat) (hi : i < c.length) :
    c[i].prev = lastIdFrom start (c.take i) := by
  rw [← List.take_append_drop i c, linked_append, List.drop_eq_getElem_cons hi] at hl
  exact hl.2.1

theorem heightsOK_append {xs ys : List Blk} : HeightsOK (xs ++ ys) ↔ HeightsOK xs ∧ HeightsOK ys := by
  simp only [HeightsOK, List.mem_append, or_imp, forall_and]

theorem heightsOK_take {xs : List Blk} (n : Nat) (h : HeightsOK xs) : HeightsOK (xs.take n) :=
  fun b hb => h b (List.mem_of_mem_take hb)

theorem prev_height {b : Blk} {start : Id} (hp : b.prev = start) (h0 : b.height ≠ 0) : b.height = start.2 + 1 := by
  subst hp
  simp only [Blk.prev, h0, if_false]
  exact (Nat.sub_add_cancel (Nat.pos_of_ne_zero h0)).symm

theorem linked_heights : ∀ (xs : List Blk) (start : Id), Linked start xs → HeightsOK xs →
    ∀ (i : Nat) (h : i < xs.length), xs[i].height = start.2 + 1 + i
  | x :: _, _, hl, hh, 0, _ => prev_height hl.1 (hh x List.mem_cons_self)
  | x :: xs, start, hl, hh, i + 1, h => by
    rw [List.getElem_cons_succ, linked_heights xs x.id hl.2 (fun b hb => hh b (List.mem_cons_of_mem _ hb)) i
      (Nat.lt_of_succ_lt_succ h), show x.id.2 = x.height from rfl, prev_height hl.1 (hh x List.mem_cons_self)]
    omega

theorem linked_mem_height (xs : List Blk) (start : Id) (hl : Linked start xs) (hh : HeightsOK xs) :
    ∀ b ∈ xs, start.2 < b.height ∧ b.height ≤ start.2 + xs.length := by
  intro b hb
  obtain ⟨i, hi, rfl⟩ := List.getElem_of_mem hb
  have := linked_heights xs start hl hh i hi
  omega

theorem linked_pairwise {xs : List Blk} {start : Id} (hl : Linked start xs) (hh : HeightsOK xs) :
    xs.Pairwise (fun a b => a.height < b.height) :=
  List.pairwise_iff_getElem.mpr fun i j hi hj hij => by
    rw [linked_heights xs start hl hh i hi, linked_heights xs start hl hh j hj]; omega
theorem linked_last_height : ∀ (xs : List Blk) (start : Id), Linked start xs → HeightsOK xs →
    (lastIdFrom start xs).2 = start.2 + xs.length
  | [], _, _, _ => rfl
  | x :: xs, start, hl, hh => by
    rw [lastIdFrom_cons, linked_last_height xs x.id hl.2 (fun b hb => hh b (List.mem_cons_of_mem _ hb)),
      show x.id.2 = x.height from rfl, prev_height hl.1 (hh x List.mem_cons_self), List.length_cons]
    omega

/-- identifiers along a chain are told apart by their heights: a proper prefix does not end where the chain ends -/
theorem lastIdFrom_append_ne {start : Id} {xs ys : List Blk} (hl : Linked start (xs ++ ys)) (hh : HeightsOK (xs ++ ys))
    (hne : ys ≠ []) : lastIdFrom start (xs ++ ys) ≠ lastIdFrom start xs := by
  intro he
  have h1 := linked_last_height _ _ hl hh
  rw [he, linked_last_height _ _ ((linked_append _ _ _).mp hl).1 (heightsOK_append.mp hh).1, List.length_append] at h1
  exact hne (List.eq_nil_of_length_eq_zero (Nat.add_left_cancel (k := 0) (Nat.add_left_cancel h1).symm))

theorem byHeight_append (xs ys : List Blk) (h : Nat) :
    byHeight (xs ++ ys) h = (byHeight ys h).or (byHeight xs h) := by
  simp [byHeight, List.find?_append]

theorem byHeight_cons (x : Blk) (xs : List Blk) (h : Nat) :
    byHeight (x :: xs) h = (byHeight xs h).or (if x.height = h then some x else none) := by
  simp only [byHeight, List.reverse_cons, List.find?_append, List.find?_cons, List.find?_nil]
  split <;> simp_all

theorem byHeight_none (ys : List Blk) (h : Nat) (hn : ∀ b ∈ ys, b.height ≠ h) : byHeight ys h = none :=
  List.find?_eq_none.2 fun b hb => by simpa using hn b (List.mem_reverse.1 hb)

theorem byHeight_some {c : List Blk} {h : Nat} {b : Blk} (hb : byHeight c h = some b) : b ∈ c ∧ b.height = h :=
  ⟨List.mem_reverse.1 (List.mem_of_find?_eq_some hb), by simpa using List.find?_some hb⟩

theorem byHeight_low (xs : List Blk) (start : Id) (hl : Linked start xs) (hh : HeightsOK xs) (h : Nat)
    (hle : h ≤ start.2) : byHeight xs h = none :=
  byHeight_none xs h fun b hb => by have := (linked_mem_height xs start hl hh b hb).1; omega

theorem byHeight_linked : ∀ (xs : List Blk) (start : Id), Linked start xs → HeightsOK xs → ∀ i,
    byHeight xs (start.2 + 1 + i) = xs[i]?
  | [], _, _, _, _ => rfl
  | x :: xs, start, hl, hh, i => by
    have hx : x.height = start.2 + 1 := prev_height hl.1 (hh x (by simp))
    have hh' : HeightsOK xs := fun b hb => hh b (by simp [hb])
    rw [byHeight_cons]
    cases i with
    | zero => rw [byHeight_low xs x.id hl.2 hh' _ (by simp only [Blk.id]; omega), if_pos hx]; rfl
    | succ i =>
      have e : start.2 + 1 + (i + 1) = x.id.2 + 1 + i := by simp only [Blk.id, hx]; omega
      rw [if_neg (by omega), e, byHeight_linked xs x.id hl.2 hh' i, Option.or_none, List.getElem?_cons_succ]

theorem byHeight_chain_eq (c : List Blk) (hl : Linked zeroId c) (hh : HeightsOK c) (i : Nat) :
    byHeight c (i + 1) = c[i]? := by
  have := byHeight_linked c zeroId hl hh i
  rwa [show zeroId.2 + 1 + i = i + 1 by simp only [zeroId]; omega] at this

theorem byHeight_chain (c : List Blk) (hl : Linked zeroId c) (hh : HeightsOK c) (i : Nat) (hi : i < c.length) :
    byHeight c (i + 1) = some c[i] := by
  rw [byHeight_chain_eq c hl hh, List.getElem?_eq_getElem hi]

theorem chain_last_height (c : List Blk) (hl : Linked zeroId c) (hh : HeightsOK c) : (lastId c).2 = c.length := by
  have := linked_last_height c zeroId hl hh
  rwa [show zeroId.2 = 0 from rfl, Nat.zero_add] at this

theorem ne_lastId_of_lt {c : List Blk} (hl : Linked zeroId c) (hh : HeightsOK c) {i : Id} (h : i.2 < c.length) :
    i ≠ lastId c :=
  fun he => Nat.lt_irrefl _ (by rwa [he, chain_last_height c hl hh] at h)

theorem lastIdFrom_take_succ (start : Id) (c : List Blk) (i : Nat) (hi : i < c.length) :
    lastIdFrom start (c.take (i + 1)) = c[i].id := by
  rw [List.take_succ_eq_append_getElem hi, lastIdFrom_concat]

theorem uncommittedOf_chain (c : List Blk) (hl : Linked zeroId c) (hh : HeightsOK c) (k : Nat) :
    ∀ n, k + n ≤ c.length → uncommittedOf c (k + 1) n = some ((c.drop k).take n)
  | 0, _ => by simp [uncommittedOf]
  | n + 1, hn => by
    have hb := byHeight_chain c hl hh (k + n) (by omega)
    rw [show k + n + 1 = k + 1 + n by omega] at hb
    unfold uncommittedOf
    simp only [hb, uncommittedOf_chain c hl hh k n (by omega), Option.bind_eq_bind, Option.bind_some, Option.pure_def,
      Option.some.injEq]
    rw [List.take_succ_eq_append_getElem (by simp only [List.length_drop]; omega), List.getElem_drop]

/-- what `rebuild` and `getUncommittedAccountBlocksByAddress` read from a chain: everything above height `k` -/
theorem uncommittedOf_above (c : List Blk) (hl : Linked zeroId c) (hh : HeightsOK c) (k : Nat) :
    uncommittedOf c (k + 1) ((lastId c).2 + 1 - (k + 1)) = some (c.drop k) := by
  rw [chain_last_height c hl hh]
  by_cases hk : k ≤ c.length
  · rw [uncommittedOf_chain c hl hh k _ (by omega), List.take_of_length_le (by simp only [List.length_drop]; omega)]
  · rw [show c.length + 1 - (k + 1) = 0 by omega, List.drop_eq_nil_of_le (by omega)]; rfl

/-- no block is a ContractSend: what makes the filter in `rebuild` (which drops them) keep every pooled block -/
def NoCS (xs : List Blk) : Prop := ∀ b ∈ xs, isContractSend b.btype = false

/-- the shape of a manager built on the chain `conf`: its pooled blocks are one chain on top of `conf`, none of them a
    ContractSend (those travel as descendants of a contract receive only) -/
def MgrOK (conf : List Blk) (m : Mgr) : Prop :=
  m.base = conf ∧ Linked (lastId conf) m.pooled ∧ HeightsOK m.pooled ∧ NoCS m.pooled

theorem frontierId_eq (m : Mgr) : m.frontierId = lastIdFrom (lastId m.base) m.pooled := lastId_append _ _

theorem fresh_ok (conf : List Blk) : MgrOK conf ⟨conf, []⟩ :=
  ⟨rfl, trivial, fun _ hb => (by cases hb), fun _ hb => (by cases hb)⟩

theorem MgrOK.take {conf : List Blk} {m : Mgr} (hm : MgrOK conf m) (j : Nat) :
    MgrOK conf { m with pooled := m.pooled.take j } :=
  ⟨hm.1, linked_take j _ _ hm.2.1, heightsOK_take j hm.2.2.1, fun b hb => hm.2.2.2 b (List.mem_of_mem_take hb)⟩

theorem MgrOK.concat {conf : List Blk} {m : Mgr} {b : Blk} (hm : MgrOK conf m) (hb : b.height ≠ 0)
    (hcs : isContractSend b.btype = false) (hp : b.prev = m.frontierId) :
    MgrOK conf { m with pooled := m.pooled ++ [b] } :=
  ⟨hm.1, (linked_append _ _ _).mpr ⟨hm.2.1, by rw [hp, frontierId_eq, hm.1], trivial⟩,
    heightsOK_append.mpr ⟨hm.2.2.1, fun x hx => List.mem_singleton.mp hx ▸ hb⟩,
    fun x hx => (List.mem_append.mp hx).elim (hm.2.2.2 x) fun h => List.mem_singleton.mp h ▸ hcs⟩

theorem add_eq_some {m m' : Mgr} {b : Blk} (h : m.add b = some m') :
    b.prev = m.frontierId ∧ m' = { m with pooled := m.pooled ++ [b] } := by
  unfold Mgr.add at h
  split at h
  · exact ⟨‹_›, (Option.some.inj h).symm⟩
  · cases h

theorem pop_eq_some {m m' : Mgr} (h : m.pop = some m') : m' = { m with pooled := m.pooled.dropLast } := by
  unfold Mgr.pop at h
  split at h
  · cases h
  · exact (Option.some.inj h).symm

theorem rollbackTo_take (prev : Id) (fuel : Nat) (m : Mgr) :
    ∃ j, (rollbackTo prev fuel m).1 = { m with pooled := m.pooled.take j } := by
  fun_induction rollbackTo prev fuel m with
  | case4 _ m _ _ hp ih =>
    obtain ⟨j, hj⟩ := ih
    exact ⟨min j (m.pooled.length - 1), by rw [hj, pop_eq_some hp, List.dropLast_eq_take, List.take_take]⟩
  | case1 m | case2 _ m | case3 _ m => exact ⟨m.pooled.length, by rw [List.take_length]⟩

theorem frontierId_add (m : Mgr) (b : Blk) : ({ m with pooled := m.pooled ++ [b] } : Mgr).frontierId = b.id := by
  rw [frontierId_eq]; exact lastIdFrom_concat _ _ _

theorem addAll_eq : ∀ (bs : List Blk) (m : Mgr),
    addAll m bs = if Linked m.frontierId bs then some { m with pooled := m.pooled ++ bs } else none
  | [], m => by simp [addAll, Linked]
  | b :: bs, m => by
    unfold addAll Mgr.add
    by_cases hp : b.prev = m.frontierId
    · simp only [hp, if_true, addAll_eq bs, frontierId_add, Linked, true_and, List.append_assoc, List.singleton_append]
    · simp only [hp, if_false, Linked, false_and]

theorem rollbackTo_reaches {conf : List Blk} : ∀ (fuel : Nat) (m : Mgr) (j : Nat), MgrOK conf m → j ≤ m.pooled.length →
    m.pooled.length - j < fuel →
    rollbackTo (lastIdFrom (lastId conf) (m.pooled.take j)) fuel m = ({ m with pooled := m.pooled.take j }, true)
  | 0, _, _, _, _, hf => by omega
  | fuel + 1, m, j, hm, hj, hf => by
    have ⟨hb, hl, hh, _⟩ := hm
    unfold rollbackTo
    by_cases hjl : j = m.pooled.length
    · rw [if_pos (by rw [frontierId_eq, hb, hjl, List.take_length]), hjl, List.take_length]
    · -- below the top the frontier is not yet the target, nor the stable identifier
      have hne : ∀ k, k < m.pooled.length → m.frontierId ≠ lastIdFrom (lastId conf) (m.pooled.take k) := by
        intro k hk
        rw [frontierId_eq, hb]
        have := lastIdFrom_append_ne (xs := m.pooled.take k) (ys := m.pooled.drop k)
          (by rwa [List.take_append_drop]) (by rwa [List.take_append_drop])
          (by simp only [ne_eq, List.drop_eq_nil_iff]; omega)
        rwa [List.take_append_drop] at this
      have hpop : m.pop = some { m with pooled := m.pooled.take (m.pooled.length - 1) } := by
        unfold Mgr.pop
        rw [if_neg (fun he => hne 0 (by omega) (hb ▸ he.symm)), List.dropLast_eq_take]
      rw [if_neg (hne j (by omega)), hpop]
      have hlen : (m.pooled.take (m.pooled.length - 1)).length = m.pooled.length - 1 := by
        rw [List.length_take]; exact Nat.min_eq_left (Nat.sub_le _ _)
      have ih := rollbackTo_reaches fuel _ j (hm.take (m.pooled.length - 1))
        (by simp only [hlen]; omega) (by simp only [hlen]; omega)
      simp only [List.take_take, Nat.min_eq_left (show j ≤ m.pooled.length - 1 by omega)] at ih
      exact ih
/-- over a chain, `canRollback` lets a block pass iff it lies above the stable height and its `Previous()` is the
    identifier the chain has just below the block's height (the zero identifier for a first block) -/
theorem canRollback_eq_none_iff {s : PState} {m : Mgr} {b : Blk} (hl : Linked zeroId (m.base ++ m.pooled))
    (hh : HeightsOK (m.base ++ m.pooled)) (hb : b.height ≠ 0) :
    canRollback s m b = none ↔ (lastId s.confirmed).2 < b.height ∧ b.height - 1 ≤ (m.base ++ m.pooled).length ∧
      b.prev = lastId ((m.base ++ m.pooled).take (b.height - 1)) := by
  unfold canRollback
  generalize m.base ++ m.pooled = view at hl hh ⊢
  obtain ⟨k, hk⟩ : ∃ k, b.height = k + 1 := ⟨b.height - 1, by omega⟩
  have hp2 : b.prev.2 = k := by simp [Blk.prev, hk]
  rw [hk, Nat.add_sub_cancel, hp2]
  by_cases h0 : (lastId s.confirmed).2 ≥ k + 1
  · rw [if_pos h0]; exact ⟨nofun, fun h => absurd h.1 (by omega)⟩
  · rw [if_neg h0]
    cases k with
    | zero =>
      simp only [Nat.zero_add, true_and, List.take_zero, Nat.zero_le]
      rw [show byHeight view 0 = none from byHeight_low view zeroId hl hh 0 (Nat.zero_le _)]
      by_cases hz : b.prev = zeroId
      · rw [if_pos hz]; exact ⟨fun _ => ⟨by omega, hz⟩, fun _ => rfl⟩
      · simp only [hz, if_false]; exact ⟨nofun, fun h => absurd h.2 hz⟩
    | succ i =>
      rw [if_neg (by omega), byHeight_chain_eq view hl hh i]
      by_cases hi : i < view.length
      · rw [List.getElem?_eq_getElem hi, show lastId (view.take (i + 1)) = _ from lastIdFrom_take_succ zeroId view i hi]
        simp only [ne_eq, ite_not]
        constructor
        · intro h; split at h
          · rename_i he; exact ⟨by omega, by omega, he.symm⟩
          · cases h
        · intro h; rw [if_pos h.2.2.symm]
      · rw [List.getElem?_eq_none (by omega)]
        exact ⟨nofun, fun h => absurd h.2.1 (by omega)⟩

theorem canRollback_ne_nilDeref (s : PState) (m : Mgr) (b : Blk) : canRollback s m b ≠ some .nilDeref := by
  fun_cases canRollback s m b <;> nofun

/-- the branches of `addBlock`: the manager stays as it was, gets the block on top, is cut by the rollback loop, or is cut
    and gets the block on top; the nil dereference is met only when the block is not a fast-forward, `canRollback` lets
    it pass and the frontier store has no block at its height -/
theorem addBlock_cases (s : PState) (b : Blk) (f : Bool) :
    ∃ m' r, addBlock s b f = ({ s with mgr := some m' }, r) ∧
      (m' = s.manager ∨ s.manager.add b = some m' ∨
       m' = (rollbackTo b.prev (s.manager.pooled.length + 1) s.manager).1 ∨
       (rollbackTo b.prev (s.manager.pooled.length + 1) s.manager).1.add b = some m') ∧
      (r = .nilDeref → b.prev ≠ s.manager.frontierId ∧ canRollback s s.manager b = none ∧
        byHeight (s.manager.base ++ s.manager.pooled) b.height = none) := by
  fun_cases addBlock s b f
  case case1 _ _ ha => exact ⟨_, _, rfl, .inr (.inl ha), nofun⟩
  case case4 _ _ _ hcr => exact ⟨_, _, rfl, .inl rfl, fun he => absurd (he ▸ hcr) (canRollback_ne_nilDeref s _ b)⟩
  case case5 hff _ _ hcr htb => exact ⟨_, _, rfl, .inl rfl, fun _ => ⟨hff, hcr, htb⟩⟩
  case case8 hr _ => exact ⟨_, _, rfl, .inr (.inr (.inl (by rw [hr]))), nofun⟩
  case case9 hr _ _ ha => exact ⟨_, _, rfl, .inr (.inr (.inr (by rw [hr]; exact ha))), nofun⟩
  case case10 hr _ _ => exact ⟨_, _, rfl, .inr (.inr (.inl (by rw [hr]))), nofun⟩
  -- every other branch leaves the manager as it was
  all_goals exact ⟨_, _, rfl, .inl rfl, nofun⟩

theorem addBlock_confirmed (s : PState) (b : Blk) (f : Bool) : (addBlock s b f).1.confirmed = s.confirmed := by
  obtain ⟨_, _, h, _⟩ := addBlock_cases s b f
  rw [h]

/-- the invariant of the pool of one address, kept by every operation that satisfies `OpOK`: the stable chain is a chain
    from the zero identifier and the manager, once created, is built on exactly that chain (`MgrOK`). Everything in
    Props/C14.lean about reachable states uses only this. -/
def Inv (s : PState) : Prop :=
  Linked zeroId s.confirmed ∧ HeightsOK s.confirmed ∧ ∀ m, s.mgr = some m → MgrOK s.confirmed m

/-- what the callers guarantee about an operation: blocks have height ≥ 1 (verifier) and a block added on its own is
    not a ContractSend (`Supervisor.ApplyBlock` refuses them; they only travel as descendants of a contract receive); a
    momentum extends the account chain by blocks that link to it (chain insert) -/
def OpOK (s : PState) : Op → Prop
  | .add b _ => b.height ≠ 0 ∧ isContractSend b.btype = false
  | .insert nb => Linked (lastId s.confirmed) nb ∧ HeightsOK nb
  | .delete _ => True

instance (s : PState) (op : Op) : Decidable (OpOK s op) := by
  cases op <;> unfold OpOK <;> infer_instance

/-- states reachable from a confirmed chain `c0` with an empty pool -/
inductive Reachable (c0 : List Blk) : PState → Prop
  | init : Linked zeroId c0 → HeightsOK c0 → Reachable c0 ⟨c0, none⟩
  | step {s : PState} (op : Op) : Reachable c0 s → OpOK s op → Reachable c0 (step s op)

theorem manager_ok {s : PState} (h : Inv s) : MgrOK s.confirmed s.manager := by
  unfold PState.manager
  cases hm : s.mgr with
  | none => exact fresh_ok _
  | some m => exact h.2.2 m hm

theorem view_chain {s : PState} (h : Inv s) :
    Linked zeroId (s.manager.base ++ s.manager.pooled) ∧ HeightsOK (s.manager.base ++ s.manager.pooled) := by
  obtain ⟨h1, h2, h3, _⟩ := manager_ok h
  rw [h1]
  exact ⟨(linked_append _ _ _).mpr ⟨h.1, h2⟩, heightsOK_append.mpr ⟨h.2.1, h3⟩⟩

theorem addBlock_inv {s : PState} (h : Inv s) (b : Blk) (f : Bool) (hb : b.height ≠ 0)
    (hcs : isContractSend b.btype = false) : Inv (addBlock s b f).1 := by
  have hm := manager_ok h
  obtain ⟨j, hj⟩ := rollbackTo_take b.prev (s.manager.pooled.length + 1) s.manager
  have hr := hm.take j
  rw [← hj] at hr
  obtain ⟨m', _, he, hc, _⟩ := addBlock_cases s b f
  rw [he]
  refine ⟨h.1, h.2.1, fun m hm' => ?_⟩
  cases hm'
  rcases hc with rfl | ha | rfl | ha
  · exact hm
  · obtain ⟨hp, rfl⟩ := add_eq_some ha; exact hm.concat hb hcs hp
  · exact hr
  · obtain ⟨hp, rfl⟩ := add_eq_some ha; exact hr.concat hb hcs hp

/-- `rebuild` after a momentum that extends the confirmed chain by `nb`: the pooled blocks above the new confirmed height
    stay if there are any and they link to the new confirmed frontier, else the manager is dropped; no height is
    missing on the way -/
theorem insertMomentum_eq {s : PState} (h : Inv s) (nb : List Blk) (hl : Linked (lastId s.confirmed) nb)
    (hh : HeightsOK nb) :
    ∃ r, r ≠ .nilDeref ∧ insertMomentum s nb =
      (⟨s.confirmed ++ nb,
        if s.manager.pooled.drop nb.length ≠ [] ∧ Linked (lastId (s.confirmed ++ nb)) (s.manager.pooled.drop nb.length)
        then some ⟨s.confirmed ++ nb, s.manager.pooled.drop nb.length⟩ else none⟩, r) := by
  cases hm : s.mgr with
  | none => exact ⟨.noManager, nofun, by simp [insertMomentum, hm, PState.manager]⟩
  | some old =>
    obtain ⟨hb, hlp, hhp, hnocs⟩ := h.2.2 old hm
    have hv := view_chain h
    have hp : s.manager = old := by simp [PState.manager, hm]
    rw [hp] at hv ⊢
    have hc : Linked zeroId (s.confirmed ++ nb) := (linked_append nb s.confirmed zeroId).mpr ⟨h.1, hl⟩
    have hhc : HeightsOK (s.confirmed ++ nb) := heightsOK_append.mpr ⟨h.2.1, hh⟩
    have hunc := uncommittedOf_above _ hv.1 hv.2 (lastId (s.confirmed ++ nb)).2
    have hd : (old.base ++ old.pooled).drop (lastId (s.confirmed ++ nb)).2 = old.pooled.drop nb.length := by
      rw [chain_last_height _ hc hhc, hb, List.length_append, List.drop_length_add_append]
    rw [hd] at hunc
    simp only [insertMomentum, hm, hunc]
    -- no pooled block is a ContractSend, so the filter of `rebuild` keeps the slice as it is
    have hfilter : (old.pooled.drop nb.length).filter (fun b => !isContractSend b.btype) = old.pooled.drop nb.length :=
      List.filter_eq_self.mpr fun x hx => by rw [hnocs x (List.mem_of_mem_drop hx)]; rfl
    generalize old.pooled.drop nb.length = rest at hfilter ⊢
    cases rest with
    | nil => exact ⟨.emptied, nofun, by simp⟩
    | cons b bs =>
      simp only [hfilter, addAll_eq, show (⟨s.confirmed ++ nb, []⟩ : Mgr).frontierId = lastId (s.confirmed ++ nb) by
        simp [Mgr.frontierId]]
      by_cases hlk : Linked (lastId (s.confirmed ++ nb)) (b :: bs)
      · exact ⟨.rebuilt, nofun, by simp [hlk]⟩
      · exact ⟨.failed, nofun, by simp [hlk]⟩

theorem insertMomentum_inv {s : PState} (h : Inv s) (nb : List Blk) (hl : Linked (lastId s.confirmed) nb)
    (hh : HeightsOK nb) : Inv (insertMomentum s nb).1 := by
  obtain ⟨_, _, he⟩ := insertMomentum_eq h nb hl hh
  obtain ⟨_, _, hhp, hcs⟩ := manager_ok h
  rw [he]
  refine ⟨(linked_append nb s.confirmed zeroId).mpr ⟨h.1, hl⟩, heightsOK_append.mpr ⟨h.2.1, hh⟩, fun m hm => ?_⟩
  simp only at hm
  split at hm
  · cases hm
    exact ⟨rfl, ‹_ ∧ _›.2, fun b hb => hhp b (List.mem_of_mem_drop hb), fun b hb => hcs b (List.mem_of_mem_drop hb)⟩
  · cases hm

theorem reachable_inv {c0 : List Blk} {s : PState} (hr : Reachable c0 s) : Inv s := by
  induction hr with
  | init h1 h2 => exact ⟨h1, h2, nofun⟩
  | step op _ hop ih =>
    cases op with
    | add b f => exact addBlock_inv ih b f hop.1 hop.2
    | insert nb => exact insertMomentum_inv ih nb hop.1 hop.2
    | delete k => exact ⟨linked_take k _ _ ih.1, heightsOK_take k ih.2.1, nofun⟩

end ZV.Pool
