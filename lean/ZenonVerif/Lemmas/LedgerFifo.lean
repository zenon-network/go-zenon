import ZenonVerif.Lemmas.LedgerReach
/-
At-most-once receive and the FIFO discipline of contract inboxes (C04); the pending queue of a contract.
-/
namespace ZV.Ledger

variable {s s' s0 s1 s2 : State} {e : Ev} {c a : Addr} {h : Hash} {st : Nat} {ds : List Desc}
  {snd nxt x : Send} {out : TokOutcome} {t n : Tok} {toks : List (Tok × TokInfo)} {d : Desc}

/-- under the gate every send hash occurs in at most one marker on the whole ledger -/
theorem WF.recv_hashes_nodup (hw : WF s) (hg : s.gate = true) : (s.recv.map (·.2)).Nodup := by
  rw [List.Nodup, List.pairwise_map]
  refine hw.recvNodup.imp_of_mem ?_
  intro ⟨a, h⟩ ⟨b, h'⟩ hx hy hne (he : h = h')
  subst he
  exact hne (by rw [hw.marker_unique hg hx hy])

theorem WF.marker_addressee (hw : WF s) (hg : s.gate = true)
    (hm : (a, h) ∈ s.recv) : ∃ x, findSend s.sends h = some x ∧ x.dst = a := by
  obtain ⟨x, hx, hxh⟩ := List.mem_map.1 (hw.recvConfirmed _ hm)
  simp only at hxh
  refine ⟨x, ?_, hw.recvAddressee hg _ hm x hx hxh⟩
  rw [← hxh]; exact findSend_of_mem hw.sendHashes hx

theorem contains_false_iff {α : Type} [BEq α] [LawfulBEq α] {l : List α} {m : α} : l.contains m = false ↔ m ∉ l := by
  rw [← Bool.not_eq_true, List.contains_iff_mem]

theorem nextInLine_spec (hnext : nextInLine s c = some nxt) :
    nxt ∈ s.sends ∧ nxt.dst = c ∧ (c, nxt.hash) ∉ s.recv := by
  have hmem := List.mem_of_find?_eq_some hnext
  have hp := List.find?_some hnext
  simp only [Bool.and_eq_true, beq_iff_eq, Bool.not_eq_true', contains_false_iff] at hp
  exact ⟨hmem, hp.1, hp.2⟩

/-- a contract cannot receive the same send again: it is never next in line once marked -/
theorem crecv_refused_of_marker (hm : (c, h) ∈ s.recv) (st : Nat) (ds : List Desc) :
    crecv s c h st ds = .error .notNext := by
  unfold crecv
  cases hnext : nextInLine s c with
  | none => rfl
  | some nxt =>
    have hne : (nxt.hash != h) = true := by
      rw [bne_iff_ne]
      intro he
      exact (nextInLine_spec hnext).2.2 (he ▸ hm)
    dsimp -zeta only
    rw [if_pos hne]

/-- hashes received by `c`, oldest first (markers are consed, so this is the reverse) -/
def receivedBy (s : State) (c : Addr) : List Hash := ((s.recv.filter (fun m => m.1 == c)).map (·.2)).reverse

/-- hashes of the confirmed sends addressed to `c`, in confirmation order (the sequencer queue since genesis) -/
def inboxOf (s : State) (c : Addr) : List Hash := (s.sends.filter (fun x => x.dst == c)).map (·.hash)

/-- sends addressed to `c` that `c` has not received, in confirmation order (the live part of the sequencer queue) -/
def pendingFor (s : State) (c : Addr) : List Send :=
  s.sends.filter (fun x => x.dst == c && !s.recv.contains (c, x.hash))

def Fifo (s : State) : Prop := ∀ c, isEmbedded c = true → receivedBy s c <+: inboxOf s c

theorem mem_receivedBy : h ∈ receivedBy s c ↔ (c, h) ∈ s.recv := by
  simp only [receivedBy, List.mem_reverse, List.mem_map, List.mem_filter, beq_iff_eq]
  constructor
  · rintro ⟨⟨a, h'⟩, ⟨hm, ha⟩, hh⟩
    simp only at ha hh
    subst ha; subst hh; exact hm
  · intro hm
    exact ⟨(c, h), ⟨hm, rfl⟩, rfl⟩

theorem nextInLine_eq_head (s : State) (c : Addr) : nextInLine s c = (pendingFor s c).head? := by
  simp only [nextInLine, pendingFor, List.head?_filter]

/-- in a duplicate-free list whose keys start with `R`, the elements whose key is not in `R` are the rest -/
theorem filter_after_prefix {R rest : List Hash} {l : List Send} {p : Send → Bool}
    (hmap : l.map (·.hash) = R ++ rest) (hnd : (l.map (·.hash)).Nodup) (hp : ∀ x ∈ l, p x = !R.contains x.hash) :
    (l.filter p).map (·.hash) = rest := by
  obtain ⟨l1, l2, rfl, rfl, rfl⟩ := List.map_eq_append_iff.1 hmap
  rw [List.map_append, List.nodup_append] at hnd
  rw [List.filter_append, List.filter_eq_nil_iff.2, List.filter_eq_self.2, List.nil_append]
  · intro x hx
    rw [hp x (List.mem_append_right _ hx), Bool.not_eq_true', contains_false_iff]
    exact fun hR => hnd.2.2 _ hR _ (List.mem_map_of_mem hx) rfl
  · intro x hx
    rw [hp x (List.mem_append_left _ hx), Bool.not_eq_true', Bool.not_eq_false, List.contains_iff_mem]
    exact List.mem_map_of_mem hx

theorem inbox_nodup (hw : WF s) (c : Addr) : (inboxOf s c).Nodup :=
  (List.Sublist.map _ List.filter_sublist).nodup hw.sendHashes

/-- the pending queue is the queue since genesis without the received prefix -/
theorem pending_hashes (hw : WF s) {rest : List Hash}
    (hpre : inboxOf s c = receivedBy s c ++ rest) : (pendingFor s c).map (·.hash) = rest := by
  have hpf : pendingFor s c =
      (s.sends.filter (fun x => x.dst == c)).filter (fun x => !(receivedBy s c).contains x.hash) := by
    rw [pendingFor, List.filter_filter]
    refine List.filter_congr fun x _ => ?_
    rw [Bool.and_comm]
    congr 2
    rw [Bool.eq_iff_iff, List.contains_iff_mem, List.contains_iff_mem, mem_receivedBy]
  rw [hpf]
  exact filter_after_prefix hpre (inbox_nodup hw c) fun _ _ => rfl

/-- what is next in line is the entry of the queue right after the received prefix -/
theorem next_after_received (hw : WF s) {rest : List Hash}
    (hpre : inboxOf s c = receivedBy s c ++ rest) (hnext : nextInLine s c = some nxt) :
    ∃ rest', rest = nxt.hash :: rest' := by
  rw [← pending_hashes hw hpre, ← List.head?_eq_some_iff, List.head?_map, ← nextInLine_eq_head, hnext]
  rfl

theorem inboxOf_step (hok : step s e = .ok s') (c : Addr) :
    inboxOf s' c = inboxOf s c ++ (e.newSends.filter (fun x => x.dst == c)).map (·.hash) := by
  simp only [inboxOf, (step_frame hok).2.1, List.filter_append, List.map_append]

theorem receivedBy_step (hok : step s e = .ok s') (c : Addr) :
    receivedBy s' c = receivedBy s c ++ ((e.markers.filter (fun m => m.1 == c)).map (·.2)).reverse := by
  simp only [receivedBy, (step_frame hok).2.2, List.filter_append, List.map_append, List.reverse_append]

/-- the markers an accepted step adds for an embedded `c`: none, unless the step is `c`'s own contract receive -/
theorem markers_embedded (hok : step s e = .ok s') (hc : isEmbedded c = true) :
    e.markers.filter (fun m => m.1 == c) = [] ∨ ∃ h st ds, e = .crecv c h st ds := by
  cases e with
  | usend src dst tok amt h call => left; rfl
  | urecv a h =>
    left
    obtain ⟨hemb, _⟩ := urecv_ok hok
    have : (a == c) = false := by
      simp only [beq_eq_false_iff_ne, ne_eq]
      intro he; subst he; rw [hc] at hemb; cases hemb
    simp [Ev.markers, this]
  | crecv c' h st ds =>
    by_cases he : c' = c
    · right; subst he; exact ⟨h, st, ds, rfl⟩
    · left
      have : (c' == c) = false := by simpa using he
      simp [Ev.markers, this]

theorem crecv_next
    (hok : crecv s c h st ds = .ok s') : ∃ nxt, nextInLine s c = some nxt ∧ nxt.hash = h := by
  cases crecv_ok_iff.1 hok with
  | plain nxt snd hnext hh _ _ _ _ _ _ => exact ⟨nxt, hnext, hh⟩
  | token nxt snd out hnext hh _ _ _ _ _ _ _ => exact ⟨nxt, hnext, hh⟩

theorem step_fifo (hw : WF s) (hfifo : Fifo s) (hok : step s e = .ok s') : Fifo s' := by
  intro c hc
  obtain ⟨rest, hpre⟩ := hfifo c hc
  rw [inboxOf_step hok c, receivedBy_step hok c]
  generalize (e.newSends.filter (fun x => x.dst == c)).map (·.hash) = X
  rcases markers_embedded hok hc with hnone | ⟨h, st, ds, rfl⟩
  · rw [hnone]
    simp only [List.map_nil, List.reverse_nil, List.append_nil]
    exact ⟨rest ++ X, by rw [← List.append_assoc, hpre]⟩
  · obtain ⟨nxt, hnext, hh⟩ := crecv_next hok
    obtain ⟨rest', hrest⟩ := next_after_received hw hpre.symm hnext
    subst hrest
    subst hh
    simp only [Ev.markers, List.filter_cons, beq_self_eq_true, if_true, List.filter_nil, List.map_cons, List.map_nil,
      List.reverse_cons, List.reverse_nil, List.nil_append]
    refine ⟨rest' ++ X, ?_⟩
    rw [← hpre]
    simp only [List.append_assoc, List.cons_append, List.nil_append]

theorem Reach.fifo (hw : WF s0) (hf : Fifo s0) (hr : Reach s0 s) : WF s ∧ Fifo s := by
  induction hr with
  | refl => exact ⟨hw, hf⟩
  | step e _ ha hok ih => exact ⟨step_wf ih.1 ha.1 hok, step_fifo ih.1 ih.2 hok⟩

theorem fifo_init (g : Bool) : Fifo (State.init g) := by
  intro c _
  simp [receivedBy, inboxOf, State.init]

end ZV.Ledger
