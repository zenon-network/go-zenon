import ZenonVerif.Model.Kv
import ZenonVerif.Lemmas.KvLogic
import ZenonVerif.Lemmas.Bytes
/-
Sortedness of raw layers under `bytesLt` (= bytes.Compare, the goleveldb default comparer; its order laws are in
Lemmas/Bytes.lean), and the correctness of the two-way merged iterator over sorted layers (C07-T5 groundwork).

A sorted layer is determined by its lookup function (`sorted_ext`). Every operation on layers therefore gets two
lemmas, "keeps the layer sorted" and "what `rget` answers afterwards", and equations between layers and the
specifications of scans (`OrderedEntries`) are read off the lookups.
-/
namespace ZV.Kv
open ZV ZV.KvLogic

/-- a raw layer in strictly ascending key order (what memdb / leveldb iterate); implies key uniqueness -/
def Sorted (r : Raw) : Prop := r.Pairwise (fun a b => bytesLt a.1 b.1 = true)

theorem Sorted.nil : Sorted [] := List.Pairwise.nil

theorem sorted_cons {e : Bytes × Bytes} {t : Raw} :
    Sorted (e :: t) ↔ (∀ x ∈ t, bytesLt e.1 x.1 = true) ∧ Sorted t := List.pairwise_cons

theorem Sorted.tail {e : Bytes × Bytes} {t : Raw} (h : Sorted (e :: t)) : Sorted t := (sorted_cons.1 h).2

theorem Sorted.lt_of_lt_head {e : Bytes × Bytes} {t : Raw} (hs : Sorted (e :: t)) {k : Bytes}
    (h : bytesLt k e.1 = true) : ∀ x ∈ e :: t, bytesLt k x.1 = true := by
  intro x hx
  rcases List.mem_cons.1 hx with rfl | hx
  · exact h
  · exact bytesLt_trans h ((sorted_cons.1 hs).1 x hx)

theorem rget_none_iff {r : Raw} (k : Bytes) : rget r k = none ↔ ∀ v, (k, v) ∉ r := by
  fun_induction rget r k <;> grind

theorem rget_eq_none_of_lt {t : Raw} {k : Bytes} (h : ∀ x ∈ t, bytesLt k x.1 = true) : rget t k = none :=
  (rget_none_iff k).2 fun _ hm => bytesLt_ne (h _ hm) rfl

theorem mem_of_rget {r : Raw} {k v : Bytes} (h : rget r k = some v) : (k, v) ∈ r := by
  fun_induction rget r k <;> grind

theorem rget_of_mem {r : Raw} (hs : Sorted r) {k v : Bytes} (h : (k, v) ∈ r) : rget r k = some v := by
  induction r with
  | nil => cases h
  | cons e t ih =>
    obtain ⟨k', v'⟩ := e
    rw [rget_cons]
    rcases List.mem_cons.1 h with h | h
    · cases h; rw [if_pos rfl]
    · rw [if_neg (bytesLt_ne ((sorted_cons.1 hs).1 _ h)).symm]; exact ih hs.tail h

theorem mem_iff_rget {r : Raw} (hs : Sorted r) (k v : Bytes) : (k, v) ∈ r ↔ rget r k = some v :=
  ⟨rget_of_mem hs, mem_of_rget⟩

theorem Sorted.nodup {r : Raw} (hs : Sorted r) : r.Nodup :=
  List.Pairwise.imp (fun h e => bytesLt_ne h (congrArg Prod.fst e)) hs

/-- sorted layers are determined by their lookup function (canonical form) -/
theorem sorted_ext {a b : Raw} (ha : Sorted a) (hb : Sorted b) (h : ∀ k, rget a k = rget b k) : a = b :=
  List.Perm.eq_of_pairwise (fun _ _ _ _ hxy hyx => Bool.noConfusion ((bytesLt_asymm hxy).symm.trans hyx)) ha hb
    ((List.perm_ext_iff_of_nodup ha.nodup hb.nodup).2 fun ⟨k, v⟩ => by rw [mem_iff_rget ha, mem_iff_rget hb, h])

theorem mem_rput {s : Raw} {k v : Bytes} {x : Bytes × Bytes} (h : x ∈ rput s k v) : x = (k, v) ∨ x ∈ s := by
  fun_induction rput s k v <;> grind

theorem Sorted.rput {s : Raw} (hs : Sorted s) (k v : Bytes) : Sorted (rput s k v) := by
  fun_induction Kv.rput s k v with
  | case1 => exact List.pairwise_singleton _ _
  | case2 k' v' t k v h1 => exact sorted_cons.2 ⟨hs.lt_of_lt_head h1, hs⟩
  | case3 => exact sorted_cons.2 ⟨(sorted_cons.1 hs).1, hs.tail⟩
  | case4 k' v' t k v h1 h2 ih =>
    refine sorted_cons.2 ⟨fun x hx => ?_, ih hs.tail⟩
    rcases mem_rput hx with rfl | hx
    · exact ((bytesLt_total k k').resolve_left h1).resolve_left h2
    · exact (sorted_cons.1 hs).1 x hx

theorem Sorted.filter {s : Raw} (hs : Sorted s) (f : Bytes × Bytes → Bool) : Sorted (s.filter f) :=
  List.Pairwise.filter f hs

theorem Sorted.rscan {s : Raw} (hs : Sorted s) (p : Bytes) : Sorted (rscan s p) := hs.filter _

theorem Sorted.edApplyOp {s : Raw} (hs : Sorted s) (o : Op) : Sorted (edApplyOp s o) := by
  rw [edApplyOp_eq]; exact hs.rput _ _

theorem Sorted.edApply {s : Raw} (hs : Sorted s) (p : Patch) : Sorted (edApply s p) :=
  List.foldlRecOn p _ hs fun _ hb o _ => hb.edApplyOp o

theorem Sorted.woApplyOp {s : Raw} (hs : Sorted s) (o : Op) : Sorted (woApplyOp s o) := by
  rw [woApplyOp_eq]; split
  · exact hs
  · exact hs.rput _ _

theorem Sorted.woApply {s : Raw} (hs : Sorted s) (p : Patch) : Sorted (woApply s p) :=
  List.foldlRecOn p _ hs fun _ hb o _ => hb.woApplyOp o

/-- the consumer-side decoding of a scan keeps the key order: a decoded entry keeps its key -/
theorem Sorted.edEntries {s : Raw} (hs : Sorted s) : Sorted (edEntries s) := by
  have key : ∀ (a b : Bytes × Bytes), (match a.2 with | [] => none | _ :: v => some (a.1, v)) = some b → b.1 = a.1 := by
    intro a b h; split at h <;> cases h; rfl
  exact List.Pairwise.filterMap _ (fun a a' h b hb b' hb' => by rw [key a b hb, key a' b' hb']; exact h) hs

theorem rget_filter (s : Raw) (f : Bytes → Bool) (k : Bytes) :
    rget (s.filter fun e => f e.1) k = if f k = true then rget s k else none := by
  induction s with
  | nil => simp [rget]
  | cons e t ih =>
    obtain ⟨k', v⟩ := e
    rw [List.filter_cons, rget_cons]
    by_cases hk : k = k'
    · subst hk
      by_cases hf : f k = true <;> simp [hf, ih, rget_cons]
    · by_cases hf : f k' = true <;> simp [hf, hk, ih, rget_cons]

theorem rget_rscan (s : Raw) (p k : Bytes) :
    rget (rscan s p) k = if isPrefix p k = true then rget s k else none := rget_filter s (isPrefix p) k

theorem mem_rscan {s : Raw} {p : Bytes} {x : Bytes × Bytes} : x ∈ rscan s p ↔ x ∈ s ∧ isPrefix p x.1 = true := by
  simp [rscan, List.mem_filter]

theorem rscan_nil_prefix (s : Raw) : rscan s [] = s := by
  simp [rscan, isPrefix]

theorem edDecode_eq_some {x : Option Bytes} {v : Bytes} : edDecode x = some v ↔ ∃ c, x = some (c :: v) := by
  cases x with
  | none => simp [edDecode]
  | some w => cases w <;> simp [edDecode]

theorem mem_edEntries {s : Raw} {k v : Bytes} : (k, v) ∈ edEntries s ↔ ∃ c, (k, c :: v) ∈ s := by
  simp only [edEntries, List.mem_filterMap]
  constructor
  · rintro ⟨⟨k', w⟩, hm, he⟩
    cases w with
    | nil => cases he
    | cons c w => cases he; exact ⟨c, hm⟩
  · rintro ⟨c, hm⟩
    exact ⟨(k, c :: v), hm, rfl⟩

/-- on a sorted layer the delete-enabled iterator lists what the delete-enabled lookup answers -/
theorem rget_edEntries {s : Raw} (hs : Sorted s) (k : Bytes) : rget (edEntries s) k = edDecode (rget s k) := by
  induction s with
  | nil => rfl
  | cons e t ih =>
    obtain ⟨k', raw⟩ := e
    have ht := ih hs.tail
    rw [rget_cons]
    cases raw with
    | nil =>
      show rget (edEntries t) k = _
      by_cases hk : k = k'
      · rw [if_pos hk, ht, hk, rget_eq_none_of_lt (sorted_cons.1 hs).1]; rfl
      · rw [if_neg hk, ht]
    | cons c w =>
      show rget ((k', w) :: edEntries t) k = _
      rw [rget_cons, ht]
      split <;> rfl

theorem merge2_nil_right (a : Raw) : merge2 a [] = a := by
  cases a <;> simp [merge2]

theorem merge2_nil_left (b : Raw) : merge2 [] b = b := by
  simp [merge2]

theorem mem_merge2 {a b : Raw} {x : Bytes × Bytes} (h : x ∈ merge2 a b) : x ∈ a ∨ x ∈ b := by
  fun_induction merge2 a b <;> grind

theorem Sorted.merge2 {a b : Raw} (ha : Sorted a) (hb : Sorted b) : Sorted (merge2 a b) := by
  fun_induction Kv.merge2 a b with
  | case1 b => exact hb
  | case2 a ta => exact ha
  | case3 ka va ta kb vb tb hlt ih =>
    exact sorted_cons.2 ⟨fun x hx => (mem_merge2 hx).elim ((sorted_cons.1 ha).1 x) (hb.lt_of_lt_head hlt x),
      ih ha.tail hb⟩
  | case4 ka va ta kb vb tb hlt hgt ih =>
    exact sorted_cons.2 ⟨fun x hx => (mem_merge2 hx).elim (ha.lt_of_lt_head hgt x) ((sorted_cons.1 hb).1 x),
      ih ha hb.tail⟩
  | case5 ka va ta kb vb tb hlt hgt ih =>
    cases bytesLt_trichotomy (Bool.eq_false_iff.2 hlt) (Bool.eq_false_iff.2 hgt)
    exact sorted_cons.2 ⟨fun x hx => (mem_merge2 hx).elim ((sorted_cons.1 ha).1 x) ((sorted_cons.1 hb).1 x),
      ih ha.tail hb.tail⟩

/-- key/value characterisation of the merged iterator over sorted layers: it enumerates the merged lookup
    (`mergedDB.Get`: the first layer that holds the key answers) -/
theorem rget_merge2 {a b : Raw} (ha : Sorted a) (hb : Sorted b) (k : Bytes) :
    rget (merge2 a b) k = mget2 a b k := by
  fun_induction Kv.merge2 a b with
  | case1 b => rfl
  | case2 a ta => simp only [mget2]; cases rget (a :: ta) k <;> rfl
  | case3 ka va ta kb vb tb hlt ih =>
    simp only [rget_cons, ih ha.tail hb, mget2]
    split <;> rfl
  | case4 ka va ta kb vb tb hlt hgt ih =>
    rw [rget_cons, ih ha hb.tail]
    simp only [mget2, rget_cons kb]
    by_cases h : k = kb
    · rw [h, rget_eq_none_of_lt (ha.lt_of_lt_head hgt)]
    · simp only [h, if_false]
  | case5 ka va ta kb vb tb hlt hgt ih =>
    cases bytesLt_trichotomy (Bool.eq_false_iff.2 hlt) (Bool.eq_false_iff.2 hgt)
    simp only [rget_cons, ih ha.tail hb.tail, mget2]
    split <;> rfl

/-- merging commutes with any key predicate filter on sorted layers: both sides are sorted and answer alike -/
theorem merge2_filter {a b : Raw} (ha : Sorted a) (hb : Sorted b) (f : Bytes → Bool) :
    merge2 (a.filter (fun e => f e.1)) (b.filter (fun e => f e.1)) = (merge2 a b).filter (fun e => f e.1) := by
  apply sorted_ext ((ha.filter _).merge2 (hb.filter _)) ((ha.merge2 hb).filter _)
  intro k
  rw [rget_merge2 (ha.filter _) (hb.filter _), rget_filter, rget_merge2 ha hb]
  simp only [mget2, rget_filter]
  cases f k <;> rfl

/-- T5 core: the merged iterator over the prefix iterators of two sorted layers is the prefix scan of the merge -/
theorem merge2_rscan {a b : Raw} (ha : Sorted a) (hb : Sorted b) (p : Bytes) :
    merge2 (rscan a p) (rscan b p) = rscan (merge2 a b) p :=
  merge2_filter ha hb (fun k => isPrefix p k)

/-- `l` is the key-ordered enumeration of the relation `P` -/
def OrderedEntries (l : Raw) (P : Bytes → Bytes → Prop) : Prop :=
  Sorted l ∧ ∀ k v, (k, v) ∈ l ↔ P k v

/-- such an enumeration is unique: the specification pins the scan result down completely -/
theorem OrderedEntries.unique {l l' : Raw} {P : Bytes → Bytes → Prop}
    (h : OrderedEntries l P) (h' : OrderedEntries l' P) : l = l' :=
  sorted_ext h.1 h'.1 fun k => Option.ext fun v => by
    rw [← mem_iff_rget h.1, ← mem_iff_rget h'.1, h.2, h'.2]

/-- a sorted raw scan whose lookup is `get` cut down to the prefix enumerates `get` under the prefix -/
theorem OrderedEntries.of_rget {l : Raw} (hs : Sorted l) {get : Bytes → Option Bytes} {p : Bytes}
    (h : ∀ k, rget l k = if isPrefix p k = true then get k else none) :
    OrderedEntries l (fun k v => isPrefix p k = true ∧ get k = some v) := by
  refine ⟨hs, fun k v => ?_⟩
  rw [mem_iff_rget hs, h]
  by_cases hp : isPrefix p k = true <;> simp [hp]

/-- the delete-enabled iterator over such a scan enumerates the decoded `get` under the prefix -/
theorem OrderedEntries.edEntries_of_rget {l : Raw} (hs : Sorted l) {get : Bytes → Option Bytes} {p : Bytes}
    (h : ∀ k, rget l k = if isPrefix p k = true then get k else none) :
    OrderedEntries (edEntries l) (fun k v => isPrefix p k = true ∧ edDecode (get k) = some v) :=
  .of_rget hs.edEntries fun k => by rw [rget_edEntries hs, h]; split <;> rfl

theorem rget_merge2_rscan {a b : Raw} (ha : Sorted a) (hb : Sorted b) (p k : Bytes) :
    rget (merge2 (rscan a p) (rscan b p)) k = if isPrefix p k = true then mget2 a b k else none := by
  rw [merge2_rscan ha hb, rget_rscan, rget_merge2 ha hb]

theorem merged_scan_entries {a b : Raw} (ha : Sorted a) (hb : Sorted b) (p : Bytes) :
    OrderedEntries (merge2 (rscan a p) (rscan b p)) (fun k v => isPrefix p k = true ∧ mget2 a b k = some v) :=
  .of_rget ((ha.rscan p).merge2 (hb.rscan p)) (rget_merge2_rscan ha hb p)

/-- logical entries a consumer gets from a scan through the rollback overlay + enableDelete stack: the key-ordered
    list of exactly the entries of the reconstructed version under the prefix (empty values included) -/
theorem hist_scan_entries {rb base : Raw} (hrb : Sorted rb) (hbase : Sorted base) (p : Bytes) :
    OrderedEntries (edEntries (merge2 (rscan rb p) (rscan base p)))
      (fun k v => isPrefix p k = true ∧ viewOf (oabs rb) (abs base) k = some v) := by
  simpa only [edDecode_mget2] using
    OrderedEntries.edEntries_of_rget ((hrb.rscan p).merge2 (hbase.rscan p)) (rget_merge2_rscan hrb hbase p)

theorem front_scan_entries {base : Raw} (hbase : Sorted base) (p : Bytes) :
    OrderedEntries (edEntries (rscan base p)) (fun k v => isPrefix p k = true ∧ abs base k = some v) :=
  .edEntries_of_rget (hbase.rscan p) (rget_rscan base p)

end ZV.Kv
