import ZenonVerif.Model.Accept
import ZenonVerif.Lemmas.Codec
import ZenonVerif.Lemmas.Common
/-
What `Supervisor.ApplyBlock` (Model/Accept.lean) has checked and assigned when it returns `.ok s`: one inversion lemma per
stage of the pipeline, and from them the stored form of an accepted user block and of an accepted contract receive.
-/
namespace ZV.Accept
open ZV ZV.Codec

variable {e : Env} {b s : Block}

theorem blockTypeOK_user (hu : e.isEmbedded b.body.address = false) (h : blockTypeOK e b = true) :
    b.body.blockType = 3 ∨ b.body.blockType = 2 := by
  simpa [blockTypeOK, hu] using h

theorem blockTypeOK_embedded (he : e.isEmbedded b.body.address = true) (h : blockTypeOK e b = true) :
    b.body.blockType = 5 ∨ b.body.blockType = 4 := by
  simpa [blockTypeOK, he] using h

theorem enoughPlasma_embedded (he : e.isEmbedded b.body.address = true) : enoughPlasma e b = .ok b := by
  simp only [enoughPlasma, he, if_true]

theorem enoughPlasma_user (hu : e.isEmbedded b.body.address = false) (h : enoughPlasma e b = .ok s) :
    s = ⟨{ b.body with totalPlasma := (e.powPlasma b.body.difficulty + b.body.fusedPlasma) % two64,
                       basePlasma := e.basePlasma b.strip }, b.desc⟩ := by
  simp only [enoughPlasma, hu, Bool.false_eq_true, if_false, ite_error_eq_ok] at h
  exact (Except.ok.inj h.2.2.2).symm

theorem applySwitch_of_ne_receive (ht : b.body.blockType ≠ 5) (h : applySwitch e b = .ok s) : s = b := by
  simp only [applySwitch, if_neg ht] at h
  split at h
  · split at h
    · exact (Except.ok.inj h).symm
    · cases h
  · cases h

theorem applySwitch_receive (ht : b.body.blockType = 5) (h : applySwitch e b = .ok s) :
    ∃ g, e.generate b.strip = some g ∧ g.body.changesHash = b.body.changesHash ∧ abComputeHash e.H g = b.body.hash ∧
      s = ⟨{ b.body with basePlasma := g.body.basePlasma, totalPlasma := g.body.totalPlasma }, g.desc⟩ := by
  unfold applySwitch at h
  rw [if_neg (by omega), if_pos ht] at h
  split at h
  · cases h
  · rename_i g hg
    simp only [ite_error_eq_ok, ne_eq, Decidable.not_not] at h
    exact ⟨g, hg, h.1, h.2.1, (Except.ok.inj h.2.2).symm⟩

theorem txVerify_user (hu : e.isEmbedded b.body.address = false) (h : txVerify e b = .ok ()) :
    abComputeHash e.H b = b.body.hash ∧ e.verifySig b.body.publicKey b.body.hash b.body.signature = true ∧
      e.pubKeyToAddress b.body.publicKey = b.body.address ∧ b.desc = [] := by
  simp only [txVerify, hu, Bool.false_eq_true, if_false, ite_error_eq_ok, ne_eq, Decidable.not_not, Bool.not_eq_true',
    Bool.not_eq_false, Nat.not_lt, Nat.le_zero, List.length_eq_zero_iff] at h
  obtain ⟨-, hhash, -, -, hsig, haddr, hdesc, -⟩ := h
  exact ⟨hhash, hsig, haddr, hdesc⟩

theorem txVerify_embedded (he : e.isEmbedded b.body.address = true) (h : txVerify e b = .ok ()) :
    abComputeHash e.H b = b.body.hash ∧ b.body.publicKey = [] ∧ b.body.signature = [] ∧
      e.descOK (stripList b.desc) = true := by
  simp only [txVerify, he, if_true, ite_error_eq_ok, ne_eq, Decidable.not_not, Bool.not_eq_true', Bool.not_eq_false,
    List.length_eq_zero_iff] at h
  obtain ⟨-, hhash, hkey, hsig, -, hdesc, -⟩ := h
  exact ⟨hhash, hkey, hsig, hdesc⟩

/-- the stages an accepted block has passed -/
theorem applyBlock_ok (h : applyBlock e b = .ok s) :
    b.body.blockType ≠ 4 ∧ blockTypeOK e b = true ∧ e.verifierOK b.strip = true ∧
      ∃ b1, enoughPlasma e b = .ok b1 ∧ applySwitch e b1 = .ok s ∧ txVerify e s = .ok () := by
  unfold applyBlock at h
  split at h; · cases h
  rename_i h4
  split at h; · cases h
  rename_i hbt
  split at h; · cases h
  rename_i hv
  split at h; · cases h
  rename_i b1 h1
  split at h; · cases h
  rename_i b2 h2
  split at h; · cases h
  rename_i h3
  cases Except.ok.inj h
  exact ⟨h4, by simpa using hbt, by simpa using hv, b1, h1, h2, h3⟩

/-- What is stored for an accepted user block, as a function of its covered fields `c` (the block stripped) and of the three
    uncovered fields that are kept as delivered. -/
def userStored (e : Env) (c : Block) (changesHash publicKey signature : Bytes) : Block :=
  ⟨{ c.body with totalPlasma := (e.powPlasma c.body.difficulty + c.body.fusedPlasma) % two64, basePlasma := e.basePlasma c,
                 changesHash, publicKey, signature }, []⟩

theorem eraseResidue_userStored (e : Env) (c : Block) (ch pk sg : Bytes) :
    eraseResidue (userStored e c ch pk sg) = userStored e c [] pk [] := rfl

/-- what an accepted USER block is stored as, and what the transaction verifier has checked of it -/
theorem applyBlock_user (hu : e.isEmbedded b.body.address = false) (h : applyBlock e b = .ok s) :
    s = userStored e b.strip b.body.changesHash b.body.publicKey b.body.signature ∧
    b.desc = [] ∧ e.pubKeyToAddress b.body.publicKey = b.body.address ∧ b.body.hash = abComputeHash e.H b := by
  obtain ⟨h4, hbt, -, b1, h1, h2, h3⟩ := applyBlock_ok h
  cases enoughPlasma_user hu h1
  cases applySwitch_of_ne_receive (by have := blockTypeOK_user hu hbt; show b.body.blockType ≠ 5; omega) h2
  obtain ⟨hh, -, hpk, hd⟩ := txVerify_user hu h3
  obtain ⟨x, d⟩ := b
  cases (hd : d = [])
  exact ⟨rfl, rfl, hpk, hh.symm⟩

/-- what an accepted CONTRACT RECEIVE is stored as: the plasma fields and descendants of the block `g` the node regenerates,
    under the delivered hash and changes hash, which are those of `g` -/
theorem applyBlock_contract (he : e.isEmbedded b.body.address = true) (h : applyBlock e b = .ok s) :
    ∃ g, e.generate b.strip = some g ∧ g.body.changesHash = b.body.changesHash ∧ abComputeHash e.H g = b.body.hash ∧
      s = ⟨{ b.body with basePlasma := g.body.basePlasma, totalPlasma := g.body.totalPlasma }, g.desc⟩ ∧
      abComputeHash e.H s = b.body.hash ∧ b.body.publicKey = [] ∧ b.body.signature = [] := by
  obtain ⟨h4, hbt, -, b1, h1, h2, h3⟩ := applyBlock_ok h
  cases Except.ok.inj ((enoughPlasma_embedded he).symm.trans h1)
  obtain ⟨g, hg, hch, hgh, hs⟩ := applySwitch_receive (by have := blockTypeOK_embedded he hbt; omega) h2
  subst hs
  obtain ⟨hh, hpk, hsig, -⟩ := txVerify_embedded (b := ⟨_, g.desc⟩) he h3
  exact ⟨g, hg, hch, hgh, rfl, hh, hpk, hsig⟩

end ZV.Accept
