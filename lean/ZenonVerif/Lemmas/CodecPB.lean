import ZenonVerif.Model.CodecPB
import ZenonVerif.Lemmas.Codec
/-
Helper lemmas for C13, protobuf part: Proto/DeProto round trip, varint and record round trips.
-/
namespace ZV.Codec
open ZV

theorem bytesToBigInt_bigIntToBytes (a : Int) (h : 0 ≤ a) : bytesToBigInt (bigIntToBytes a) = a := by
  simp only [bytesToBigInt, beVal_bigIntToBytes]
  omega

theorem deProtoFixed_some (w : Nat) (b : Bytes) (h : b.length = w) : deProtoFixed w (some b) = some b := by
  simp [deProtoFixed, h]

theorem ABody.deProto_proto (b : ABody) (w : b.PBWF) : b.proto.deProto = some b := by
  obtain ⟨w1, w2, w3, w4, w5, w6, w7, w8, w9, w10⟩ := w
  cases b with
  | mk version chainIdentifier blockType hash previousHash height ma address toAddress amount tokenStandard
      fromBlockHash data fusedPlasma difficulty nonce basePlasma totalPlasma changesHash publicKey signature =>
  cases ma with
  | mk mah maht =>
  simp only at w1 w2 w3 w4 w5 w6 w7 w8 w9 w10
  simp [ABodyPB.deProto, ABody.proto, HashHeight.proto, deProtoHashHeight, deProtoFixed_some, *,
    bytesToBigInt_bigIntToBytes]

theorem Block.deProto_proto (b : Block) : b.PBWF → b.proto.deProto = some b := by
  induction b using Block.rec (motive_2 := fun ds => PBWFList ds → deProtoList (protoList ds) = some ds) with
  | mk body ds ih =>
    intro w
    rw [Block.PBWF] at w
    rw [Block.proto, BlockPB.deProto, ABody.deProto_proto body w.1, ih w.2]
    rfl
  | nil => rfl
  | cons d ds ihd ihds =>
    rename_i w
    rw [PBWFList] at w
    rw [protoList, deProtoList, ihd w.1, ihds w.2]
    rfl

theorem deProtoContent_proto (c : List AccountHeader)
    (w : ∀ h ∈ c, h.address.length = Gen.AddressSize ∧ h.hash.length = Gen.HashSize) :
    deProtoContent (c.map AccountHeader.proto) = some c := by
  induction c with
  | nil => rfl
  | cons h hs ih =>
    obtain ⟨wh, whs⟩ := List.forall_mem_cons.1 w
    have := ih whs
    cases h with
    | mk a hh ht =>
    simp only at wh
    simp [deProtoContent, this, deProtoAccountHeader, AccountHeader.proto, deProtoHashHeight, deProtoFixed_some, wh.1, wh.2]

theorem Momentum.deProto_proto (m : Momentum) (w : m.PBWF) : m.proto.deProto = some m := by
  obtain ⟨w1, w2, w3, w4⟩ := w
  cases m
  simp only at w1 w2 w3 w4
  simp [MomentumPB.deProto, Momentum.proto, deProtoFixed_some, deProtoContent_proto _ w3, w1, w2, w4]

theorem varintAux_fuel : ∀ (f g n : Nat), n < f → n < g → varintAux f n = varintAux g n := by
  intro f
  induction f with
  | zero => intro g n h; omega
  | succ f ih =>
    intro g n hf hg
    cases g with
    | zero => omega
    | succ g =>
      unfold varintAux
      split
      · rfl
      · next hn =>
        have : n / 128 < n := Nat.div_lt_self (by omega) (by decide)
        rw [ih g (n / 128) (by omega) (by omega)]

theorem varint_lt (n : Nat) (h : n < 128) : varint n = [n] := by
  simp [varint, varintAux, h]

theorem varint_ge (n : Nat) (h : 128 ≤ n) : varint n = (n % 128 + 128) :: varint (n / 128) := by
  have hd : n / 128 < n := Nat.div_lt_self (by omega) (by decide)
  unfold varint
  rw [varintAux]
  simp only [show ¬ n < 128 by omega, if_false]
  rw [varintAux_fuel n (n / 128 + 1) (n / 128) hd (by omega)]

theorem varint_ne_nil (n : Nat) : varint n ≠ [] := by
  by_cases h : n < 128
  · simp [varint_lt n h]
  · simp [varint_ge n (by omega)]

theorem decVarintAux_varint : ∀ (k n mult acc : Nat) (rest : Bytes), n < 2 * 128 ^ k →
    decVarintAux (k + 1) mult acc (varint n ++ rest) = some (acc + mult * n, rest) := by
  intro k
  induction k with
  | zero =>
    intro n mult acc rest h
    have h2 : n < 2 := by simpa using h
    rw [varint_lt n (by omega)]
    simp only [List.cons_append, List.nil_append, decVarintAux]
    have : ¬ (2 ≤ n) := by omega
    simp [show n < 128 by omega, this]
  | succ k ih =>
    intro n mult acc rest h
    by_cases hn : n < 128
    · rw [varint_lt n hn]
      simp [decVarintAux, hn]
    · rw [varint_ge n (by omega)]
      simp only [List.cons_append, decVarintAux]
      have hb : ¬ (n % 128 + 128 < 128) := by omega
      simp only [hb, if_false]
      have hd : n / 128 < 2 * 128 ^ k := by rw [Nat.pow_succ] at h; omega
      rw [ih (n / 128) (mult * 128) _ rest hd, Nat.add_sub_cancel, Nat.add_assoc, Nat.mul_assoc, ← Nat.mul_add,
        Nat.mod_add_div]

theorem decVarint_varint (n : Nat) (rest : Bytes) (h : n < two64) :
    decVarint (varint n ++ rest) = some (n, rest) := by
  have e : two64 = 2 * 128 ^ 9 := by rfl
  have := decVarintAux_varint 9 n 1 0 rest (by rw [← e]; exact h)
  simpa [decVarint] using this

/-- a record the Go encoder can produce and the Go decoder accepts -/
def WField.Valid (f : WField) : Prop :=
  1 ≤ f.num ∧ f.num ≤ maxFieldNumber ∧
  match f.val with
  | .varint v => v < two64
  | .len b => b.length < two64
  | .fixed wt b => (wt = 1 ∧ b.length = 8) ∨ (wt = 5 ∧ b.length = 4)

/-- a tag is a varint the decoder splits back into field number and wire type -/
theorem tag_split {num wt : Nat} (h1 : 1 ≤ num) (h2 : num ≤ maxFieldNumber) (hw : wt < 8) :
    num * 8 + wt < two64 ∧ (num * 8 + wt) / 8 = num ∧ (num * 8 + wt) % 8 = wt ∧
      ¬(num < 1 ∨ maxFieldNumber < num) := by
  simp only [two64, maxFieldNumber] at *; omega

theorem decField_encField (f : WField) (rest : Bytes) (hv : f.Valid) :
    decField (encField f ++ rest) = some (f, rest) := by
  obtain ⟨num, val⟩ := f
  obtain ⟨h1, h2, h3⟩ := hv
  cases val with
  | varint v =>
    obtain ⟨ht, e1, e2, hn⟩ := tag_split h1 h2 (show 0 < 8 by decide)
    simp only [encField, tag, List.append_assoc, decField, decVarint_varint _ _ ht, decVarint_varint _ _ h3,
      Option.bind_eq_bind, Option.bind_some, e1, e2, hn, if_false]
    rfl
  | len b =>
    obtain ⟨ht, e1, e2, hn⟩ := tag_split h1 h2 (show 2 < 8 by decide)
    simp only [encField, tag, List.append_assoc, decField, decVarint_varint _ _ ht, decVarint_varint _ _ h3,
      Option.bind_eq_bind, Option.bind_some, e1, e2, hn, if_false]
    simp
  | fixed wt b =>
    obtain ⟨ht, e1, e2, hn⟩ := tag_split h1 h2 (wt := wt) (by omega)
    simp only [encField, tag, List.append_assoc, decField, decVarint_varint _ _ ht, Option.bind_eq_bind,
      Option.bind_some, e1, e2, hn, if_false]
    rcases h3 with ⟨rfl, hb⟩ | ⟨rfl, hb⟩ <;> simp [← hb]

theorem encField_ne_nil (f : WField) : encField f ≠ [] := by
  obtain ⟨num, val⟩ := f
  cases val <;> simp [encField, tag, varint_ne_nil]

theorem encFields_cons (f : WField) (fs : List WField) : encFields (f :: fs) = encField f ++ encFields fs := by
  simp [encFields]

theorem encFields_append (xs ys : List WField) : encFields (xs ++ ys) = encFields xs ++ encFields ys := by
  simp [encFields]

theorem encFields_length_ge (fs : List WField) : fs.length ≤ (encFields fs).length := by
  induction fs with
  | nil => simp [encFields]
  | cons f fs ih =>
    rw [encFields_cons]
    have := List.length_pos_iff.mpr (encField_ne_nil f)
    simp only [List.length_append, List.length_cons]; omega

theorem decFields_encFields : ∀ (fs : List WField) (fuel : Nat), fs.length ≤ fuel → (∀ f ∈ fs, f.Valid) →
    decFields fuel (encFields fs) = some fs := by
  intro fs
  induction fs with
  | nil => intro fuel _ _; cases fuel <;> simp [encFields, decFields]
  | cons f fs ih =>
    intro fuel hl hv
    cases fuel with
    | zero => simp at hl
    | succ fuel =>
      rw [encFields_cons]
      have hne := encField_ne_nil f
      cases hc : encField f ++ encFields fs with
      | nil => simp at hc; exact absurd hc.1 hne
      | cons x xs =>
        rw [decFields]
        · rw [← hc, decField_encField f _ (hv f (by simp))]
          simp only [Option.bind_eq_bind, Option.bind_some]
          rw [ih fuel (by simpa using hl) (fun g hg => hv g (by simp [hg]))]
          rfl
        · intro h; cases h

/-- generic decoder round trip: a sequence of valid records (varint and length-delimited fields in any
    order, any field numbers) is parsed back exactly -/
theorem parseFields_encFields (fs : List WField) (hv : ∀ f ∈ fs, f.Valid) :
    parseFields (encFields fs) = some fs :=
  decFields_encFields fs _ (encFields_length_ge fs) hv

end ZV.Codec
