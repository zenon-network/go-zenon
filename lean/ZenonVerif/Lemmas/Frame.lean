import ZenonVerif.Model.Frame
import ZenonVerif.Lemmas.CodecRLP
/-
Helper lemmas for C15 (frames and discovery packets): the reader of Model/Frame.lean on a stream that starts with
16 + 16 header bytes, a frame body and 16 MAC bytes, whatever they are; code encoding round trip; RLP sizes.
-/
namespace ZV.Frame
open ZV

theorem macLen_eq : macLen = 16 := rfl
theorem headerLen_eq : headerLen = 32 := rfl
theorem maxUint24_eq : maxUint24 = 16777215 := rfl

theorem goSlice_ok (b : Bytes) (lo hi : Nat) (h1 : lo ≤ hi) (h2 : hi ≤ b.length) :
    goSlice b lo hi = .ok ((b.drop lo).take (hi - lo)) := by
  unfold goSlice; rw [if_pos ⟨h1, h2⟩]

theorem goIndex_ok (b : Bytes) (i : Nat) (h : i < b.length) : goIndex b i = .ok (b.getD i 0) := by
  unfold goIndex; rw [if_pos h]

theorem goSliceFrom_ok (b : Bytes) (lo : Nat) (h : lo ≤ b.length) : goSliceFrom b lo = .ok (b.drop lo) := by
  unfold goSliceFrom
  rw [goSlice_ok _ _ _ h (Nat.le_refl _), List.take_of_length_le (by rw [List.length_drop]; omega)]

theorem updateMAC_eq_tag {μ κ : Type} {C : Crypto μ κ} (L : Lawful C) (m : μ) (seed : Bytes)
    (h : 16 ≤ seed.length) : updateMAC C m seed = .ok (tag C m seed) := by
  unfold updateMAC tag
  have e2 : Gen.FrAesBlockSize = 16 := rfl
  rw [if_neg (by rw [L.sum_len]; decide), if_neg (by omega)]
  simp only []
  rw [goSlice_ok _ 0 macLen (Nat.zero_le _) (by rw [L.sum_len]; decide)]
  simp

theorem tag_len {μ κ : Type} {C : Crypto μ κ} (L : Lawful C) (m : μ) (seed : Bytes) :
    (tag C m seed).2.length = 16 := by
  unfold tag
  simp only [List.length_take, L.sum_len]
  decide

theorem readInt24_ok (b : Bytes) (h : 2 < b.length) :
    readInt24 b = .ok (b.getD 2 0 + b.getD 1 0 * 256 + b.getD 0 0 * 65536) := by
  unfold readInt24
  rw [goIndex_ok _ 2 h, goIndex_ok _ 1 (by omega), goIndex_ok _ 0 (by omega)]

theorem readInt24_putInt24 (v : Nat) (h : v < 16777216) (rest : Bytes) :
    readInt24 (putInt24 v ++ rest) = .ok v := by
  rw [readInt24_ok _ (by simp [putInt24])]
  simp [putInt24]
  omega

theorem readInt24_lt (b : Bytes) (hb : b.WF) (v : Nat) (h : readInt24 b = .ok v) : v < 16777216 := by
  by_cases h2 : 2 < b.length
  · rw [readInt24_ok b h2] at h
    cases h
    have w : ∀ i, i < b.length → b.getD i 0 < 256 := by
      intro i hi
      rw [List.getD_eq_getElem?_getD, List.getElem?_eq_getElem hi]
      exact hb _ (List.getElem_mem hi)
    have := w 0 (by omega); have := w 1 (by omega); have := w 2 h2
    omega
  · unfold readInt24 goIndex at h
    rw [if_neg h2] at h
    simp at h

theorem decodeCode_str (nb p : Bytes) (hl1 : 0 < nb.length) (hl8 : nb.length ≤ 8) (hh : nb.headD 0 ≠ 0)
    (h128 : nb.length = 1 → 128 ≤ nb.headD 0) :
    decodeCode ((128 + nb.length) :: (nb ++ p)) = some (beVal nb, p) := by
  have hhd : (nb ++ p).headD 0 = nb.headD 0 := by
    cases nb with
    | nil => cases hl1
    | cons a t => rfl
  have e : 128 + nb.length - 128 = nb.length := by omega
  simp only [decodeCode, e, hhd, List.length_append]
  rw [if_neg (by omega), if_pos (by omega), if_neg (by omega), if_neg (by omega), if_neg (by omega)]
  by_cases h1 : nb.length = 1
  · have := h128 h1
    rw [if_pos h1, if_neg (by omega)]
    obtain ⟨a, rfl⟩ := List.length_eq_one_iff.mp h1
    simp [beVal, leVal]
  · rw [if_neg h1, if_neg hh]
    simp
theorem decodeCode_encodeCode (code : Nat) (h : code < two64) (p : Bytes) :
    decodeCode (encodeCode code ++ p) = some (code, p) := by
  unfold encodeCode
  by_cases h0 : code = 0
  · subst h0; simp [decodeCode]
  · rw [if_neg h0]
    by_cases h1 : code < 128
    · rw [if_pos h1]; simp [decodeCode, h1, h0]
    · rw [if_neg h1]
      have hv := Codec.beVal_natBytesBE code
      have := decodeCode_str (Codec.natBytesBE code) p (Codec.natBytesBE_length_pos code h0)
        (Codec.natBytesBE_length_le8 code h) (Codec.natBytesBE_head code h0) (by
        intro h1'
        obtain ⟨a, ha⟩ := List.length_eq_one_iff.mp h1'
        rw [ha] at hv ⊢
        simp [beVal, leVal] at hv
        simp; omega)
      rw [hv] at this
      simpa using this

theorem readFull_append (a rest : Bytes) (n : Nat) (h : a.length = n) :
    readFull (a ++ rest) n = some (a, rest) := by
  unfold readFull
  rw [if_neg (by simp; omega)]
  subst h
  simp

theorem readFull_short (inp : Bytes) (n : Nat) (h : inp.length < n) : readFull inp n = none := by
  unfold readFull; rw [if_pos h]

theorem readFull_some (inp : Bytes) (n : Nat) (h : n ≤ inp.length) :
    readFull inp n = some (inp.take n, inp.drop n) := by
  unfold readFull; rw [if_neg (by omega)]

variable {μ κ : Type} {C : Crypto μ κ}

theorem readHeader_split (L : Lawful C) (st : RW μ κ) (h16 t X : Bytes) (h1 : h16.length = 16) (h2 : t.length = 16) :
    readHeader C st (h16 ++ t ++ X) =
      if (tag C st.mac h16).2 ≠ t then .reject .badHeaderMAC
      else match readInt24 (C.dec st.ks h16).2 with
        | .panic => .panic
        | .ok fsize => .hdr (tag C st.mac h16).1 (C.dec st.ks h16).1 fsize X := by
  unfold readHeader
  rw [readFull_append (h16 ++ t) X headerLen (by simp [h1, h2, headerLen_eq])]
  simp only []
  have hl : h16.length = macLen := h1
  rw [goSlice_ok _ _ _ (Nat.zero_le _) (by simp [hl]), goSliceFrom_ok _ _ (by simp [hl]), List.drop_zero, Nat.sub_zero,
    List.take_left' hl, List.drop_left' hl]
  simp only []
  rw [updateMAC_eq_tag L _ _ (by omega)]
  rfl

theorem readHeader_short (st : RW μ κ) (inp : Bytes) (h : inp.length < 32) : readHeader C st inp = .needMore := by
  unfold readHeader
  rw [readFull_short _ _ (by rw [headerLen_eq]; exact h)]

theorem readBody_short (m1 : μ) (k1 : κ) (fsize : Nat) (inp : Bytes) (h : inp.length < roundUp16 fsize + 16) :
    readBody C m1 k1 fsize inp = .needMore := by
  unfold readBody
  by_cases h1 : inp.length < roundUp16 fsize
  · rw [readFull_short _ _ h1]
  · rw [readFull_some _ _ (by omega)]
    simp only []
    rw [readFull_short _ _ (by simp [macLen_eq]; omega)]

theorem le_roundUp16 (f : Nat) : f ≤ roundUp16 f := by
  unfold roundUp16; split <;> omega

theorem readBody_split (L : Lawful C) (m1 : μ) (k1 : κ) (fsize : Nat) (fb fm rest : Bytes)
    (h1 : fb.length = roundUp16 fsize) (h2 : fm.length = 16) :
    readBody C m1 k1 fsize (fb ++ fm ++ rest) =
      if (tag C (C.write m1 fb) (C.sum (C.write m1 fb))).2 ≠ fm then .reject .badFrameMAC
      else match decodeCode ((C.dec k1 fb).2.take fsize) with
        | none => .reject .badCode
        | some (code, payload) =>
          .msg code (payload.length % two32) payload rest ⟨(tag C (C.write m1 fb) (C.sum (C.write m1 fb))).1, (C.dec k1 fb).1⟩ := by
  unfold readBody
  rw [List.append_assoc, readFull_append fb (fm ++ rest) _ h1]
  simp only []
  rw [readFull_append fm rest macLen (by rw [macLen_eq]; exact h2)]
  simp only []
  rw [updateMAC_eq_tag L _ _ (by rw [L.sum_len]; decide)]
  simp only []
  rw [goSlice_ok _ _ _ (Nat.zero_le _) (by rw [L.dec_len, h1]; exact le_roundUp16 _)]
  rfl

theorem dec_enc3 (L : Lawful C) (k : κ) (a b c : Bytes) :
    C.dec k ((C.enc k a).2 ++ (C.enc (C.enc k a).1 b).2 ++ (C.enc (C.enc (C.enc k a).1 b).1 c).2)
      = ((C.enc (C.enc (C.enc k a).1 b).1 c).1, a ++ b ++ c) := by
  simp only [L.dec_append, L.dec_enc]

theorem padding_len (f : Nat) : f + (padding f).length = roundUp16 f := by
  unfold padding roundUp16
  split <;> simp

theorem plainHeader_len (f : Nat) : (plainHeader f).length = 16 := by
  simp [plainHeader, putInt24, macLen_eq]
  decide

theorem readInt24_plainHeader (f : Nat) (h : f < 16777216) : readInt24 (plainHeader f) = .ok f := by
  unfold plainHeader
  rw [List.append_assoc]
  exact readInt24_putInt24 f h _


/-! ### the frame `writeMsg` produces, piece by piece -/

def wFsize (code : Nat) (payload : Bytes) : Nat := (encodeCode code).length + payload.length
def wHdr (C : Crypto μ κ) (st : RW μ κ) (f : Nat) : Bytes := (C.enc st.ks (plainHeader f)).2
def wK1 (C : Crypto μ κ) (st : RW μ κ) (f : Nat) : κ := (C.enc st.ks (plainHeader f)).1
def wM1 (C : Crypto μ κ) (st : RW μ κ) (f : Nat) : μ := (tag C st.mac (wHdr C st f)).1
def wHmac (C : Crypto μ κ) (st : RW μ κ) (f : Nat) : Bytes := (tag C st.mac (wHdr C st f)).2
def wBody (C : Crypto μ κ) (k1 : κ) (code : Nat) (payload : Bytes) (f : Nat) : Bytes :=
  (C.enc k1 (encodeCode code)).2 ++ (C.enc (C.enc k1 (encodeCode code)).1 payload).2
    ++ (C.enc (C.enc (C.enc k1 (encodeCode code)).1 payload).1 (padding f)).2
def wK4 (C : Crypto μ κ) (k1 : κ) (code : Nat) (payload : Bytes) (f : Nat) : κ :=
  (C.enc (C.enc (C.enc k1 (encodeCode code)).1 payload).1 (padding f)).1
def wM4 (C : Crypto μ κ) (st : RW μ κ) (code : Nat) (payload : Bytes) : μ :=
  C.write (wM1 C st (wFsize code payload)) (wBody C (wK1 C st (wFsize code payload)) code payload (wFsize code payload))
def wFmac (C : Crypto μ κ) (st : RW μ κ) (code : Nat) (payload : Bytes) : Bytes :=
  (tag C (wM4 C st code payload) (C.sum (wM4 C st code payload))).2
def wM5 (C : Crypto μ κ) (st : RW μ κ) (code : Nat) (payload : Bytes) : μ :=
  (tag C (wM4 C st code payload) (C.sum (wM4 C st code payload))).1

/-- the bytes of one frame -/
def frameBytes (C : Crypto μ κ) (st : RW μ κ) (code : Nat) (payload : Bytes) : Bytes :=
  wHdr C st (wFsize code payload) ++ wHmac C st (wFsize code payload)
    ++ wBody C (wK1 C st (wFsize code payload)) code payload (wFsize code payload) ++ wFmac C st code payload

/-- the writer's state behind it -/
def frameNext (C : Crypto μ κ) (st : RW μ κ) (code : Nat) (payload : Bytes) : RW μ κ :=
  ⟨wM5 C st code payload, wK4 C (wK1 C st (wFsize code payload)) code payload (wFsize code payload)⟩


theorem wHdr_len (L : Lawful C) (st : RW μ κ) (f : Nat) : (wHdr C st f).length = 16 := by
  unfold wHdr; rw [L.enc_len, plainHeader_len]

theorem wHmac_len (L : Lawful C) (st : RW μ κ) (f : Nat) : (wHmac C st f).length = 16 := tag_len L _ _

theorem wFmac_len (L : Lawful C) (st : RW μ κ) (code : Nat) (payload : Bytes) : (wFmac C st code payload).length = 16 :=
  tag_len L _ _

theorem wBody_len (L : Lawful C) (k1 : κ) (code : Nat) (payload : Bytes) :
    (wBody C k1 code payload (wFsize code payload)).length = roundUp16 (wFsize code payload) := by
  unfold wBody
  simp only [List.length_append, L.enc_len]
  rw [← padding_len]; unfold wFsize; omega

theorem writeMsg_eq (L : Lawful C) (st : RW μ κ) (code : Nat) (payload : Bytes)
    (hs : wFsize code payload ≤ maxUint24) :
    writeMsg C st code payload.length payload = .ok (frameBytes C st code payload) (frameNext C st code payload) := by
  have hm := maxUint24_eq
  have hf : ((encodeCode code).length + payload.length) % two32 = wFsize code payload := by
    unfold wFsize at *; unfold two32; omega
  unfold writeMsg
  simp only [hf]
  rw [if_neg (by omega)]
  rw [updateMAC_eq_tag L _ _ (by rw [L.enc_len, plainHeader_len]; omega)]
  simp only []
  rw [updateMAC_eq_tag L _ _ (by rw [L.sum_len]; decide)]
  simp only [L.write_append]
  rfl



theorem readHeader_frame (L : Lawful C) (st : RW μ κ) (f : Nat) (X : Bytes) (hs : f ≤ maxUint24) :
    readHeader C st (wHdr C st f ++ wHmac C st f ++ X) = .hdr (wM1 C st f) (wK1 C st f) f X := by
  rw [readHeader_split L st _ _ _ (wHdr_len L st f) (wHmac_len L st f)]
  rw [if_neg (by unfold wHmac; simp)]
  unfold wHdr
  rw [L.dec_enc]
  simp only []
  rw [readInt24_plainHeader f (by rw [maxUint24_eq] at hs; omega)]
  rfl

theorem readBody_frame (L : Lawful C) (st : RW μ κ) (code : Nat) (payload rest : Bytes) (hc : code < two64)
    (hs : wFsize code payload ≤ maxUint24) :
    readBody C (wM1 C st (wFsize code payload)) (wK1 C st (wFsize code payload)) (wFsize code payload)
      (wBody C (wK1 C st (wFsize code payload)) code payload (wFsize code payload) ++ wFmac C st code payload ++ rest)
      = .msg code payload.length payload rest (frameNext C st code payload) := by
  have hp : payload.length % two32 = payload.length := by
    have := maxUint24_eq
    unfold wFsize at hs; unfold two32; omega
  rw [readBody_split L _ _ _ _ _ _ (wBody_len L _ code payload) (wFmac_len L st code payload), if_neg (by unfold wFmac wM4; simp), wBody, dec_enc3 L]
  simp only []
  rw [List.take_left' (by simp [wFsize]), decodeCode_encodeCode code hc]
  simp only [hp]
  rfl
/-- a frame in front of `rest`, bracketed the way the two halves of the reader take it -/
theorem frameBytes_append (st : RW μ κ) (code : Nat) (payload rest : Bytes) :
    frameBytes C st code payload ++ rest = wHdr C st (wFsize code payload) ++ wHmac C st (wFsize code payload)
      ++ (wBody C (wK1 C st (wFsize code payload)) code payload (wFsize code payload) ++ wFmac C st code payload ++ rest) := by
  simp only [frameBytes, List.append_assoc]

theorem readMsg_frame (L : Lawful C) (st : RW μ κ) (code : Nat) (payload rest : Bytes) (hc : code < two64)
    (hs : wFsize code payload ≤ maxUint24) :
    readMsg C st (frameBytes C st code payload ++ rest) = .msg code payload.length payload rest (frameNext C st code payload) := by
  unfold readMsg
  rw [frameBytes_append, readHeader_frame L st _ _ hs]
  exact readBody_frame L st code payload rest hc hs

theorem frameBytes_len (L : Lawful C) (st : RW μ κ) (code : Nat) (payload : Bytes) :
    (frameBytes C st code payload).length = 32 + roundUp16 (wFsize code payload) + 16 := by
  unfold frameBytes
  simp only [List.length_append, wHdr_len L, wHmac_len L, wBody_len L, wFmac_len L]

theorem readMsg_frame_prefix (L : Lawful C) (st : RW μ κ) (code : Nat) (payload : Bytes)
    (hs : wFsize code payload ≤ maxUint24) (n : Nat) (hn : n < (frameBytes C st code payload).length) :
    readMsg C st ((frameBytes C st code payload).take n) = .needMore := by
  rw [frameBytes_len L] at hn
  unfold readMsg
  by_cases h32 : n < 32
  · rw [readHeader_short _ _ (by rw [List.length_take]; omega)]
  · -- the cut falls behind the 32 header bytes: the header is read whole, the body and its MAC are short
    unfold frameBytes
    rw [List.append_assoc (_ ++ _), List.take_append,
      List.take_of_length_le (by rw [List.length_append, wHdr_len L, wHmac_len L]; omega), readHeader_frame L st _ _ hs]
    simp only []
    exact readBody_short _ _ _ _ (by
      rw [List.length_take, List.length_append, List.length_append, wHdr_len L, wHmac_len L, wBody_len L, wFmac_len L]; omega)

theorem ite_some {α : Type} {P : α → Prop} {c : Prop} [Decidable c] {a b : Option α}
    (ha : ∀ x, a = some x → P x) (hb : ∀ x, b = some x → P x) : ∀ x, (if c then a else b) = some x → P x := by
  by_cases h : c
  · rwa [if_pos h]
  · rwa [if_neg h]

/-- the unread rest is a suffix of the tail: every leaf of `decodeCode` is `none` or `some (_, t.drop n)`.
    (`split` on this nest of tests is slow to check; the term follows the nest instead.) -/
theorem decodeCode_suffix (b : Nat) (t : Bytes) : ∀ r, decodeCode (b :: t) = some r → ∃ n, r.2 = t.drop n := by
  have hn : ∀ r, (none : Option (Nat × Bytes)) = some r → ∃ n, r.2 = t.drop n := fun _ h => nomatch h
  have hs : ∀ (x n : Nat) r, some (x, t.drop n) = some r → ∃ n, r.2 = t.drop n := fun _ n _ h => ⟨n, by cases h; rfl⟩
  simp only [decodeCode]
  exact ite_some (ite_some hn (hs b 0))
    (ite_some (ite_some hn (ite_some hn (ite_some (hs 0 0) (ite_some (ite_some hn (hs _ 1)) (ite_some hn (hs _ _)))))) hn)

theorem decodeCode_len (c p : Bytes) (code : Nat) (h : decodeCode c = some (code, p)) : p.length < c.length := by
  match c with
  | [] => cases h
  | b :: t =>
    obtain ⟨n, hn⟩ := decodeCode_suffix b t _ h
    simp only at hn
    simp only [hn, List.length_drop, List.length_cons]; omega

theorem split3 (inp : Bytes) (a b : Nat) (h : a + b ≤ inp.length) :
    inp = inp.take a ++ (inp.drop a).take b ++ inp.drop (a + b) ∧ (inp.take a).length = a ∧ ((inp.drop a).take b).length = b := by
  refine ⟨?_, by simp; omega, by simp; omega⟩
  rw [List.append_assoc, ← List.drop_drop, List.take_append_drop, List.take_append_drop]

/-- Every way `readMsg` can end: waiting, an error, or a message — and then the stream starts with 16 header bytes and
    their tag under the connection's MAC state, a body of the announced size rounded up and its tag under the MAC state behind
    header and body, and the decrypted body starts with the code. No outcome is a panic. -/
theorem readMsg_cases (L : Lawful C) (st : RW μ κ) (inp : Bytes) :
    readMsg C st inp = .needMore ∨ (∃ r, readMsg C st inp = .reject r) ∨
    ∃ code payload rest st', readMsg C st inp = .msg code (payload.length % two32) payload rest st' ∧
      ∃ h16 t fb fm fsize, inp = h16 ++ t ++ (fb ++ fm ++ rest) ∧ h16.length = 16 ∧ t.length = 16 ∧
        fb.length = roundUp16 fsize ∧ fm.length = 16 ∧ (tag C st.mac h16).2 = t ∧
        (tag C (C.write (tag C st.mac h16).1 fb) (C.sum (C.write (tag C st.mac h16).1 fb))).2 = fm ∧
        readInt24 (C.dec st.ks h16).2 = .ok fsize ∧
        decodeCode ((C.dec (C.dec st.ks h16).1 fb).2.take fsize) = some (code, payload) := by
  unfold readMsg
  by_cases h32 : inp.length < 32
  · rw [readHeader_short _ _ h32]; exact .inl rfl
  obtain ⟨e, l1, l2⟩ := split3 inp 16 16 (by omega)
  generalize inp.take 16 = h16 at *
  generalize (inp.drop 16).take 16 = t at *
  generalize inp.drop (16 + 16) = X at *
  rw [e, readHeader_split L st h16 t X l1 l2]
  by_cases ht : (tag C st.mac h16).2 = t
  · rw [if_neg (not_not_intro ht)]
    -- the decrypted header has 16 bytes: `readInt24` cannot fail
    obtain ⟨f, hf⟩ : ∃ f, readInt24 (C.dec st.ks h16).2 = .ok f :=
      ⟨_, readInt24_ok _ (by rw [L.dec_len]; omega)⟩
    rw [hf]
    by_cases hx : X.length < roundUp16 f + 16
    · exact .inl (readBody_short _ _ _ _ hx)
    obtain ⟨e2, m1, m2⟩ := split3 X (roundUp16 f) 16 (by omega)
    generalize X.take (roundUp16 f) = fb at *
    generalize (X.drop (roundUp16 f)).take 16 = fm at *
    generalize X.drop (roundUp16 f + 16) = rest at *
    simp only [e2, readBody_split L _ _ _ fb fm rest m1 m2]
    by_cases hfm : (tag C (C.write (tag C st.mac h16).1 fb) (C.sum (C.write (tag C st.mac h16).1 fb))).2 = fm
    · rw [if_neg (not_not_intro hfm)]
      cases hd : decodeCode ((C.dec (C.dec st.ks h16).1 fb).2.take f) with
      | none => exact .inr (.inl ⟨_, rfl⟩)
      | some cp => exact .inr (.inr ⟨cp.1, cp.2, rest, _, rfl, h16, t, fb, fm, f, rfl, l1, l2, m1, m2, ht, hfm, hf, hd⟩)
    · rw [if_pos hfm]; exact .inr (.inl ⟨_, rfl⟩)
  · rw [if_pos ht]; exact .inr (.inl ⟨_, rfl⟩)

/-- `decodePacket` on a datagram that is long enough, without the bounds checks -/
theorem decodePacket_long (D : DCrypto) (buf : Bytes) (h : ¬ buf.length < headSize + 1) :
    decodePacket D buf =
      if buf.take macSize ≠ D.hash (buf.drop macSize) then .reject .badHash
      else match D.recover (D.hash (buf.drop headSize)) ((buf.drop macSize).take (headSize - macSize)) with
        | none => .reject .badSig
        | some fromID =>
          if (buf.drop headSize).getD 0 0 ∈ knownTypes then
            match D.body ((buf.drop headSize).getD 0 0) ((buf.drop headSize).drop 1) with
            | none => .reject .badBody
            | some req => .ok ((buf.drop headSize).getD 0 0) fromID (buf.take macSize) req
          else .reject .unknownType := by
  have e1 : headSize = 97 := rfl
  have e2 : macSize = 32 := rfl
  have hl : 1 ≤ (buf.drop headSize).length := by rw [List.length_drop]; omega
  unfold decodePacket
  rw [if_neg h, goSlice_ok _ _ _ (Nat.zero_le _) (by omega), goSlice_ok _ _ _ (by omega) (by omega),
    goSliceFrom_ok _ _ (by omega), goSliceFrom_ok _ _ (by omega)]
  simp only []
  rw [goIndex_ok _ 0 hl, goSliceFrom_ok _ 1 hl]
  rfl


/-- a node as the table holds it: an IP of at most 16 bytes, 16-bit ports, a 64-byte id -/
def NodeOk (n : RpcNode) : Prop := n.ip.length ≤ 16 ∧ n.udp < 65536 ∧ n.tcp < 65536 ∧ n.id.length = Gen.DiscNodeIDBytes

theorem rlpHdrLen_le (n k : Nat) (h : n < 256 ^ k) : rlpHdrLen n ≤ 1 + k := by
  have := Codec.natBytesBE_length_le n k h
  unfold rlpHdrLen; split <;> omega

theorem rlpUintLen_le (n k : Nat) (h : n < 256 ^ k) : rlpUintLen n ≤ 1 + k := by
  have := Codec.natBytesBE_length_le n k h
  unfold rlpUintLen; split <;> omega

theorem rlpBytesLen_le (b : Bytes) (k : Nat) (h : b.length < 256 ^ k) : rlpBytesLen b ≤ 1 + k + b.length := by
  have := rlpHdrLen_le _ k h
  unfold rlpBytesLen; split <;> omega

/-- 91 = 17 (IP: 1 + 16) + 3 + 3 (ports: 1 + 2 each) + 66 (id: 2 + 64) + 2 (list header of a payload of 89 bytes) -/
theorem nodeLen_le (n : RpcNode) (h : NodeOk n) : nodeLen n ≤ 91 := by
  obtain ⟨h1, h2, h3, h4⟩ := h
  have e : Gen.DiscNodeIDBytes = 64 := rfl
  have a1 : rlpBytesLen n.ip ≤ 17 := by
    unfold rlpBytesLen rlpHdrLen; split
    · omega
    · rw [if_pos (by omega)]; omega
  have a2 := rlpUintLen_le n.udp 2 (by omega)
  have a3 := rlpUintLen_le n.tcp 2 (by omega)
  have a4 := rlpBytesLen_le n.id 1 (by omega)
  have := rlpHdrLen_le (rlpBytesLen n.ip + rlpUintLen n.udp + rlpUintLen n.tcp + rlpBytesLen n.id) 1 (by omega)
  unfold nodeLen
  simp only []
  omega

theorem nodesLen_le (ns : List RpcNode) (h : ∀ n ∈ ns, NodeOk n) : nodesLen ns ≤ 91 * ns.length := by
  induction ns with
  | nil => simp [nodesLen]
  | cons n t ih =>
    have := nodeLen_le n (h n (by simp))
    have := ih (fun x hx => h x (by simp [hx]))
    simp only [nodesLen, List.length_cons]; omega


end ZV.Frame
