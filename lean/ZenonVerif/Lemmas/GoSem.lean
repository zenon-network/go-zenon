import ZenonVerif.Model.GoSem
import ZenonVerif.Model.Num
import ZenonVerif.Model.Rewards
import ZenonVerif.Model.Consensus
import ZenonVerif.Model.Pool
import ZenonVerif.Model.Proto
import ZenonVerif.Model.Pow
/-
Lemmas about the Go semantics module (Model/GoSem.lean) used by Props/Translated.lean. Core only.
-/
namespace ZV.Go
open ZV

/-- the bound is `(2^32 − 1)² + 1`; `GetRange` needs that the product plus one more 32-bit value stays below 2^64 -/
theorem mul32_lt (a b : Nat) (ha : a < 2 ^ 32) (hb : b < 2 ^ 32) : a * b < 2 ^ 64 - 2 ^ 33 + 2 := by
  have h1 : a * b ≤ (2 ^ 32 - 1) * (2 ^ 32 - 1) := Nat.mul_le_mul (by omega) (by omega)
  omega

/-! ### uint64: `toNat` of a machine operation is the model's wrap-around arithmetic -/

theorem toNat_zext32 (v : BitVec 32) : (BitVec.setWidth 64 v).toNat = v.toNat :=
  BitVec.toNat_setWidth_of_le (by decide)

theorem toNat_add_u64 (a b : BitVec 64) : (a + b).toNat = Proto.u64 (a.toNat + b.toNat) := BitVec.toNat_add a b

theorem toNat_sub_sub64 (a b : BitVec 64) : (a - b).toNat = Proto.sub64 a.toNat b.toNat := by
  have := a.isLt; have := b.isLt
  rw [BitVec.toNat_sub, Proto.sub64, two64]; split <;> omega

/-! ### int64: `toInt` of a machine operation is the model's `wrap64` -/

theorem toInt_eq (v : BitVec 64) : v.toInt = if v.toNat < 2 ^ 63 then (v.toNat : Int) else (v.toNat : Int) - 2 ^ 64 := by
  rw [BitVec.toInt_eq_toNat_cond]; split <;> split <;> omega

/-- a value below 2^63 is the same number read as `uint64` and as `int64` -/
theorem toInt_of_lt {v : BitVec 64} (h : v.toNat < 2 ^ 63) : v.toInt = (v.toNat : Int) := by
  rw [toInt_eq, if_pos h]

theorem bmod_wrap (x : Int) : x.bmod (2 ^ 64) = Rewards.wrap64 x := by
  rw [Int.bmod_def]; unfold Rewards.wrap64; simp only [two63, two64]; split <;> omega
theorem toInt_add_wrap (a b : BitVec 64) : (a + b).toInt = Rewards.wrap64 (a.toInt + b.toInt) := by
  rw [BitVec.toInt_add, bmod_wrap]
theorem toInt_sub_wrap (a b : BitVec 64) : (a - b).toInt = Rewards.wrap64 (a.toInt - b.toInt) := by
  rw [BitVec.toInt_sub, bmod_wrap]
theorem toInt_mul_wrap (a b : BitVec 64) : (a * b).toInt = Rewards.mul64 a.toInt b.toInt := by
  rw [BitVec.toInt_mul, bmod_wrap, Rewards.mul64]
theorem toInt_sdiv_wrap (a b : BitVec 64) : (BitVec.sdiv a b).toInt = Rewards.wrap64 (Int.tdiv a.toInt b.toInt) := by
  rw [BitVec.toInt_sdiv, bmod_wrap]

theorem wrap64_of_range {x : Int} (hlo : -2 ^ 63 ≤ x) (hhi : x < 2 ^ 63) : Rewards.wrap64 x = x := by
  unfold Rewards.wrap64; simp only [two63, two64]; omega

theorem toInt_zext32 (v : BitVec 32) : (BitVec.setWidth 64 v).toInt = (v.toNat : Int) := by
  have := v.isLt
  rw [toInt_of_lt, toNat_zext32]; rw [toNat_zext32]; omega

theorem toInt64_toNat (v : BitVec 64) : Consensus.toInt64 v.toNat = v.toInt := by
  rw [toInt_eq]; unfold Consensus.toInt64; rw [two64, Nat.mod_eq_of_lt v.isLt]; rfl

theorem consensus_wrap64_eq (x : Int) : Consensus.wrap64 x = Rewards.wrap64 x := by
  rw [← bmod_wrap, ← BitVec.toInt_ofInt, ← toInt64_toNat, BitVec.toNat_ofInt]; rfl

/-! ### a machine value built by `+`, `-`, `*` from images of integers is the image of the integer expression;
read back as `int64` it is that integer as soon as the integer is in range (intermediate results need not be) -/

theorem ofInt_sub (x y : Int) : BitVec.ofInt 64 (x - y) = BitVec.ofInt 64 x - BitVec.ofInt 64 y := by
  rw [Int.sub_eq_add_neg, BitVec.ofInt_add, BitVec.ofInt_neg, BitVec.sub_eq_add_neg]

theorem toInt_ofInt_of_range {x : Int} (hlo : -2 ^ 63 ≤ x) (hhi : x < 2 ^ 63) : (BitVec.ofInt 64 x).toInt = x :=
  BitVec.toInt_ofInt_eq_self (by decide) hlo hhi

theorem ofNat_toNat_of_nonneg {x : Int} (h : 0 ≤ x) : BitVec.ofNat 64 x.toNat = BitVec.ofInt 64 x := by
  rw [← BitVec.ofInt_natCast, Int.toNat_of_nonneg h]

theorem zext_eq_ofInt {w : Nat} (v : BitVec w) : BitVec.setWidth 64 v = BitVec.ofInt 64 (v.toNat : Int) := by
  rw [BitVec.ofInt_natCast, BitVec.ofNat_toNat]

/-! ### `bytes.Compare`, `*big.Int`, `[8]byte` -/

theorem bytesCompareInt_spec (a b : List Nat) : (bytesCompareInt a b = -1 ↔ bytesLt a b = true) ∧
    (bytesCompareInt a b = -1 ∨ bytesCompareInt a b = 0 ∨ bytesCompareInt a b = 1) := by
  induction a generalizing b with
  | nil => cases b <;> simp [bytesCompareInt, bytesLt]
  | cons x xs ih =>
    cases b with
    | nil => simp [bytesCompareInt, bytesLt]
    | cons y ys =>
      simp only [bytesCompareInt, bytesLt]
      split
      · simp
      · split
        · simp
        · exact ih ys

/-- `bytes.Compare(a, b) > -1` is `¬ a < b` -/
theorem bytesCompare_gt_m1 (a b : List Nat) :
    (BitVec.toInt (bytesCompare a b) > BitVec.toInt 18446744073709551615#64) ↔ bytesLt a b = false := by
  obtain ⟨hlt, hr⟩ := bytesCompareInt_spec a b
  rw [bytesCompare, toInt_ofInt_of_range (by omega) (by omega), ← Bool.not_eq_true, ← hlt,
    show BitVec.toInt 18446744073709551615#64 = -1 by decide]
  omega

theorem bigCmp_toInt (x y : Int) : (bigCmp x y).toInt = if x < y then -1 else if x = y then 0 else 1 := by
  unfold bigCmp
  split
  · decide
  · split <;> decide

theorem bigCmp_ge0 (x y : Int) : (BitVec.toInt (bigCmp x y) ≥ BitVec.toInt 0#64) ↔ y ≤ x := by
  rw [bigCmp_toInt, show BitVec.toInt 0#64 = 0 from rfl]; (repeat' split) <;> omega

theorem bigSign_le0 (x : Int) : (BitVec.toInt (bigSign x) ≤ BitVec.toInt 0#64) ↔ x ≤ 0 := by
  rw [bigSign, bigCmp_toInt, show BitVec.toInt 0#64 = 0 from rfl]; (repeat' split) <;> omega

theorem le8_eq (v : BitVec 64) : le8 v = leBytes 8 v.toNat := by
  simp [le8, leBytes, List.range, List.range.loop, Nat.div_div_eq_div_mul]

theorem zero8_eq : zero8 = leBytes 8 0 := by decide

/-- `x := 2^64; x.Sub(x, y.Quo(x, d)).Uint64()` is the model's PoW target -/
theorem threshold_eq (d : Nat) (hd : d ≠ 0) :
    bigUint64 (bigExp 2 64 - bigQuo (bigExp 2 64) (d : Int)) = BitVec.ofNat 64 (Pow.target d) := by
  have hq : two64 / d ≤ two64 := Nat.div_le_self _ _
  rw [show bigExp 2 64 = ((two64 : Nat) : Int) by decide, bigQuo, ← Int.ofNat_tdiv, bigUint64, Pow.target, if_neg hd,
    show ((two64 : Nat) : Int) - ((two64 / d : Nat) : Int) = ((two64 - two64 / d : Nat) : Int) by omega,
    Int.natAbs_natCast]
  exact BitVec.eq_of_toNat_eq (by simp [two64])

theorem beq_zero_iff (v : BitVec 64) : (v == 0#64) = true ↔ v.toInt = 0 := by
  rw [beq_iff_eq, ← BitVec.toInt_inj]; rfl
theorem bne_zero_iff (v : BitVec 64) : (v != 0#64) = true ↔ v.toInt ≠ 0 := by
  rw [bne_iff_ne, ne_eq, ← BitVec.toInt_inj]; rfl

/-! ### loops over a slice: `pow.greaterDifficulty` -/

/-- a downward loop that leaves at the first index where two slices differ compares the reversed (most significant
    byte first) prefixes as `Pow.geMSB` does -/
theorem forIn_geMSB (x y : List Nat) (body : BitVec 64 → Unit → Step Unit Bool) (n : Nat)
    (hx : n ≤ x.length) (hy : n ≤ y.length)
    (hbody : ∀ k, k < n → body (BitVec.ofNat 64 k) () =
      if x.getD k 0 > y.getD k 0 then .done (.ok true) else if x.getD k 0 < y.getD k 0 then .done (.ok false)
      else .next ()) :
    loopThen (forIn ((List.range n).reverse.map (BitVec.ofNat 64)) () body) (fun _ => .ok true)
      = .ok (Pow.geMSB (x.take n).reverse (y.take n).reverse) := by
  induction n with
  | zero => rfl
  | succ n ih =>
    have ih := ih (Nat.le_of_succ_le hx) (Nat.le_of_succ_le hy) (fun k hk => hbody k (Nat.lt_succ_of_lt hk))
    rw [List.range_succ, List.reverse_append, List.reverse_singleton, List.singleton_append, List.map_cons, forIn,
      hbody n (Nat.lt_succ_self n), List.take_succ_eq_append_getElem hx, List.take_succ_eq_append_getElem hy,
      List.reverse_append, List.reverse_append, List.reverse_singleton, List.reverse_singleton, List.singleton_append,
      List.singleton_append, Pow.geMSB, List.getElem_eq_getD (h := hx) 0, List.getElem_eq_getD (h := hy) 0]
    by_cases h1 : x.getD n 0 > y.getD n 0
    · simp only [h1, if_true]; rfl
    · by_cases h2 : x.getD n 0 < y.getD n 0
      · simp only [h1, h2, if_true, if_false]; rfl
      · simp only [h1, h2, if_false]; exact ih
/-! ### loops over a slice: `accountPool.filterBlocksToCommit` -/

/-- the counter values `o, o+1, …, o+n-1` of an upward loop starting at 0, from offset `o` -/
def idxFrom (o n : Nat) : List (BitVec 64) := (List.range n).map (fun k => 0#64 + BitVec.ofNat 64 (o + k))

theorem idxFrom_succ (o n : Nat) : idxFrom o (n + 1) = (0#64 + BitVec.ofNat 64 o) :: idxFrom (o + 1) n := by
  unfold idxFrom
  rw [List.range_succ_eq_map]
  simp only [List.map_cons, List.map_map, Nat.add_zero, List.cons.injEq, true_and]
  apply List.map_congr_left
  intro k _
  simp only [Function.comp, Nat.succ_eq_add_one]
  congr 2; omega

theorem toNat_len {α : Type} (l : List α) (h : l.length < 2 ^ 63) : (len l).toNat = l.length :=
  Nat.mod_eq_of_lt (Nat.lt_trans h (by decide))

theorem toInt_len {α : Type} (l : List α) (h : l.length < 2 ^ 63) : (len l).toInt = (l.length : Int) := by
  rw [toInt_of_lt (by rw [toNat_len l h]; exact h), toNat_len l h]

theorem upS_len_eq {α : Type} (l : List α) (h : l.length < 2 ^ 63) : upS 0#64 (len l) = idxFrom 0 l.length := by
  unfold upS idxFrom
  rw [show (0#64).toInt = 0 from rfl, toInt_len l h]
  simp

abbrev LL := List (BitVec 64) × List (BitVec 64)

/-- the loop of `filterBlocksToCommit` is `Pool.filterGo`, for any body that behaves as `hbody` says. `hbody` is handed
    `batch.length + tc.length ≤ k` so that the caller can show that the int sum `len tc + len batch` does not wrap -/
theorem filterLoop_spec (isCS : BitVec 64 → Bool) (max : Nat) (blocks : List (BitVec 64))
    (body : BitVec 64 → LL → Step LL (List (BitVec 64)))
    (hbody : ∀ (k : Nat) (b : BitVec 64) (batch tc : List (BitVec 64)), blocks[k]? = some b → batch.length + tc.length ≤ k →
      body (0#64 + BitVec.ofNat 64 k) (batch, tc) =
        if isCS b then .next (batch ++ [b], tc)
        else if tc.length + (batch ++ [b]).length > max then .brk (batch ++ [b], tc)
        else .next ([], tc ++ (batch ++ [b]))) :
    ∀ (rest pre batch tc : List (BitVec 64)), blocks = pre ++ rest → batch.length + tc.length ≤ pre.length →
      ∃ b', forIn (idxFrom pre.length rest.length) (batch, tc) body = .next (b', Pool.filterGo isCS max rest tc batch) ∨
            forIn (idxFrom pre.length rest.length) (batch, tc) body = .brk (b', Pool.filterGo isCS max rest tc batch) := by
  intro rest
  induction rest with
  | nil =>
    intro pre batch tc _ _
    exact ⟨batch, Or.inl (by simp [idxFrom, forIn, Pool.filterGo])⟩
  | cons b rest ih =>
    intro pre batch tc hsplit hinv
    have hk : blocks[pre.length]? = some b := by rw [hsplit]; simp
    have hb := hbody pre.length b batch tc hk hinv
    have hsplit' : blocks = (pre ++ [b]) ++ rest := by rw [hsplit]; simp
    have hlen' : (pre ++ [b]).length = pre.length + 1 := by simp
    rw [List.length_cons, idxFrom_succ]
    simp only [forIn, hb, Pool.filterGo]
    by_cases h1 : isCS b = true
    · simp only [h1, if_true]
      have := ih (pre ++ [b]) (batch ++ [b]) tc hsplit' (by simp; omega)
      rw [hlen'] at this
      exact this
    · simp only [h1, Bool.false_eq_true, if_false]
      by_cases h2 : tc.length + (batch ++ [b]).length > max
      · simp only [h2, if_true]
        exact ⟨batch ++ [b], Or.inr rfl⟩
      · simp only [h2, if_false]
        have := ih (pre ++ [b]) [] (tc ++ (batch ++ [b])) hsplit' (by simp; omega)
        rw [hlen'] at this
        exact this

end ZV.Go
