import ZenonVerif.Model.CodecJson
import ZenonVerif.Lemmas.CodecText
import ZenonVerif.Lemmas.Common
/-
For Props/C13Json.lean. First what its statements speak of: what the Go types guarantee of a block / momentum (`BodyJ`,
`BlockJ`, `MomentumJ`), the Go type and Go name of every member (`abGoType`, `momGoType`, `goFieldOf`, `jsonVisible`, compared
there with the regenerated struct tags), the operations on objects and blocks of the missing-member and member-order
theorems (`dropMember`, `zeroField`, `reverseMembers`) and a `Leaves` instance that shows the hypotheses can be met
(`toyLeaves`). Then the leaf decoders on marshalled leaves, and the member loop of `UnmarshalJSON` on marshalled members:
`marshalBlock` is `abTags` mapped by `memberJ`, and the loop keeps `aux = auxOn b seen` where `seen` are the members read
so far (`unmMembers_memberJ`). Hence the result depends only on WHICH members occur, not on their order or number
(`unmarshalBlock_memberJ`); round trip, reversed order and a dropped member are instances.
-/
namespace ZV.CodecJson
open ZV ZV.Codec ZV.JsonRpc

/-- what the Go types of `types.HashHeight` guarantee -/
structure HHJ (h : HashHeight) : Prop where
  hash : h.hash.WF ∧ h.hash.length = Gen.HashSize
  height : h.height < two64

/-- what the Go types of the members of `nom.AccountBlock` guarantee: byte values < 256, array widths
    32 / 20 / 10 / 8, uint64 ranges. Nothing is asked of the amount (any integer, negative ones too). -/
structure BodyJ (b : ABody) : Prop where
  version : b.version < two64
  chainIdentifier : b.chainIdentifier < two64
  blockType : b.blockType < two64
  hash : b.hash.WF ∧ b.hash.length = Gen.HashSize
  previousHash : b.previousHash.WF ∧ b.previousHash.length = Gen.HashSize
  height : b.height < two64
  momentumAcknowledged : HHJ b.momentumAcknowledged
  address : b.address.WF ∧ b.address.length = Gen.AddressSize
  toAddress : b.toAddress.WF ∧ b.toAddress.length = Gen.AddressSize
  tokenStandard : b.tokenStandard.WF ∧ b.tokenStandard.length = Gen.ZtsSize
  fromBlockHash : b.fromBlockHash.WF ∧ b.fromBlockHash.length = Gen.HashSize
  data : b.data.WF
  fusedPlasma : b.fusedPlasma < two64
  difficulty : b.difficulty < two64
  nonce : b.nonce.WF ∧ b.nonce.length = 8
  basePlasma : b.basePlasma < two64
  totalPlasma : b.totalPlasma < two64
  changesHash : b.changesHash.WF ∧ b.changesHash.length = Gen.HashSize
  publicKey : b.publicKey.WF
  signature : b.signature.WF

mutual
def BlockJ : Block → Prop
  | ⟨body, ds⟩ => BodyJ body ∧ BlocksJ ds
def BlocksJ : List Block → Prop
  | [] => True
  | d :: ds => BlockJ d ∧ BlocksJ ds
end

structure HeaderJ (h : AccountHeader) : Prop where
  address : h.address.WF ∧ h.address.length = Gen.AddressSize
  hash : h.hash.WF ∧ h.hash.length = Gen.HashSize
  height : h.height < two64

structure MomentumJ (m : Momentum) : Prop where
  version : m.version < two64
  chainIdentifier : m.chainIdentifier < two64
  hash : m.hash.WF ∧ m.hash.length = Gen.HashSize
  previousHash : m.previousHash.WF ∧ m.previousHash.length = Gen.HashSize
  height : m.height < two64
  timestampUnix : m.timestampUnix < two64
  data : m.data.WF
  content : ∀ h ∈ m.content, HeaderJ h
  changesHash : m.changesHash.WF ∧ m.changesHash.length = Gen.HashSize
  publicKey : m.publicKey.WF
  signature : m.signature.WF

/-- the Go type of every member: which decoder of the model stands for it -/
def abGoType : AF → String
  | .version | .chainIdentifier | .blockType | .height | .fusedPlasma | .difficulty | .basePlasma
  | .totalPlasma => "uint64"
  | .hash | .previousHash | .fromBlockHash | .changesHash => "types.Hash"
  | .momentumAcknowledged => "types.HashHeight"
  | .address | .toAddress => "types.Address"
  | .amount | .nonce => "string"
  | .tokenStandard => "types.ZenonTokenStandard"
  | .descendantBlocks => "[]*AccountBlock"
  | .data | .signature => "[]byte"
  | .publicKey => "ed25519.PublicKey"

def momGoType : MF → String
  | .version | .chainIdentifier | .height | .timestamp => "uint64"
  | .hash | .previousHash | .changesHash => "types.Hash"
  | .data | .signature => "[]byte"
  | .content => "MomentumContent"
  | .publicKey => "ed25519.PublicKey"

/-- members that take part in JSON: tagged, and the tag is not "-" -/
def jsonVisible (ms : List (String × String × String)) : List (String × String) :=
  (ms.filter (fun m => m.2.1 ≠ "" ∧ m.2.1 ≠ "-")).map (fun m => (m.2.1, m.2.2))

/-- the members of an object with the ones named `k` (exactly) removed -/
def dropMember (k : String) : Json → Json
  | .obj ms => .obj (ms.filter (fun kv => kv.1 ≠ k))
  | j => j

/-- the body with one member at its Go zero value -/
def zeroField : AF → Block → Block
  | .version, ⟨b, ds⟩ => ⟨{ b with version := 0 }, ds⟩
  | .chainIdentifier, ⟨b, ds⟩ => ⟨{ b with chainIdentifier := 0 }, ds⟩
  | .blockType, ⟨b, ds⟩ => ⟨{ b with blockType := 0 }, ds⟩
  | .hash, ⟨b, ds⟩ => ⟨{ b with hash := zeros Gen.HashSize }, ds⟩
  | .previousHash, ⟨b, ds⟩ => ⟨{ b with previousHash := zeros Gen.HashSize }, ds⟩
  | .height, ⟨b, ds⟩ => ⟨{ b with height := 0 }, ds⟩
  | .momentumAcknowledged, ⟨b, ds⟩ => ⟨{ b with momentumAcknowledged := hhZero }, ds⟩
  | .address, ⟨b, ds⟩ => ⟨{ b with address := zeros Gen.AddressSize }, ds⟩
  | .toAddress, ⟨b, ds⟩ => ⟨{ b with toAddress := zeros Gen.AddressSize }, ds⟩
  | .amount, ⟨b, ds⟩ => ⟨{ b with amount := 0 }, ds⟩
  | .tokenStandard, ⟨b, ds⟩ => ⟨{ b with tokenStandard := zeros Gen.ZtsSize }, ds⟩
  | .fromBlockHash, ⟨b, ds⟩ => ⟨{ b with fromBlockHash := zeros Gen.HashSize }, ds⟩
  | .descendantBlocks, ⟨b, _⟩ => ⟨b, []⟩
  | .data, ⟨b, ds⟩ => ⟨{ b with data := [] }, ds⟩
  | .fusedPlasma, ⟨b, ds⟩ => ⟨{ b with fusedPlasma := 0 }, ds⟩
  | .difficulty, ⟨b, ds⟩ => ⟨{ b with difficulty := 0 }, ds⟩
  | .nonce, ⟨b, ds⟩ => ⟨{ b with nonce := zeros Gen.NonceSize }, ds⟩
  | .basePlasma, ⟨b, ds⟩ => ⟨{ b with basePlasma := 0 }, ds⟩
  | .totalPlasma, ⟨b, ds⟩ => ⟨{ b with totalPlasma := 0 }, ds⟩
  | .changesHash, ⟨b, ds⟩ => ⟨{ b with changesHash := zeros Gen.HashSize }, ds⟩
  | .publicKey, ⟨b, ds⟩ => ⟨{ b with publicKey := [] }, ds⟩
  | .signature, ⟨b, ds⟩ => ⟨{ b with signature := [] }, ds⟩

/-- the Go member behind a JSON member of the block -/
def goFieldOf : AF → String
  | .version => "Version" | .chainIdentifier => "ChainIdentifier" | .blockType => "BlockType" | .hash => "Hash"
  | .previousHash => "PreviousHash" | .height => "Height" | .momentumAcknowledged => "MomentumAcknowledged"
  | .address => "Address" | .toAddress => "ToAddress" | .amount => "Amount" | .tokenStandard => "TokenStandard"
  | .fromBlockHash => "FromBlockHash" | .descendantBlocks => "DescendantBlocks" | .data => "Data"
  | .fusedPlasma => "FusedPlasma" | .difficulty => "Difficulty" | .nonce => "Nonce" | .basePlasma => "BasePlasma"
  | .totalPlasma => "TotalPlasma" | .changesHash => "ChangesHash" | .publicKey => "PublicKey"
  | .signature => "Signature"

/-- hex everywhere: a `Leaves` that satisfies `Leaves.WF` (non-vacuity witness; bech32 itself is not modelled) -/
def toyLeaves : Leaves := {
  addrText := hexHashText, addrParse := fun s => ofHexChars s.toList,
  ztsText := hexHashText, ztsParse := fun s => ofHexChars s.toList,
  b64Text := hexHashText, b64Parse := fun s => ofHexChars s.toList,
  hashText := hexHashText, hashParse := hexHashParse }

/-- the members of an object in reversed document order -/
def reverseMembers : Json → Json
  | .obj ms => .obj ms.reverse
  | j => j

theorem zeros_J (n : Nat) : (zeros n).WF ∧ (zeros n).length = n :=
  ⟨fun _ hx => List.eq_of_mem_replicate hx ▸ by decide, List.length_replicate⟩

theorem parseU64_natLit (n : Nat) (h : n < two64) : parseU64 (natLit n) = some n := by
  have e : (natLit n).toList = natChars n := String.toList_ofList
  simp [parseU64, e, natChars_isEmpty, parseDigitsAux_natChars, h]

theorem decU64_u64J (n cur : Nat) (h : n < two64) : decU64 (u64J n) cur = .ok n := by
  simp [decU64, u64J, parseU64_natLit n h]

theorem decString_amount (a : Int) (cur : String) : decString (amountJ a) cur = .ok (String.ofList (showAmount a)) := rfl
theorem decString_nonce (n : Bytes) (cur : String) : decString (nonceJ n) cur = .ok (String.ofList (hexChars n)) := rfl

theorem decBytes_ok (L : Leaves) (hL : L.WF) (x : Bytes) (h : x.WF) : decBytes L (.str (L.b64Text x)) = .ok x := by
  simp [decBytes, hL.b64 x h]

theorem decHashHeight_mar (L : Leaves) (hL : L.WF) (h cur : HashHeight) (w : HHJ h) :
    decHashHeight L (marHashHeight L h) cur = .ok h := by
  simp [decHashHeight, marHashHeight, hhFill, fieldOf, hhTags, List.lookup, decText, hL.hash _ w.hash.1 w.hash.2,
    decU64_u64J _ _ w.height, bind, Except.bind]

theorem decHeader_mar (L : Leaves) (hL : L.WF) (h : AccountHeader) (cur : Option AccountHeader) (w : HeaderJ h) :
    decHeader L (marHeader L h) cur = .ok (some h) := by
  simp [decHeader, marHeader, ahFill, fieldOf, ahTags, List.lookup, decText, hL.hash _ w.hash.1 w.hash.2,
    hL.addr _ w.address.1 w.address.2, decU64_u64J _ _ w.height, bind, Except.bind, pure, Except.pure]

theorem decHeaders_mar (L : Leaves) (hL : L.WF) : ∀ (c : List AccountHeader) (cur : List (Option AccountHeader)),
    (∀ h ∈ c, HeaderJ h) → decHeaders L (c.map (marHeader L)) cur = .ok (c.map some)
  | [], _, _ => rfl
  | h :: t, cur, w => by
    rw [List.forall_mem_cons] at w
    simp [decHeaders, decHeader_mar L hL h _ w.1, decHeaders_mar L hL t cur.tail w.2, bind, Except.bind, pure,
      Except.pure]

theorem allSome_map_some : ∀ c : List AccountHeader, allSome (c.map some) = some c
  | [] => rfl
  | h :: t => by simp [allSome, allSome_map_some t]

theorem toyLeaves_wf : toyLeaves.WF := by
  constructor <;> intro x hx <;>
    simp +contextual [toyLeaves, hexHashText, hexHashParse, ofHexChars_hexChars x hx, length_hexChars]

/-- what one member does to `aux` (the body of the loop of `unmMembers`) -/
def stepMember (L : Leaves) (f : Option AF) (v : Json) (a : Aux) : Except Err Aux :=
  match f with
  | none => .ok a
  | some .descendantBlocks =>
    match v with
    | .null => .ok { a with desc := [] }
    | .arr js => do
        let r ← unmBlocks L js
        pure { a with desc := r.1, nilSeen := a.nilSeen || r.2 }
    | _ => .error .typeMismatch
  | some f => setLeaf L f v a

theorem unmMembers_cons (L : Leaves) (k : String) (v : Json) (rest : List (String × Json)) (a : Aux) :
    unmMembers L ((k, v) :: rest) a = (stepMember L (fieldOf abTags k) v a).bind (unmMembers L rest) := by
  unfold unmMembers stepMember
  cases fieldOf abTags k with
  | none => rfl
  | some f =>
    cases f
    case descendantBlocks =>
      -- only an array runs `unmBlocks`, whose error ends the loop
      cases v
      case arr js => simp only [bind, Except.bind, pure, Except.pure]; cases unmBlocks L js <;> rfl
      all_goals rfl
    all_goals rfl

theorem unmMembers_append (L : Leaves) (ms₂ : List (String × Json)) :
    ∀ (ms₁ : List (String × Json)) (a : Aux),
      unmMembers L (ms₁ ++ ms₂) a = (unmMembers L ms₁ a).bind (unmMembers L ms₂)
  | [], _ => rfl
  | (k, v) :: t, a => by
    rw [List.cons_append, unmMembers_cons, unmMembers_cons]
    cases stepMember L (fieldOf abTags k) v a with
    | error e => rfl
    | ok a' => exact unmMembers_append L ms₂ t a'

theorem momFill_append (L : Leaves) (ms₂ : List (String × Json)) :
    ∀ (ms₁ : List (String × Json)) (a : MAux),
      momFill L (ms₁ ++ ms₂) a = (momFill L ms₁ a).bind (momFill L ms₂)
  | [], _ => rfl
  | (k, v) :: t, a => by
    simp only [List.cons_append, momFill]
    split <;> first
      | exact momFill_append L ms₂ t _
      | (simp only [bind, Except.bind]; split <;> first | rfl | exact momFill_append L ms₂ t _)

theorem fieldOf_abTags : ∀ t ∈ abTags, fieldOf abTags t.1 = some t.2 := by decide +kernel

theorem abTags_any (g : AF) : abTags.any (·.2 == g) = true := by cases g <;> rfl

theorem abTags_nodup : (abTags.map (·.2)).Nodup := by decide +kernel

/-- the value `marshalBlock` prints for one member -/
def memberJ (L : Leaves) (b : Block) : AF → Json
  | .version => u64J b.body.version
  | .chainIdentifier => u64J b.body.chainIdentifier
  | .blockType => u64J b.body.blockType
  | .hash => .str (L.hashText b.body.hash)
  | .previousHash => .str (L.hashText b.body.previousHash)
  | .height => u64J b.body.height
  | .momentumAcknowledged => marHashHeight L b.body.momentumAcknowledged
  | .address => .str (L.addrText b.body.address)
  | .toAddress => .str (L.addrText b.body.toAddress)
  | .amount => amountJ b.body.amount
  | .tokenStandard => .str (L.ztsText b.body.tokenStandard)
  | .fromBlockHash => .str (L.hashText b.body.fromBlockHash)
  | .descendantBlocks => .arr (marshalBlocks L b.desc)
  | .data => .str (L.b64Text b.body.data)
  | .fusedPlasma => u64J b.body.fusedPlasma
  | .difficulty => u64J b.body.difficulty
  | .nonce => nonceJ b.body.nonce
  | .basePlasma => u64J b.body.basePlasma
  | .totalPlasma => u64J b.body.totalPlasma
  | .changesHash => .str (L.hashText b.body.changesHash)
  | .publicKey => .str (L.b64Text b.body.publicKey)
  | .signature => .str (L.b64Text b.body.signature)

theorem marshalBlock_eq (L : Leaves) (b : Block) :
    marshalBlock L b = .obj (abTags.map fun t => (t.1, memberJ L b t.2)) := by
  cases b; rfl

/-- `aux` when exactly the members `seen` of the marshalled `b` have been stored (`amount` and `nonce` of the body
    stay zero: `finish` fills them from the two strings) -/
def auxOn (b : Block) (seen : AF → Bool) : Aux :=
  let c := b.body
  let z := bodyZero
  { body := {
      version := bif seen .version then c.version else z.version
      chainIdentifier := bif seen .chainIdentifier then c.chainIdentifier else z.chainIdentifier
      blockType := bif seen .blockType then c.blockType else z.blockType
      hash := bif seen .hash then c.hash else z.hash
      previousHash := bif seen .previousHash then c.previousHash else z.previousHash
      height := bif seen .height then c.height else z.height
      momentumAcknowledged := bif seen .momentumAcknowledged then c.momentumAcknowledged else z.momentumAcknowledged
      address := bif seen .address then c.address else z.address
      toAddress := bif seen .toAddress then c.toAddress else z.toAddress
      amount := 0
      tokenStandard := bif seen .tokenStandard then c.tokenStandard else z.tokenStandard
      fromBlockHash := bif seen .fromBlockHash then c.fromBlockHash else z.fromBlockHash
      data := bif seen .data then c.data else z.data
      fusedPlasma := bif seen .fusedPlasma then c.fusedPlasma else z.fusedPlasma
      difficulty := bif seen .difficulty then c.difficulty else z.difficulty
      nonce := z.nonce
      basePlasma := bif seen .basePlasma then c.basePlasma else z.basePlasma
      totalPlasma := bif seen .totalPlasma then c.totalPlasma else z.totalPlasma
      changesHash := bif seen .changesHash then c.changesHash else z.changesHash
      publicKey := bif seen .publicKey then c.publicKey else z.publicKey
      signature := bif seen .signature then c.signature else z.signature }
    amount := bif seen .amount then String.ofList (showAmount c.amount) else ""
    nonce := bif seen .nonce then String.ofList (hexChars c.nonce) else ""
    desc := bif seen .descendantBlocks then b.desc else []
    nilSeen := false }

theorem finish_auxOn (b : Block) (hn : b.body.nonce.WF ∧ b.body.nonce.length = 8) (seen : AF → Bool)
    (hs : seen .nonce = true) :
    finish (auxOn b seen) = .ok ⟨{ (auxOn b seen).body with
      amount := bif seen .amount then b.body.amount else 0, nonce := b.body.nonce }, (auxOn b seen).desc⟩ := by
  have h0 : stringToBigInt [] = 0 := rfl
  cases ha : seen .amount <;>
    simp [finish, auxOn, hs, ha, nonceUnmarshalText_hexChars _ hn, stringToBigInt_showAmount, h0]

/-- every member but `f` stored: `UnmarshalJSON` returns `b` with `f` at its Go zero value, unless `f` is `nonce`
    (`json_missing_nonce_is_error`) -/
theorem finish_auxOn_drop (b : Block) (hn : b.body.nonce.WF ∧ b.body.nonce.length = 8) (f : AF) (hne : f ≠ .nonce) :
    finish (auxOn b (· != f)) = .ok (zeroField f b) := by
  obtain ⟨body, ds⟩ := b
  cases f
  case nonce => exact absurd rfl hne
  all_goals exact finish_auxOn _ hn _ rfl

section
variable (L : Leaves) (hL : L.WF) (b : Block) (hb : BodyJ b.body)
  (hds : unmBlocks L (marshalBlocks L b.desc) = .ok (b.desc, false))
include hL hb hds

theorem stepMember_memberJ (f : AF) (seen : AF → Bool) :
    stepMember L (some f) (memberJ L b f) (auxOn b seen) = .ok (auxOn b fun g => f == g || seen g) := by
  obtain ⟨⟩ := hb
  cases f <;>
    simp only [*, stepMember, setLeaf, memberJ, decU64_u64J, decText, decBytes_ok L hL, hL.hash, hL.addr,
      hL.zts, decHashHeight_mar L hL, decString_amount, decString_nonce, bind, Except.bind, pure, Except.pure] <;>
    rfl

theorem unmMembers_memberJ : ∀ (ts : List (String × AF)) (seen : AF → Bool), ts ⊆ abTags →
    unmMembers L (ts.map fun t => (t.1, memberJ L b t.2)) (auxOn b seen) =
      .ok (auxOn b fun g => ts.any (·.2 == g) || seen g)
  | [], _, _ => rfl
  | t :: ts, seen, h => by
    rw [List.cons_subset] at h
    rw [List.map_cons, unmMembers_cons, fieldOf_abTags t h.1, stepMember_memberJ L hL b hb hds]
    refine (unmMembers_memberJ ts _ h.2).trans ?_
    simp only [List.any_cons, Bool.or_left_comm, Bool.or_assoc]

/-- `UnmarshalJSON` on an object made of marshalled members of `b`, in any order, some left out, some repeated -/
theorem unmarshalBlock_memberJ (ts : List (String × AF)) (hts : ts ⊆ abTags) :
    unmarshalBlock L (.obj (ts.map fun t => (t.1, memberJ L b t.2))) =
      finish (auxOn b fun g => ts.any (·.2 == g)) := by
  have h := unmMembers_memberJ L hL b hb hds ts (fun _ => false) hts
  simp only [Bool.or_false] at h
  exact congrArg (·.bind finish) h

theorem unmarshalBlock_all_members (ts : List (String × AF)) (hts : ts ⊆ abTags)
    (hall : ∀ g, ts.any (·.2 == g) = true) :
    unmarshalBlock L (.obj (ts.map fun t => (t.1, memberJ L b t.2))) = .ok b := by
  rw [unmarshalBlock_memberJ L hL b hb hds ts hts, funext hall, finish_auxOn b hb.nonce _ rfl]
  cases b
  rfl

theorem unmarshalBlock_dropMember {name : String} {f : AF} (hf : (name, f) ∈ abTags) :
    unmarshalBlock L (dropMember name (marshalBlock L b)) = finish (auxOn b (· != f)) := by
  rw [marshalBlock_eq, dropMember, List.filter_map,
    unmarshalBlock_memberJ L hL b hb hds _ List.filter_sublist.subset]
  congr 2
  funext g
  rw [Bool.eq_iff_iff]
  simp only [List.any_eq_true, List.mem_filter, Function.comp_apply, bne_iff_ne, decide_eq_true_eq, beq_iff_eq]
  -- a tag with another name holds another member (`abTags_nodup`), and every other member has a tag (`abTags_any`),
  -- whose name is not `name` since a name decides the member (`fieldOf_abTags`)
  constructor
  · rintro ⟨t, ⟨ht, hne⟩, rfl⟩ e
    exact hne (congrArg (·.1) (eq_of_map_eq_of_nodup abTags_nodup ht hf e))
  · intro hg
    obtain ⟨t, ht, e⟩ := List.any_eq_true.1 (abTags_any g)
    rw [beq_iff_eq] at e
    refine ⟨t, ⟨ht, fun e' => hg ?_⟩, e⟩
    rw [← e, ← Option.some_inj, ← fieldOf_abTags t ht, e', fieldOf_abTags _ hf]

end

/-- the round trip, for a block and for a list of descendants together (`Block` is nested through `List`) -/
theorem unmarshal_marshal (L : Leaves) (hL : L.WF) :
    (∀ b, BlockJ b → unmarshalBlock L (marshalBlock L b) = .ok b) ∧
      ∀ ds, BlocksJ ds → unmBlocks L (marshalBlocks L ds) = .ok (ds, false) := by
  let P (b : Block) := BlockJ b → unmarshalBlock L (marshalBlock L b) = .ok b
  let Q (ds : List Block) := BlocksJ ds → unmBlocks L (marshalBlocks L ds) = .ok (ds, false)
  have h1 : ∀ body ds, Q ds → P ⟨body, ds⟩ := by
    intro body ds ih w
    rw [marshalBlock_eq]
    exact unmarshalBlock_all_members L hL _ w.1 (ih w.2) abTags (List.Subset.refl _) abTags_any
  have h3 : ∀ d ds, P d → Q ds → Q (d :: ds) := by
    intro d ds ihd ihds w
    have hd := ihd w.1
    -- a marshalled block is an object, not `null`: `unmBlocks` takes its second branch
    rw [marshalBlocks, marshalBlock_eq] at *
    rw [unmBlocks]
    · simp [hd, ihds w.2, bind, Except.bind, pure, Except.pure]
    · nofun
  exact ⟨Block.rec h1 (fun _ => rfl) h3, Block.rec_1 h1 (fun _ => rfl) h3⟩

end ZV.CodecJson
