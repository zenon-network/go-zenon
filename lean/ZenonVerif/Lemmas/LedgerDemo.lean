import ZenonVerif.Lemmas.LedgerReach
/-
A concrete history used by the `example`s of C01 / C04 / C09 to show that the hypotheses of the invariant theorems
are satisfiable by a non-trivial reachable state: token issue + mint + burn through the token contract, a plain
transfer that is received, a call to another embedded contract that fails and is refunded.
-/
namespace ZV.Ledger

/-- run a list of events, checking admissibility and acceptance of each -/
def runAdm (s : State) : List Ev → Option State
  | [] => some s
  | e :: es =>
    if Admissible s e then
      match step s e with
      | .ok s' => runAdm s' es
      | .error _ => none
    else none

theorem reach_of_runAdm : ∀ (es : List Ev) (s s' : State), runAdm s es = some s' → Reach s s'
  | [], s, s', h => by simp only [runAdm, Option.some.injEq] at h; subst h; exact .refl
  | e :: es, s, s', h => by
    simp only [runAdm] at h
    split at h
    · rename_i ha
      split at h
      · rename_i s1 hs
        exact (Reach.step e .refl ha hs).trans (reach_of_runAdm es s1 s' h)
      · cases h
    · cases h

/-- user 16 issues token 5 (supply 50, max 80), receives it, pays 7 to user 17 who receives them, mints 20 more to 17
    (left in flight), calls embedded contract 3 with 2 tokens — the call fails and is refunded (refund left in
    flight) —, sends 10 to the token contract to burn them, and two more calls to contract 3 queue up -/
def demoEvents : List Ev :=
  [ .usend 16 tokenContract zeroTok 0 100 (.issue 50 80 true true),
    .crecv tokenContract 100 1 [⟨16, 5, 50, 101, .none⟩],
    .urecv 16 101,
    .usend 16 17 5 7 102 .none,
    .urecv 17 102,
    .usend 16 tokenContract zeroTok 0 103 (.mint 5 20 17),
    .crecv tokenContract 103 1 [⟨17, 5, 20, 104, .none⟩],
    .usend 16 3 5 2 105 .none,
    .crecv 3 105 2 [⟨16, 5, 2, 106, .none⟩],
    .usend 16 tokenContract 5 10 107 .burn,
    .crecv tokenContract 107 1 [],
    .usend 16 3 5 1 108 .none,
    .usend 17 3 5 1 109 .none ]

def demoFinal : State :=
  { bal := [((16, 0), 0), ((0, 0), 0), ((0, 5), 0), ((16, 5), 30), ((17, 5), 6), ((3, 5), 0)],
    sends := [⟨100, 16, 0, 0, 0, .issue 50 80 true true⟩, ⟨101, 0, 16, 5, 50, .none⟩, ⟨102, 16, 17, 5, 7, .none⟩,
              ⟨103, 16, 0, 0, 0, .mint 5 20 17⟩, ⟨104, 0, 17, 5, 20, .none⟩, ⟨105, 16, 3, 5, 2, .none⟩,
              ⟨106, 3, 16, 5, 2, .none⟩, ⟨107, 16, 0, 5, 10, .burn⟩, ⟨108, 16, 3, 5, 1, .none⟩, ⟨109, 17, 3, 5, 1, .none⟩],
    recv := [(0, 107), (3, 105), (0, 103), (17, 102), (16, 101), (0, 100)],
    toks := [(5, ⟨60, 80, true, true, 16⟩)],
    gate := true }

theorem demo_run : runAdm (State.init true) demoEvents = some demoFinal := by rfl

theorem demo_reach : Reach (State.init true) demoFinal := reach_of_runAdm _ _ _ demo_run

theorem demo_wf : WF demoFinal := demo_reach.wf (wf_init true)

end ZV.Ledger
