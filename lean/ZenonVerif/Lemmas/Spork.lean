import ZenonVerif.Model.Spork
import ZenonVerif.Lemmas.Common
/-
Lemmas for the spork state machine (inversion of the operations, uniqueness of ids, activity of a written record,
rollback), and the facts about finite tables through which the sweeps over the regenerated method table (Props/C17,
Props/C17Table, Props/C12) are decided in one pass: lookup by key in a list with distinct keys, a set of naturals as a
bit mask, a property of all rows carried to the row a keyed lookup finds.
-/
namespace ZV.Spork

def UniqueIds (st : SState) : Prop := (st.map (·.id)).Nodup

/-- in a list with distinct keys the lookup of an element's key finds that element -/
theorem find?_of_mem_nodup {α κ : Type} (key : α → κ) (p : α → Bool) (l : List α) (hnd : (l.map key).Nodup)
    (e : α) (he : e ∈ l) (hp : ∀ x, p x = true ↔ key x = key e) : l.find? p = some e := by
  -- the lookup finds something, `e` passing the test, and what it finds has the key of `e`
  cases hf : l.find? p with
  | none => exact absurd ((hp e).2 rfl) (List.find?_eq_none.1 hf e he)
  | some a => rw [eq_of_map_eq_of_nodup hnd (List.mem_of_find?_eq_some hf) he ((hp a).1 (List.find?_some hf))]

theorem find_of_mem_unique (st : SState) (hu : UniqueIds st) (sp : SporkInfo) (hm : sp ∈ st) :
    find st sp.id = some sp :=
  find?_of_mem_nodup SporkInfo.id _ st hu sp hm fun _ => decide_eq_true_iff

theorem find_cons_self (x : SporkInfo) (t : SState) : find (x :: t) x.id = some x := by
  simp [find]

theorem unique_filter_cons (st : SState) (hu : UniqueIds st) (x : SporkInfo) :
    UniqueIds (x :: st.filter (·.id ≠ x.id)) := by
  refine List.nodup_cons.2 ⟨fun hm => ?_, List.Nodup.sublist (List.filter_sublist.map _) hu⟩
  obtain ⟨y, hy, hid⟩ := List.mem_map.1 hm
  simpa [hid] using (List.mem_filter.1 hy).2

theorem authorisedW_iff (w : Nat × Nat) (s : Sender) (fh : Nat) :
    authorisedW w s fh = true ↔ s = .sporkKey ∨ (s = .community ∧ w.1 ≤ fh ∧ fh < w.2) := by
  cases s <;> simp [authorisedW]

/-- a successful create: the sender is authorised and the new record replaces whatever had the id -/
theorem createW_eq_some {w : Nat × Nat} {st st' : SState} {s : Sender} {fh id : Nat}
    (h : createW w st s fh id = some st') :
    authorisedW w s fh = true ∧ st' = ⟨id, false, 0⟩ :: st.filter (·.id ≠ id) := by
  unfold createW at h
  split at h
  · cases h
  · rename_i ha
    exact ⟨by simpa using ha, (Option.some.inj h).symm⟩

/-- a successful activate: the sender is authorised, the spork exists and is not yet activated, and its record is
    replaced by the activated one with the enforcement height -/
theorem activateW_eq_some {w : Nat × Nat} {st st' : SState} {s : Sender} {fh id : Nat}
    (h : activateW w st s fh id = some st') :
    authorisedW w s fh = true ∧ ∃ sp, find st id = some sp ∧ sp.activated = false ∧
      st' = ⟨id, true, fh + Gen.SporkMinHeightDelay⟩ :: st.filter (·.id ≠ id) := by
  revert h
  fun_cases activateW w st s fh id
  case case4 ha sp hf hna =>
    exact fun h => ⟨by simpa using ha, sp, hf, by simpa using hna, (Option.some.inj h).symm⟩
  all_goals nofun

-- `create` / `activate` unfold to `createW` / `activateW` at `mainnetWindow`, so their inversions are instances
theorem create_eq_some {st st' : SState} {s : Sender} {fh id : Nat} (h : create st s fh id = some st') :
    authorised s fh = true ∧ st' = ⟨id, false, 0⟩ :: st.filter (·.id ≠ id) :=
  createW_eq_some (w := mainnetWindow) h

theorem activate_eq_some {st st' : SState} {s : Sender} {fh id : Nat} (h : activate st s fh id = some st') :
    authorised s fh = true ∧ ∃ sp, find st id = some sp ∧ sp.activated = false ∧
      st' = ⟨id, true, fh + Gen.SporkMinHeightDelay⟩ :: st.filter (·.id ≠ id) :=
  activateW_eq_some (w := mainnetWindow) h

/-- every operation keeps the ids unique, so the hypothesis `UniqueIds st` of the C17 theorems holds along a chain that
    starts from a state with unique ids (`C17.genesis_unique` for the genesis configuration) -/
theorem create_unique (st st' : SState) (s : Sender) (fh id : Nat) (hu : UniqueIds st)
    (h : create st s fh id = some st') : UniqueIds st' :=
  (create_eq_some h).2 ▸ unique_filter_cons st hu ⟨id, false, 0⟩

theorem activate_unique (st st' : SState) (s : Sender) (fh id : Nat) (hu : UniqueIds st)
    (h : activate st s fh id = some st') : UniqueIds st' := by
  obtain ⟨_, _, _, _, rfl⟩ := activate_eq_some h
  exact unique_filter_cons st hu ⟨id, true, fh + Gen.SporkMinHeightDelay⟩

theorem isActive_iff (st : SState) (h id : Nat) :
    isActive st h id = true ↔ h ≠ 1 ∧ ∃ sp ∈ st, sp.activated = true ∧ sp.enf ≤ h ∧ sp.id = id := by
  simp [isActive, and_assoc]

/-- activity of the id of a record just written over whatever had that id: only that record counts -/
theorem isActive_cons_filter (x : SporkInfo) (st : SState) (h : Nat) :
    isActive (x :: st.filter (·.id ≠ x.id)) h x.id = (h != 1 && (x.activated && decide (x.enf ≤ h))) := by
  have hrest : (st.filter (·.id ≠ x.id)).any (fun sp => sp.activated && decide (sp.enf ≤ h) && decide (sp.id = x.id))
      = false := by
    rw [List.any_eq_false]
    intro sp hsp
    have hne : sp.id ≠ x.id := by simpa using (List.mem_filter.1 hsp).2
    simp [hne]
  rw [isActive, List.any_cons, hrest]
  simp

/-- a rollback to height `h` keeps the lookups at or below `h` and empties those above -/
theorem histAt_rollbackHist (hist : Hist) (h h' : Nat) :
    histAt (rollbackHist hist h) h' = if h' ≤ h then histAt hist h' else none := by
  -- searching the filtered list is searching the list for both tests at once; the height test follows from the
  -- other when `h' ≤ h` and contradicts it otherwise
  unfold histAt rollbackHist
  rw [List.find?_filter]
  split
  · congr
    funext e
    by_cases he : e.1 = h' <;> simp [*]
  · rw [List.find?_eq_none.2 fun e _ => by simp; omega]
    rfl

/-- the names of the generated method list are pairwise distinct; the reviewed tables, which carry the same names in the
    same order, are looked up by name through this -/
theorem methodNames_nodup : Gen.methodNames.Nodup :=
  -- distinct already as numbers (the bytes of a name read as one numeral), which the kernel compares in one step each
  have h : (Gen.methodNames.map fun s => s.toByteArray.data.toList.foldl (fun n b => 256 * n + b.toNat) 0).Nodup := by
    decide +kernel
  h.of_map _ fun _ _ h e => h (e ▸ rfl)

theorem ownerOf_of_mem (e : String × Nat) (he : e ∈ introducedBy) : ownerOf e.1 = some e.2 := by
  -- `methodNames_nodup` is accepted for `(introducedBy.map Prod.fst).Nodup`: the two lists of literals are equal by
  -- evaluation (stated as `C17Table.method_names_reviewed`)
  rw [ownerOf, find?_of_mem_nodup Prod.fst _ introducedBy methodNames_nodup e he fun _ => beq_iff_eq]
  rfl

/-- a finite set of naturals as a bit mask: membership and inclusion become single `Nat` operations, which the kernel
    evaluates on binary numerals, where `List.contains` walks the list once per question -/
def bitsOf (l : List Nat) : Nat := l.foldr (fun i m => m ||| 1 <<< i) 0

theorem testBit_bitsOf (l : List Nat) (i : Nat) : (bitsOf l).testBit i = l.contains i := by
  induction l with
  | nil => exact Nat.zero_testBit i
  | cons a l ih =>
    show (bitsOf l ||| 1 <<< a).testBit i = _
    rw [Nat.testBit_or, ih, Nat.one_shiftLeft, Nat.testBit_two_pow, List.contains_cons, Bool.or_comm,
      Bool.beq_eq_decide_eq, decide_eq_decide.2 (eq_comm (a := a))]

theorem contains_of_bitsOf_subset (l l' : List Nat) (h : bitsOf l &&& bitsOf l' = bitsOf l) :
    ∀ m ∈ l, l'.contains m = true := by
  intro m hm
  have h1 : (bitsOf l).testBit m = true := by rw [testBit_bitsOf]; exact List.contains_iff_mem.2 hm
  rw [← h, Nat.testBit_and, testBit_bitsOf, testBit_bitsOf] at h1
  exact (Bool.and_eq_true_iff.1 h1).2

theorem available_eq_testBit (r m : Nat) : available r m = (bitsOf (methodsOf r)).testBit m :=
  (testBit_bitsOf _ _).symm

/-- in a table of rows (key₁, key₂, value), what holds of every row holds of the row the lookup of a listed key pair
    returns (the first with that key, should there be several) -/
theorem lookup_of_forall_rows {α : Type} (T : List (Nat × Nat × α)) (Q : Nat → Nat → α → Prop)
    (hQ : ∀ row ∈ T, Q row.1 row.2.1 row.2.2) (r i : Nat)
    (h : ((T.filter (·.1 = r)).map (·.2.1)).contains i = true) :
    ∃ v, (T.find? (fun row => row.1 == r && row.2.1 == i)).map (·.2.2) = some v ∧ Q r i v := by
  obtain ⟨row, hrow, hi⟩ := List.mem_map.1 (List.contains_iff_mem.1 h)
  obtain ⟨hT, hr⟩ := List.mem_filter.1 hrow
  cases hf : T.find? (fun row => row.1 == r && row.2.1 == i) with
  | none => simpa [hi, of_decide_eq_true hr] using List.find?_eq_none.1 hf row hT
  | some row' =>
    have hk := List.find?_some hf
    simp only [Bool.and_eq_true, beq_iff_eq] at hk
    exact ⟨_, rfl, hk.1 ▸ hk.2 ▸ hQ row' (List.mem_of_find?_eq_some hf)⟩

end ZV.Spork
