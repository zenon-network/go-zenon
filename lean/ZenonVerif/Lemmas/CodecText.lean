import ZenonVerif.Model.CodecText
/-
Helper lemmas for C13: decimal and hex text forms.
-/
namespace ZV.Codec
open ZV

theorem digitChar_props : ∀ d, d < 10 →
    ('0' ≤ digitChar d ∧ digitChar d ≤ '9') ∧ (digitChar d).toNat - 48 = d := by
  decide

/-- the decimal text of a natural number, most significant digit first (`strconv.FormatUint(n, 10)`): what
    `showAmount` puts after the sign and what `natLit` (Model/CodecJson.lean) wraps into a string, both by `rfl` -/
def natChars (n : Nat) : List Char := (natDigitsLE (n + 1) n).reverse.map digitChar

/-- reading the digits of `n` (followed by anything) from 0 arrives at `n`: the last digit is `n % 10`, the ones before
    it are the digits of `n / 10` -/
theorem parseDigitsAux_natDigitsLE : ∀ (f n : Nat) (cs : List Char), n < f →
    parseDigitsAux 0 ((natDigitsLE f n).reverse.map digitChar ++ cs) = parseDigitsAux n cs := by
  intro f
  induction f with
  | zero => intro n _ h; omega
  | succ f ih =>
    intro n cs h
    have hd := digitChar_props (n % 10) (Nat.mod_lt _ (by decide))
    have step : parseDigitsAux (n / 10) (digitChar (n % 10) :: cs) = parseDigitsAux n cs := by
      rw [parseDigitsAux, if_pos hd.1, hd.2, Nat.div_add_mod' n 10]
    unfold natDigitsLE
    split
    · next h10 => rw [Nat.div_eq_of_lt h10, Nat.mod_eq_of_lt h10] at step; exact step
    · rw [List.reverse_cons, List.map_append, List.append_assoc, ih _ _ (by omega)]; exact step

theorem parseDigitsAux_natChars (n : Nat) : parseDigitsAux 0 (natChars n) = some n := by
  simpa [natChars, parseDigitsAux] using parseDigitsAux_natDigitsLE (n + 1) n [] n.lt_succ_self

theorem natChars_isEmpty (n : Nat) : (natChars n).isEmpty = false := by
  unfold natChars natDigitsLE
  split <;> simp

/-- the text parses as a number, so its first character is a digit, hence neither '-' nor '+' -/
theorem stripSign_natChars (n : Nat) : stripSign (natChars n) = (false, natChars n) := by
  have hp := parseDigitsAux_natChars n
  unfold stripSign
  split
  · next heq => rw [heq] at hp; cases hp
  · next heq => rw [heq] at hp; cases hp
  · rfl

theorem setString10_showAmount (a : Int) : setString10 (showAmount a) = some a := by
  have hs : stripSign (showAmount a) = (decide (a < 0), natChars a.natAbs) := by
    by_cases ha : a < 0
    · simp only [showAmount, ha, if_true, decide_true]; rfl
    · simp only [showAmount, ha, if_false, decide_false, List.nil_append]; exact stripSign_natChars _
  simp [setString10, hs, natChars_isEmpty, parseDigitsAux_natChars]
  omega

theorem stringToBigInt_showAmount (a : Int) : stringToBigInt (showAmount a) = a := by
  simp [stringToBigInt, setString10_showAmount]

theorem hexVal_hexDigit : ∀ n, n < 16 → hexVal (hexDigit n) = some n := by decide

theorem ofHexChars_hexChars : ∀ (b : Bytes), b.WF → ofHexChars (hexChars b) = some b := by
  intro b
  induction b with
  | nil => intro _; rfl
  | cons x xs ih =>
    intro h
    obtain ⟨hx, hxs⟩ := List.forall_mem_cons.1 h
    show ofHexChars (hexDigit (x / 16) :: hexDigit (x % 16) :: hexChars xs) = _
    rw [ofHexChars, hexVal_hexDigit _ (by omega), hexVal_hexDigit _ (by omega), ih hxs]
    exact congrArg (fun y => some (y :: xs)) (Nat.div_add_mod x 16)

theorem length_hexChars (b : Bytes) : (hexChars b).length = 2 * b.length := by
  simp [hexChars, List.length_flatMap, List.map_const', List.sum_replicate_nat, Nat.mul_comm]

/-- `hex.EncodeToString` of the 8 nonce bytes is accepted by `(n *Nonce) UnmarshalText` -/
theorem nonceUnmarshalText_hexChars (n : Bytes) (h : n.WF ∧ n.length = 8) :
    nonceUnmarshalText (hexChars n) = some n := by
  simp [nonceUnmarshalText, ofHexChars_hexChars n h.1, h.2]

end ZV.Codec
