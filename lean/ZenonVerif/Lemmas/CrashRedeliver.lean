import ZenonVerif.Model.Crash
import ZenonVerif.Lemmas.LdbInv
/-
Helper lemmas for Props/C08Redeliver.lean: raw effect of replaying a patch (the keys of the patch end up with values that
depend on the patch alone, every other key is left as it was), and "commit, roll back, commit the same again" on `Ldb`.
-/
namespace ZV.CrashRedeliver
open ZV ZV.Kv ZV.KvLogic ZV.Versioned

theorem rget_edApply_not_mem (p : Patch) (top : Raw) (x : Bytes) (h : x ∉ keys p) :
    rget (edApply top p) x = rget top x :=
  foldl_not_mem rget edApplyOp (fun s o x h => by rw [rget_edApplyOp, if_neg h]) p top x h

/-- a key the patch touches holds, after the replay, a raw value that does not depend on the layer replayed onto:
    its last write decides -/
theorem rget_edApply_mem (p : Patch) (t1 t2 : Raw) (x : Bytes) (h : x ∈ keys p) :
    rget (edApply t1 p) x = rget (edApply t2 p) x := by
  induction p generalizing t1 t2 with
  | nil => cases h
  | cons o t ih =>
    show rget (edApply (edApplyOp t1 o) t) x = rget (edApply (edApplyOp t2 o) t) x
    by_cases hm : x ∈ keys t
    · exact ih _ _ hm
    · have hx : x = o.key := (List.mem_cons.1 h).resolve_right hm
      rw [rget_edApply_not_mem t _ x hm, rget_edApply_not_mem t _ x hm, rget_edApplyOp, rget_edApplyOp,
        if_pos hx, if_pos hx]

/-- replay, replay of ANY patch over the same keys, replay again: the raw layer is that after the first replay -/
theorem edApply_undo_redo {top : Raw} (hs : Sorted top) (p q : Patch) (hq : keys q = keys p) :
    edApply (edApply (edApply top p) q) p = edApply top p := by
  apply sorted_ext (((hs.edApply p).edApply q).edApply p) (hs.edApply p)
  intro k
  by_cases hk : k ∈ keys p
  · rw [rget_edApply_mem p _ top k hk]
  · rw [rget_edApply_not_mem p _ k hk, rget_edApply_not_mem q _ k (by rw [hq]; exact hk)]

theorem filter_ne_idem (l : List (Nat × Patch)) (h : Nat) (e : Patch) :
    ((h, e) :: l.filter (fun x => x.1 ≠ h)).filter (fun x => x.1 ≠ h) = l.filter (fun x => x.1 ≠ h) := by
  simp [List.filter_filter]

theorem keyFrontierId_mem (ops : Patch) (id : Id) : keyFrontierId ∈ keys (ops ++ frontierOps id) := by
  simp [keys, frontierOps, Op.key]

/-- `frontierIdOf` reads one key, and the undo patch of a commit restores that key -/
theorem frontierIdOf_rollback (g t : Store) (ops : Patch) (id : Id) :
    frontierIdOf (applyP t (rollbackPatch g (ops ++ frontierOps id))) = frontierIdOf g := by
  simp only [frontierIdOf, rollback_restores, keyFrontierId_mem, if_true]

end ZV.CrashRedeliver
