import ZenonVerif.Lemmas.LedgerCons
/-
What an accepted step does (frame, invariants kept, debits covered); lifting to reachable states.
-/
namespace ZV.Ledger

variable {s s' s0 s1 s2 : State} {e : Ev} {c a : Addr} {h : Hash} {st : Nat} {ds : List Desc}
  {snd nxt x : Send} {out : TokOutcome} {t n : Tok} {toks : List (Tok × TokInfo)} {d : Desc}

/-- the confirmed sends an event adds -/
def Ev.newSends : Ev → List Send
  | .usend src dst tok amt h call => [⟨h, src, dst, tok, amt, call⟩]
  | .urecv _ _ => []
  | .crecv c _ _ ds => ds.map (mkSend c)

/-- the receive marker an event adds -/
def Ev.markers : Ev → List (Addr × Hash)
  | .usend .. => []
  | .urecv a h => [(a, h)]
  | .crecv c h _ _ => [(c, h)]

/-- `FreshDescs s ds` unfolds to the two clauses of `Fresh` for a contract receive -/
theorem Fresh.descs
    (hf : Fresh s (.crecv c h st ds)) : FreshDescs s ds := hf

theorem Fresh.usend {src dst : Addr} {tok : Tok} {amt : Nat} {call : TokCall}
    (hf : Fresh s (.usend src dst tok amt h call)) : h ∉ s.sends.map (·.hash) := hf.2 h (by simp [Ev.newHashes])

/-- what a step leaves alone, the sends and the marker it adds -/
theorem step_frame (hok : step s e = .ok s') :
    s'.gate = s.gate ∧ s'.sends = s.sends ++ e.newSends ∧ s'.recv = e.markers ++ s.recv := by
  cases e with
  | usend src dst tok amt h call =>
    obtain ⟨_, h1⟩ := usend_ok hok
    obtain ⟨_, _, rfl⟩ := applySend_ok h1
    exact ⟨rfl, rfl, rfl⟩
  | urecv a h =>
    obtain ⟨_, snd, _, rfl⟩ := urecv_ok hok
    exact ⟨rfl, by simp [Ev.newSends, recvCore, State.credit], rfl⟩
  | crecv c h st ds =>
    cases crecv_ok_iff.1 hok with
    | plain nxt snd _ _ _ _ _ _ _ hds =>
      obtain ⟨r1, _, r3, r4⟩ := applyDescs_frame hds
      exact ⟨r3, r4, r1⟩
    | token nxt snd out _ _ _ _ _ _ _ _ hds =>
      obtain ⟨r1, _, r3, r4⟩ := applyDescs_frame hds
      exact ⟨r3, r4, r1⟩

theorem crecv_marker (hok : crecv s c h st ds = .ok s') : (c, h) ∈ s'.recv :=
  (step_frame (e := .crecv c h st ds) hok).2.2 ▸ List.mem_cons_self ..

theorem step_wf (hw : WF s) (hf : Fresh s e) (hok : step s e = .ok s') : WF s' := by
  cases e with
  | usend src dst tok amt h call =>
    obtain ⟨_, h1⟩ := usend_ok hok
    exact hw.applySend hf.usend h1
  | urecv a h =>
    obtain ⟨_, snd, hc, rfl⟩ := urecv_ok hok
    exact hw.recvCore hc
  | crecv c h st ds =>
    cases crecv_ok_iff.1 hok with
    | plain nxt snd _ _ hchk _ _ _ _ hds =>
      exact (hw.recvCore hchk).descs (hf.descs.of_frame rfl) hds
    | token nxt snd out _ _ hchk _ _ hm _ _ hds =>
      have hw1 := hw.recvCore hchk
      have hw2 : WF (tokApply (recvCore s c h snd) c out) := hw1.tokApply c hm
      exact hw2.descs (hf.descs.of_frame rfl) hds

/-- token storage changes only in a status-1 receive of the token contract -/
theorem step_toks (hok : step s e = .ok s')
    (hne : ∀ h ds, e ≠ .crecv tokenContract h 1 ds) : s'.toks = s.toks := by
  cases e with
  | usend src dst tok amt h call =>
    obtain ⟨_, h1⟩ := usend_ok hok
    obtain ⟨_, _, rfl⟩ := applySend_ok h1
    rfl
  | urecv a h =>
    obtain ⟨_, snd, _, rfl⟩ := urecv_ok hok
    rfl
  | crecv c h st ds =>
    cases crecv_ok_iff.1 hok with
    | plain nxt snd _ _ _ _ _ _ _ hds => exact (applyDescs_frame hds).2.1
    | token nxt snd out _ _ _ hc hst _ _ _ _ => subst hc; subst hst; exact absurd rfl (hne h ds)

/-- Σ balances + Σ in flight is unchanged by every step that is not a status-1 receive of the token contract -/
theorem step_total (hg : s.gate = true) (hw : WF s) (hf : Fresh s e)
    (hok : step s e = .ok s') (hne : ∀ h ds, e ≠ .crecv tokenContract h 1 ds) (t : Tok) : total s' t = total s t := by
  cases e with
  | usend src dst tok amt h call =>
    obtain ⟨_, hle, rfl⟩ := applySend_ok (usend_ok hok).2
    exact total_pushSend hw hf.usend hle t
  | urecv a h =>
    obtain ⟨_, snd, hchk, rfl⟩ := urecv_ok hok
    exact total_recvCore hw hg hchk t
  | crecv c h st ds =>
    cases crecv_ok_iff.1 hok with
    | plain nxt snd _ _ hchk _ _ _ _ hds =>
      rw [total_applyDescs (hw.recvCore hchk) (hf.descs.of_frame rfl) hds t, total_recvCore hw hg hchk t]
    | token nxt snd out _ _ _ hc hst _ _ _ _ => subst hc; subst hst; exact absurd rfl (hne h ds)

/-- only the token-applied shape needs an argument of its own: every other step keeps storage and Σ balances + Σ in flight -/
theorem step_conserved (hg : s.gate = true) (hw : WF s) (hc : Conserved s)
    (hf : Fresh s e) (hok : step s e = .ok s') : Conserved s' := by
  by_cases hne : ∀ h ds, e ≠ .crecv tokenContract h 1 ds
  · exact hc.of_total (step_toks hok hne) (step_total hg hw hf hok hne)
  · simp only [Classical.not_forall, Classical.not_not] at hne
    obtain ⟨h, ds, rfl⟩ := hne
    cases crecv_ok_iff.1 hok with
    | plain _ _ _ _ _ _ _ htc => exact absurd (htc rfl) (by decide)
    | token nxt snd out _ _ hchk _ _ hm _ hburn hds =>
      have hw2 := (hw.recvCore hchk).tokApply tokenContract hm
      have hc1 : Conserved (recvCore s tokenContract h snd) := hc.of_total rfl (total_recvCore hw hg hchk)
      have hc2 := hc1.tokStep tokenContract hm hburn
      exact hc2.of_total (applyDescs_frame hds).2.1 (total_applyDescs hw2 (hf.descs.of_frame rfl) hds)

theorem step_supplyLeMax (hs : SupplyLeMax s) (hcalls : CallsOk s)
    (hok : step s e = .ok s') : SupplyLeMax s' := by
  by_cases hne : ∀ h ds, e ≠ .crecv tokenContract h 1 ds
  · rw [SupplyLeMax, step_toks hok hne]; exact hs
  · simp only [Classical.not_forall, Classical.not_not] at hne
    obtain ⟨h, ds, rfl⟩ := hne
    cases crecv_ok_iff.1 hok with
    | plain _ _ _ _ _ _ _ htc => exact absurd (htc rfl) (by decide)
    | token nxt snd out _ _ hchk _ _ hm _ _ hds =>
      rw [SupplyLeMax, (applyDescs_frame hds).2.1]
      exact tokenMethod_supply_le_max hs (hcalls snd (findSend_some (checkFrom_ok.1 hchk).1).1) hm

theorem Ev.newSends_calls (e : Ev) : e.newSends.map (·.call) = e.newCalls := by
  cases e <;> simp [Ev.newSends, Ev.newCalls, mkSend]

theorem Ev.newSends_hashes (e : Ev) : e.newSends.map (·.hash) = e.newHashes := by
  cases e <;> simp [Ev.newSends, Ev.newHashes, mkSend]

theorem step_callsOk (hcalls : CallsOk s) (ha : ∀ c ∈ e.newCalls, CallOk c)
    (hok : step s e = .ok s') : CallsOk s' := by
  intro x hx
  rw [(step_frame hok).2.1] at hx
  rcases List.mem_append.1 hx with h1 | h1
  · exact hcalls x h1
  · apply ha
    rw [← Ev.newSends_calls]
    exact List.mem_map.2 ⟨x, h1, rfl⟩

/-- every descendant of the list is debited from a balance that covers it (the state `sm` is the one the debit is applied to) -/
def GuardedDescs (base : State) (c : Addr) (ds : List Desc) : Prop :=
  ∀ pre d post, ds = pre ++ d :: post → ∃ sm, applyDescs base c pre = .ok sm ∧ d.amt ≤ getBal sm.bal c d.tok

theorem guardedDescs_of_ok {c : Addr} : ∀ {ds : List Desc} {s s' : State}, applyDescs s c ds = .ok s' →
    GuardedDescs s c ds
  | [], s, s', _ => by
    intro pre d post he
    exact absurd he (by simp)
  | d0 :: ds, s, s', hok => by
    obtain ⟨hz, hle, h2⟩ := applyDescs_cons_ok hok
    intro pre d post he
    cases pre with
    | nil =>
      simp only [List.nil_append, List.cons.injEq] at he
      obtain ⟨rfl, _⟩ := he
      exact ⟨s, rfl, hle⟩
    | cons p pre' =>
      simp only [List.cons_append, List.cons.injEq] at he
      obtain ⟨rfl, he'⟩ := he
      obtain ⟨sm, hsm, hle'⟩ := guardedDescs_of_ok h2 pre' d post he'
      exact ⟨sm, by rw [applyDescs_cons_of hz hle]; exact hsm, hle'⟩

/-- the debits of an accepted step, each with the balance it is applied to -/
def NoUnderflow (s : State) : Ev → Prop
  | .usend src _ tok amt _ _ => amt ≤ getBal s.bal src tok
  | .urecv _ _ => True
  | .crecv c h _ ds => ∃ snd, checkFrom s c h = .ok snd ∧
      (GuardedDescs (recvCore s c h snd) c ds ∨
       ∃ out, tokenMethod s.toks snd (newTokOf ds) = some out ∧
         out.burn ≤ getBal (tokMint (recvCore s c h snd) c out).bal c out.mintTok ∧
         GuardedDescs (tokApply (recvCore s c h snd) c out) c ds)

theorem step_noUnderflow (hok : step s e = .ok s') : NoUnderflow s e := by
  cases e with
  | usend src dst tok amt h call =>
    obtain ⟨_, h1⟩ := usend_ok hok
    exact (applySend_ok h1).2.1
  | urecv a h => trivial
  | crecv c h st ds =>
    cases crecv_ok_iff.1 hok with
    | plain nxt snd _ _ hchk _ _ _ _ hds => exact ⟨snd, hchk, Or.inl (guardedDescs_of_ok hds)⟩
    | token nxt snd out _ _ hchk _ _ hm _ hburn hds =>
      exact ⟨snd, hchk, Or.inr ⟨out, hm, hburn, guardedDescs_of_ok hds⟩⟩

/-- confirmed sends and receive markers are never removed, the gate never changes -/
theorem Reach.mono (hr : Reach s0 s) :
    s.gate = s0.gate ∧ (∃ ss, s.sends = s0.sends ++ ss) ∧ ∃ mm, s.recv = mm ++ s0.recv := by
  induction hr with
  | refl => exact ⟨rfl, ⟨[], by simp⟩, ⟨[], by simp⟩⟩
  | step e _ _ hok ih =>
    obtain ⟨g, ⟨ss, hs⟩, ⟨mm, hm⟩⟩ := ih
    obtain ⟨g', hs', hm'⟩ := step_frame hok
    refine ⟨g'.trans g, ⟨ss ++ e.newSends, ?_⟩, ⟨e.markers ++ mm, ?_⟩⟩
    · rw [hs', hs, List.append_assoc]
    · rw [hm', hm, List.append_assoc]

theorem Reach.gate (hr : Reach s0 s) : s.gate = s0.gate := hr.mono.1

/-- well-formedness alone does not need the gate -/
theorem Reach.wf (hw : WF s0) (hr : Reach s0 s) : WF s := by
  induction hr with
  | refl => exact hw
  | step e _ ha hok ih => exact step_wf ih ha.1 hok

theorem Reach.trans (h1 : Reach s0 s1) (h2 : Reach s1 s2) : Reach s0 s2 := by
  induction h2 with
  | refl => exact h1
  | step e _ ha hok ih => exact .step e ih ha hok

theorem Reach.conserved {s0 s : State} (hg : s0.gate = true) (hw : WF s0) (hc : Conserved s0) (hr : Reach s0 s) :
    WF s ∧ Conserved s := by
  induction hr with
  | refl => exact ⟨hw, hc⟩
  | step e hr' ha hok ih =>
    exact ⟨step_wf ih.1 ha.1 hok, step_conserved (hr'.gate.trans hg) ih.1 ih.2 ha.1 hok⟩

theorem Reach.supplyLeMax (hs : SupplyLeMax s0) (hcalls : CallsOk s0) (hr : Reach s0 s) :
    SupplyLeMax s ∧ CallsOk s := by
  induction hr with
  | refl => exact ⟨hs, hcalls⟩
  | step e _ ha hok ih => exact ⟨step_supplyLeMax ih.1 ih.2 hok, step_callsOk ih.2 ha.2 hok⟩

/-- the full invariant carried along a history -/
structure Inv (s : State) : Prop where
  wf : WF s
  conserved : Conserved s
  supplyLeMax : SupplyLeMax s
  callsOk : CallsOk s

theorem inv_init (g : Bool) : Inv (State.init g) := by
  refine ⟨wf_init g, ?_, ?_, ?_⟩
  · intro t _; simp [State.init, supplyOf, supplyOfL, getTok, sumBal, sumBalL, inflightSum, State.unreceived]
  · intro t i h; simp [State.init, getTok] at h
  · intro x hx; simp [State.init] at hx

theorem Reach.inv {s0 s : State} (hg : s0.gate = true) (hi : Inv s0) (hr : Reach s0 s) : Inv s :=
  have h1 := hr.conserved hg hi.wf hi.conserved
  have h2 := hr.supplyLeMax hi.supplyLeMax hi.callsOk
  ⟨h1.1, h1.2, h2.1, h2.2⟩

end ZV.Ledger
