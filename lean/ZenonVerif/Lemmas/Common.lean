/-
Facts that several models need. A guard `if c then .error r else x` in `Except` succeeds exactly when it does not fire
and the rest succeeds (the acceptance pipeline and the ledger are chains of such guards). Keys without duplicates determine
the element. The insertion sort the models write out by hand (`Consensus.insertPD` / `sortPD` for pillars by weight, `CStore.insertSorted` / `sortPillars`
for producer details by name) yields a sorted permutation for any total, transitive comparison. Each model shows that
its own sort is `insertBy` at its comparison and takes the two facts from here; that a sorted permutation is unique is
core's `List.Perm.eq_of_pairwise`.
-/
namespace ZV

theorem ite_error_eq_ok {ε α : Type} {c : Prop} [Decidable c] {r : ε} {x : Except ε α} {y : α} :
    (if c then .error r else x) = .ok y ↔ ¬c ∧ x = .ok y := by
  by_cases hc : c <;> simp [hc]

theorem eq_of_map_eq_of_nodup {α β : Type} {f : α → β} {l : List α} (hn : (l.map f).Nodup) {a b : α}
    (ha : a ∈ l) (hb : b ∈ l) (h : f a = f b) : a = b :=
  List.Pairwise.forall_of_forall_of_flip (R := fun a b => f a = f b → a = b) (fun _ _ _ => rfl)
    ((List.pairwise_map.mp hn).imp fun hne h => absurd h hne)
    ((List.pairwise_map.mp hn).imp fun hne h => absurd h.symm hne) ha hb h

variable {α : Type} (le : α → α → Bool)

def insertBy (x : α) : List α → List α
  | [] => [x]
  | y :: ys => if le x y then x :: y :: ys else y :: insertBy x ys

theorem insertBy_perm (x : α) (l : List α) : (insertBy le x l).Perm (x :: l) := by
  induction l with
  | nil => exact List.Perm.refl _
  | cons y ys ih =>
    unfold insertBy
    split
    · exact List.Perm.refl _
    · exact (List.Perm.cons y ih).trans (List.Perm.swap x y ys)

theorem foldr_insertBy_perm (l : List α) : (l.foldr (insertBy le) []).Perm l := by
  induction l with
  | nil => exact List.Perm.refl _
  | cons x xs ih => exact (insertBy_perm le x _).trans (List.Perm.cons x ih)

variable (htot : ∀ a b, le a b = true ∨ le b a = true)
  (htr : ∀ a b c, le a b = true → le b c = true → le a c = true)
include htot htr

theorem insertBy_sorted (x : α) (l : List α) (h : l.Pairwise (fun a b => le a b = true)) :
    (insertBy le x l).Pairwise (fun a b => le a b = true) := by
  induction l with
  | nil => exact List.pairwise_singleton _ _
  | cons y ys ih =>
    obtain ⟨hy, hys⟩ := List.pairwise_cons.mp h
    rw [insertBy]
    split
    · rename_i hxy
      exact List.pairwise_cons.mpr ⟨fun z hz => (List.mem_cons.mp hz).elim (· ▸ hxy)
        fun hz => htr _ _ _ hxy (hy z hz), h⟩
    · rename_i hxy
      -- `x` does not go before `y`, so by totality `y` goes before `x`, and before the rest as it did
      exact List.pairwise_cons.mpr ⟨fun z hz => (List.mem_cons.mp ((insertBy_perm le x ys).subset hz)).elim
        (· ▸ (htot x y).resolve_left hxy) (hy z), ih hys⟩

theorem foldr_insertBy_sorted (l : List α) : (l.foldr (insertBy le) []).Pairwise (fun a b => le a b = true) := by
  induction l with
  | nil => exact List.Pairwise.nil
  | cons x xs ih => exact insertBy_sorted le htot htr x _ ih

end ZV
