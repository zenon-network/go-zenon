import ZenonVerif.Model.Wallet
/-
Helper lemmas for C19-T1/T2: the automaton of `pathRegex`, `strings.Split`, `strings.TrimRight` and
`strconv.ParseUint` on strings of the path grammar. Core Lean only.
-/
namespace ZV.Wallet
open ZV

theorem isDigit_slash : isDigit cSlash = false := by decide
theorem isDigit_quote : isDigit cQuote = false := by decide

theorem isDigit_ne {c k : Nat} (h : isDigit c = true) (hk : isDigit k = false) : c ≠ k :=
  fun e => by rw [e, hk] at h; cases h

theorem isDigit_ne_m {c : Nat} (h : isDigit c = true) : c ≠ cM := isDigit_ne h (by decide)

/-- the body of a path after the leading `m` -/
def body (segs : List Bytes) : Bytes := segs.flatMap (fun d => cSlash :: (d ++ [cQuote]))

theorem body_nil : body [] = [] := rfl

theorem body_cons (d : Bytes) (segs : List Bytes) :
    body (d :: segs) = cSlash :: (d ++ cQuote :: body segs) := by
  simp [body]

theorem pathOf_eq (segs : List Bytes) : pathOf segs = cM :: body segs := rfl

theorem prun_dead (s : Bytes) : prun .dead s = .dead := by
  induction s with
  | nil => rfl
  | cons c cs ih => simpa [prun, pstep] using ih

theorem prun_inDigits_fwd (d rest : Bytes) (h : d.all isDigit = true) :
    prun .inDigits (d ++ cQuote :: rest) = prun .afterQuote rest := by
  induction d with
  | nil => simp [prun, pstep, isDigit_quote]
  | cons c cs ih =>
    simp only [List.all_cons, Bool.and_eq_true] at h
    simp [prun, pstep, h.1, ih h.2]

theorem prun_afterSlash_fwd (d rest : Bytes) (h : DigitStr d) :
    prun .afterSlash (d ++ cQuote :: rest) = prun .afterQuote rest := by
  obtain ⟨hne, hall⟩ := h
  cases d with
  | nil => exact absurd rfl hne
  | cons c cs =>
    simp only [List.all_cons, Bool.and_eq_true] at hall
    simp only [List.cons_append, prun, pstep, hall.1, if_true]
    exact prun_inDigits_fwd cs rest hall.2

theorem prun_afterQuote_body (segs : List Bytes) (h : ∀ d ∈ segs, DigitStr d) :
    prun .afterQuote (body segs) = .afterQuote := by
  induction segs with
  | nil => rfl
  | cons d segs ih =>
    obtain ⟨hd, hs⟩ := List.forall_mem_cons.1 h
    rw [body_cons]
    simp only [prun, pstep, if_true]
    rw [prun_afterSlash_fwd d _ hd]
    exact ih hs

theorem prun_inDigits_inv (s : Bytes) (h : prun .inDigits s = .afterQuote) :
    ∃ d rest, d.all isDigit = true ∧ s = d ++ cQuote :: rest ∧ prun .afterQuote rest = .afterQuote := by
  induction s with
  | nil => simp [prun] at h
  | cons c cs ih =>
    simp only [prun, pstep] at h
    by_cases hd : isDigit c = true
    · simp only [hd, if_true] at h
      obtain ⟨d, rest, hall, hs, hr⟩ := ih h
      exact ⟨c :: d, rest, by simp [hd, hall], by simp [hs], hr⟩
    · simp only [hd] at h
      by_cases hq : c = cQuote
      · simp only [hq, if_true] at h
        exact ⟨[], cs, rfl, by simp [hq], h⟩
      · simp [hq, prun_dead] at h

theorem prun_afterSlash_inv (s : Bytes) (h : prun .afterSlash s = .afterQuote) :
    ∃ d rest, DigitStr d ∧ s = d ++ cQuote :: rest ∧ prun .afterQuote rest = .afterQuote := by
  cases s with
  | nil => simp [prun] at h
  | cons c cs =>
    simp only [prun, pstep] at h
    by_cases hd : isDigit c = true
    · simp only [hd, if_true] at h
      obtain ⟨d, rest, hall, hs, hr⟩ := prun_inDigits_inv cs h
      exact ⟨c :: d, rest, ⟨by simp, by simp [hd, hall]⟩, by simp [hs], hr⟩
    · simp [hd, prun_dead] at h

theorem prun_afterQuote_inv : ∀ s : Bytes, prun .afterQuote s = .afterQuote →
    ∃ segs : List Bytes, (∀ d ∈ segs, DigitStr d) ∧ s = body segs
  | [], _ => ⟨[], by simp, rfl⟩
  | c :: cs, h => by
    simp only [prun, pstep] at h
    by_cases hc : c = cSlash
    · simp only [hc, if_true] at h
      obtain ⟨d, rest, hd, hs, hr⟩ := prun_afterSlash_inv cs h
      have : rest.length < (c :: cs).length := by
        rw [hs, List.length_cons, List.length_append, List.length_cons]; omega
      obtain ⟨segs, hsegs, hrest⟩ := prun_afterQuote_inv rest hr
      exact ⟨d :: segs, List.forall_mem_cons.2 ⟨hd, hsegs⟩, by rw [body_cons, hc, hs, hrest]⟩
    · simp [hc, prun_dead] at h
termination_by s => s.length
decreasing_by exact this

theorem regexMatch_iff (p : Bytes) :
    regexMatch p = true ↔ ∃ segs : List Bytes, segs ≠ [] ∧ (∀ d ∈ segs, DigitStr d) ∧ p = pathOf segs := by
  constructor
  · intro h
    simp only [regexMatch, beq_iff_eq] at h
    cases p with
    | nil => simp [prun] at h
    | cons c cs =>
      simp only [prun, pstep] at h
      by_cases hc : c = cM
      · simp only [hc, if_true] at h
        cases cs with
        | nil => simp [prun] at h
        | cons c' cs' =>
          have h' : prun .afterQuote (c' :: cs') = .afterQuote := by
            simp only [prun, pstep] at h ⊢
            exact h
          obtain ⟨segs, hsegs, hb⟩ := prun_afterQuote_inv _ h'
          refine ⟨segs, ?_, hsegs, ?_⟩
          · intro hn
            rw [hn] at hb
            simp [body] at hb
          · rw [pathOf_eq, hc, hb]
      · simp [hc, prun_dead] at h
  · rintro ⟨segs, hne, hsegs, rfl⟩
    simp only [regexMatch, beq_iff_eq]
    cases segs with
    | nil => exact absurd rfl hne
    | cons d segs =>
      have := prun_afterQuote_body (d :: segs) hsegs
      rw [body_cons] at this
      rw [pathOf_eq, body_cons]
      simp only [prun, pstep, if_true] at this ⊢
      exact this

/-! ### `strings.Split` -/

/-- the model's `splitOn` is core's `List.splitOn` -/
theorem splitOn_eq (sep : Nat) (s : Bytes) : splitOn sep s = s.splitOn sep := by
  induction s with
  | nil => rfl
  | cons c cs ih =>
    rw [splitOn, ih, List.splitOn_cons_eq_if_modifyHead]
    cases h : cs.splitOn sep with
    | nil => exact absurd h (List.splitOn_ne_nil sep cs)
    | cons a t => by_cases hc : c = sep <;> simp [hc]

theorem digits_no_slash {d : Bytes} (h : d.all isDigit = true) : cSlash ∉ d :=
  fun hc => isDigit_ne (List.all_eq_true.mp h _ hc) isDigit_slash rfl

theorem splitOn_body (x : Bytes) (hx : cSlash ∉ x) (segs : List Bytes) (h : ∀ d ∈ segs, DigitStr d) :
    splitOn cSlash (x ++ body segs) = x :: segs.map (· ++ [cQuote]) := by
  induction segs generalizing x with
  | nil => simpa [body, splitOn_eq] using List.splitOn_eq_singleton hx
  | cons d segs ih =>
    rw [body_cons, splitOn_eq, List.splitOn_append_cons_self_of_not_mem hx, ← splitOn_eq]
    have := ih (d ++ [cQuote]) (by rw [List.mem_append, not_or]; exact ⟨digits_no_slash (h d (by simp)).2, by decide⟩)
      (fun e he => h e (by simp [he]))
    simp only [List.append_assoc, List.singleton_append] at this
    rw [this]
    simp

theorem segments_pathOf (segs : List Bytes) (h : ∀ d ∈ segs, DigitStr d) :
    segments (pathOf segs) = segs.map (· ++ [cQuote]) := by
  have := splitOn_body [cM] (by decide) segs h
  simp only [List.singleton_append] at this
  rw [segments, pathOf_eq, this]
  rfl

/-! ### `strings.TrimRight` and `strconv.ParseUint` -/

theorem trimRight_quote (d : Bytes) (h : d.all isDigit = true) : trimRight cQuote (d ++ [cQuote]) = d := by
  have hdw : d.reverse.dropWhile (· == cQuote) = d.reverse :=
    List.dropWhile_beq_eq_self_of_head?_ne fun hq =>
      isDigit_ne (List.all_eq_true.mp h _ (List.mem_reverse.1 (List.mem_of_head? hq))) isDigit_quote rfl
  simp [trimRight, hdw]

theorem parseUint_digits (bits : Nat) (d : Bytes) (h : DigitStr d) :
    parseUint bits d = if decVal d < 2 ^ bits then some (decVal d) else none := by
  obtain ⟨hne, hall⟩ := h
  have : d.isEmpty = false := by
    cases d with
    | nil => exact absurd rfl hne
    | cons _ _ => rfl
  simp [parseUint, this, hall]

theorem parseBits_isValidPath : parseBits Gen.parseUintArgs_isValidPath = 32 := by decide

theorem isValidPath_iff (p : Bytes) : isValidPath p = true ↔ PathGrammar p := by
  simp only [isValidPath, Bool.and_eq_true, regexMatch_iff, PathGrammar, parseBits_isValidPath]
  constructor
  · rintro ⟨⟨segs, hne, hsegs, rfl⟩, hall⟩
    refine ⟨segs, hne, ?_, rfl⟩
    intro d hd
    refine ⟨hsegs d hd, ?_⟩
    rw [segments_pathOf segs hsegs, List.all_eq_true] at hall
    have := hall (d ++ [cQuote]) (List.mem_map.mpr ⟨d, hd, rfl⟩)
    rw [trimRight_quote d (hsegs d hd).2, parseUint_digits 32 d (hsegs d hd)] at this
    rw [two32_eq]
    split at this
    · assumption
    · simp at this
  · rintro ⟨segs, hne, hsegs, rfl⟩
    refine ⟨⟨segs, hne, fun d hd => (hsegs d hd).1, rfl⟩, ?_⟩
    rw [segments_pathOf segs (fun d hd => (hsegs d hd).1), List.all_eq_true]
    intro seg hseg
    obtain ⟨d, hd, rfl⟩ := List.mem_map.mp hseg
    have hlt := (hsegs d hd).2
    rw [two32_eq] at hlt
    rw [trimRight_quote d (hsegs d hd).1.2, parseUint_digits 32 d (hsegs d hd).1]
    simp [hlt]

theorem decVal_append_single (l : Bytes) (c : Nat) : decVal (l ++ [c]) = 10 * decVal l + (c - 48) := by
  simp [decVal, List.foldl_append]

theorem decBytes_digitStr (n : Nat) : DigitStr (decBytes n) := by
  induction n using Nat.strongRecOn with
  | _ n ih =>
    rw [decBytes]
    split
    · next h =>
      refine ⟨by simp, ?_⟩
      simp [isDigit]; omega
    · next h =>
      have := ih (n / 10) (by omega)
      refine ⟨by simp, ?_⟩
      simp only [List.all_append, this.2, Bool.true_and]
      simp [isDigit]; omega

theorem decVal_decBytes (n : Nat) : decVal (decBytes n) = n := by
  induction n using Nat.strongRecOn with
  | _ n ih =>
    rw [decBytes]
    split
    · next h => simp [decVal]
    · next h =>
      rw [decVal_append_single, ih (n / 10) (by omega)]
      omega

/-- `m/44'/73404'/i'`: `[52, 52]` is the text "44", `[55, 51, 52, 48, 52]` the text "73404" -/
theorem indexPath_eq (i : Nat) : indexPath i = pathOf [[52, 52], [55, 51, 52, 48, 52], decBytes i] := by
  simp [indexPath, pathOf, Gen.accountPathPrefix, Gen.accountPathSuffix, cM, cSlash, cQuote]

/-- the representation of a path by its digit strings is unique -/
theorem pathOf_injective (s₁ s₂ : List Bytes) (h₁ : ∀ d ∈ s₁, DigitStr d) (h₂ : ∀ d ∈ s₂, DigitStr d)
    (h : pathOf s₁ = pathOf s₂) : s₁ = s₂ := by
  have e : s₁.map (· ++ [cQuote]) = s₂.map (· ++ [cQuote]) := by
    rw [← segments_pathOf s₁ h₁, ← segments_pathOf s₂ h₂, h]
  exact (List.map_inj_right (fun a b hab => List.append_cancel_right hab)).mp e

end ZV.Wallet
