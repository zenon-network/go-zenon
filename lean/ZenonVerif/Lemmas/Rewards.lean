import ZenonVerif.Model.Rewards
/-
Lemmas for C11: sums of a projection over a list, sums of rounded-down shares, the int64 facts the reward arithmetic
needs, and what one pillar's reward satisfies.
-/
namespace ZV.Rewards

/-! ### sums of a projection over a list -/

theorem sum_map_le {α : Type} (f g : α → Int) :
    ∀ l : List α, (∀ x ∈ l, f x ≤ g x) → (l.map f).sum ≤ (l.map g).sum
  | [], _ => Int.le_refl _
  | x :: l, h => by
    have h1 := h x List.mem_cons_self
    have h2 := sum_map_le f g l (fun y hy => h y (List.mem_cons_of_mem _ hy))
    simp only [List.map_cons, List.sum_cons]; omega

theorem sum_map_zero {α : Type} (l : List α) : (l.map (fun _ => (0 : Int))).sum = 0 := by
  rw [List.map_const', List.sum_replicate_int, Int.mul_zero]

theorem sum_map_nonneg {α : Type} (f : α → Int) (l : List α) (h : ∀ x ∈ l, 0 ≤ f x) : 0 ≤ (l.map f).sum := by
  have := sum_map_le (fun _ => 0) f l h
  rwa [sum_map_zero] at this

theorem sum_nonneg (l : List Int) (h : ∀ x ∈ l, 0 ≤ x) : 0 ≤ l.sum := by
  simpa using sum_map_nonneg (fun x => x) l h

theorem sum_map_add {α : Type} (f g : α → Int) (l : List α) :
    (l.map (fun x => f x + g x)).sum = (l.map f).sum + (l.map g).sum := by
  induction l with
  | nil => rfl
  | cons x l ih => simp only [List.map_cons, List.sum_cons, ih]; omega

theorem sum_mul_le_mul_sum {α : Type} (g f : α → Int) (W K : Int) :
    ∀ l : List α, (∀ x ∈ l, g x * W ≤ K * f x) → (l.map g).sum * W ≤ K * (l.map f).sum
  | [], _ => by simp
  | x :: l, h => by
    have h1 := h x List.mem_cons_self
    have h2 := sum_mul_le_mul_sum g f W K l (fun y hy => h y (List.mem_cons_of_mem _ hy))
    simp only [List.map_cons, List.sum_cons, Int.add_mul, Int.mul_add]; omega

theorem natCast_sum_map {α : Type} (f : α → Nat) (l : List α) :
    (((l.map f).sum : Nat) : Int) = (l.map (fun x => (f x : Int))).sum := by
  induction l with
  | nil => rfl
  | cons x l ih => simp only [List.map_cons, List.sum_cons, Int.natCast_add, ih]

theorem sum_filter_le {α : Type} (f : α → Int) (p : α → Bool) (hf : ∀ x, 0 ≤ f x) :
    ∀ l : List α, ((l.filter p).map f).sum ≤ (l.map f).sum
  | [] => Int.le_refl _
  | x :: l => by
    have ih := sum_filter_le f p hf l
    have := hf x
    rw [List.filter_cons]
    split <;> simp only [List.map_cons, List.sum_cons] <;> omega

theorem sum_perm {l₁ l₂ : List Int} (h : l₁.Perm l₂) : l₁.sum = l₂.sum :=
  h.foldr_eq' (f := (· + ·)) (fun x _ y _ z => Int.add_left_comm y x z) 0

theorem sum_map_le_length_mul {α : Type} (f : α → Nat) (n : Nat) (l : List α) (h : ∀ x ∈ l, f x ≤ n) :
    (l.map f).sum ≤ l.length * n := by
  induction l with
  | nil => simp
  | cons x rest ih =>
    have h1 := h x List.mem_cons_self
    have h2 := ih (fun y hy => h y (List.mem_cons_of_mem _ hy))
    simp only [List.map_cons, List.sum_cons, List.length_cons, Nat.add_mul]
    omega

/-! ### association lists with distinct keys (Go maps) -/

theorem mem_of_lookup {β : Type} (m : List (String × β)) (k : String) (v : β) (h : m.lookup k = some v) : (k, v) ∈ m := by
  obtain ⟨l₁, l₂, rfl, _⟩ := List.lookup_eq_some_iff.mp h
  simp

theorem sum_ite_le {α : Type} (key : α → String) (k0 : String) (v0 : Int) (g : α → Int) (hv : 0 ≤ v0) (hg : ∀ x, 0 ≤ g x) :
    ∀ l : List α, (l.map key).Nodup → (l.map (fun x => if key x = k0 then v0 else g x)).sum ≤ v0 + (l.map g).sum
  | [], _ => by simpa using hv
  | x :: l, hnd => by
    obtain ⟨hx, hnd'⟩ := List.nodup_cons.mp hnd
    have ih := sum_ite_le key k0 v0 g hv hg l hnd'
    simp only [List.map_cons, List.sum_cons]
    by_cases hk : key x = k0
    · -- the key is taken: no later item has it
      have hcongr : l.map (fun y => if key y = k0 then v0 else g y) = l.map g :=
        List.map_congr_left (fun y hy => if_neg (fun h => hx (List.mem_map.mpr ⟨y, hy, h.trans hk.symm⟩)))
      have := hg x
      rw [hcongr, if_pos hk]; omega
    · rw [if_neg hk]; omega

/-- distinct keys pick distinct entries of a map: the values `v` looked up for items with distinct keys sum to at
    most the sum over all entries -/
theorem lookup_sum_le {α β : Type} (key : α → String) (v : β → Int) :
    ∀ (m : List (String × β)), (∀ kv ∈ m, 0 ≤ v kv.2) → ∀ l : List α, (l.map key).Nodup →
      (l.map (fun x => ((m.lookup (key x)).map v).getD 0)).sum ≤ (m.map (fun kv => v kv.2)).sum
  | [], _, l, _ => by
    simp only [List.lookup_nil, Option.map_none, Option.getD_none, sum_map_zero, List.map_nil, List.sum_nil]
    exact Int.le_refl 0
  | (k0, b0) :: m, hpos, l, hnd => by
    have hpos' : ∀ kv ∈ m, 0 ≤ v kv.2 := fun kv h => hpos kv (List.mem_cons_of_mem _ h)
    have ih := lookup_sum_le key v m hpos' l hnd
    have hg : ∀ x, 0 ≤ ((m.lookup (key x)).map v).getD 0 := by
      intro x
      cases hl : m.lookup (key x) with
      | none => exact Int.le_refl 0
      | some b => exact hpos' _ (mem_of_lookup m _ b hl)
    have hcongr : l.map (fun x => ((((k0, b0) :: m).lookup (key x)).map v).getD 0) =
        l.map (fun x => if key x = k0 then v b0 else ((m.lookup (key x)).map v).getD 0) := by
      apply List.map_congr_left
      intro x _
      rw [List.lookup_cons]
      by_cases hk : key x = k0
      · rw [if_pos hk, hk, beq_self_eq_true]; rfl
      · rw [if_neg hk, beq_false_of_ne hk]
    have := sum_ite_le key k0 (v b0) _ (hpos (k0, b0) List.mem_cons_self) hg l hnd
    rw [hcongr]
    simp only [List.map_cons, List.sum_cons]
    omega

/-! ### rounded-down shares -/

theorem tdiv_mul_le_of_nonneg (a W : Int) (ha : 0 ≤ a) : Int.tdiv a W * W ≤ a :=
  Int.mul_comm .. ▸ Int.mul_tdiv_self_le ha

theorem tdiv_le_of_le_mul (a b c : Int) (ha : 0 ≤ a) (hc : 0 < c) (h : a ≤ b * c) : Int.tdiv a c ≤ b := by
  rw [Int.tdiv_eq_ediv_of_nonneg ha]
  exact Int.ediv_le_of_le_mul hc h

theorem share_nonneg (T w W : Int) (hT : 0 ≤ T) (hw : 0 ≤ w) (hW : 0 ≤ W) : 0 ≤ share T w W :=
  Int.tdiv_nonneg (Int.mul_nonneg hT hw) hW

/-- Σ ⌊T·wᵢ/W⌋ ≤ T for non-negative weights `wᵢ = f xᵢ` with Σ wᵢ ≤ W: each term times `W` is at most `T·wᵢ` -/
theorem sum_share_le {α : Type} (T W : Int) (hT : 0 ≤ T) (hW : 0 < W) (f : α → Int) (l : List α)
    (hf : ∀ x ∈ l, 0 ≤ f x) (hs : (l.map f).sum ≤ W) : (l.map (fun x => share T (f x) W)).sum ≤ T := by
  have h1 := sum_mul_le_mul_sum (fun x => share T (f x) W) f W T l
    (fun x hx => tdiv_mul_le_of_nonneg (T * f x) W (Int.mul_nonneg hT (hf x hx)))
  exact Int.le_of_mul_le_mul_right (Int.le_trans h1 (Int.mul_le_mul_of_nonneg_left hs hT)) hW

/-! ### int64 -/

theorem wrap64_id (x : Int) (h0 : 0 ≤ x) (h1 : x < (two63 : Int)) : wrap64 x = x := by
  unfold wrap64
  simp only [two63, two64] at *
  omega

theorem div64_pos (a m : Int) (ha : 0 ≤ a) (ha' : a < (two63 : Int)) (hm : 0 < m) :
    ∃ d, div64 a m = some d ∧ 0 ≤ d ∧ d * m ≤ a := by
  unfold div64
  have hm0 : m ≠ 0 := by omega
  rw [if_neg hm0, Int.tdiv_eq_ediv_of_nonneg ha]
  have h1 : 0 ≤ a / m := Int.ediv_nonneg ha (by omega)
  have h2 : a / m ≤ a := Int.ediv_le_self m ha
  rw [wrap64_id (a / m) h1 (by omega)]
  exact ⟨a / m, rfl, h1, Int.ediv_mul_le a hm0⟩

theorem pctOf_lt {n pct a : Int} (h : pctOf n pct = some a) : a < (two63 : Int) := by
  unfold pctOf div64 at h
  split at h
  · cases h
  · cases h
    unfold wrap64
    simp only [two63, two64]
    omega

/-- `getWeightedStake` is not negative when the window `[startTime, endTime)` is short enough for the int64
    subtraction: the clipped interval lies inside the window -/
theorem weightedStake_nonneg (infoStart infoRevoke amount startTime endTime : Int) (ha : 0 ≤ amount)
    (hlen : endTime - startTime < (two63 : Int)) : 0 ≤ weightedStake infoStart infoRevoke amount startTime endTime := by
  unfold weightedStake
  have hs : startTime ≤ max startTime infoStart := by omega
  have he : (if infoRevoke ≠ 0 then min endTime infoRevoke else endTime) ≤ endTime := by split <;> omega
  generalize max startTime infoStart = s at *
  generalize (if infoRevoke ≠ 0 then min endTime infoRevoke else endTime) = e at *
  simp only
  split
  · exact Int.le_refl 0
  · rw [wrap64_id (e - s) (by omega) (by omega)]
    exact Int.mul_nonneg (by omega) ha

theorem weightedSentinel_01 (reg revoke startTime endTime : Int) :
    weightedSentinel reg revoke startTime endTime = 0 ∨ weightedSentinel reg revoke startTime endTime = 1 := by
  unfold weightedSentinel
  simp only
  generalize max startTime reg = s
  generalize (if revoke ≠ 0 then min endTime revoke else endTime) = e
  split
  · exact Or.inl rfl
  · split
    · exact Or.inr rfl
    · exact Or.inl rfl

/-! ### one pillar -/

/-- what `computePillarRewardForEpoch` gives one pillar that produced at most what was expected of it, given the
    per-momentum rewards `d`, `p`, the total weight `W` and the total expected momentums `E` -/
structure PillarRewardOK (d p W E : Int) (s : PillarStat) (r : PillarReward) : Prop where
  block_nonneg : 0 ≤ r.block
  block_le : r.block ≤ p * (s.expected : Int)
  deleg_nonneg : 0 ≤ r.delegation
  /-- the two truncating divisions only lose -/
  deleg_mul_le : r.delegation * W ≤ d * E * s.weight
  deleg_zero : W = 0 → r.delegation = 0
  total_eq : r.total = r.block + r.delegation

theorem pillarRewardWith_spec (d p W E : Int) (s : PillarStat) (hd : 0 ≤ d) (hp : 0 ≤ p) (hW : 0 ≤ W) (hE : 0 ≤ E)
    (hw : 0 ≤ s.weight) (hpe : s.produced ≤ s.expected) : PillarRewardOK d p W E s (pillarRewardWith d p W E s) := by
  have hK : 0 ≤ d * E * s.weight := Int.mul_nonneg (Int.mul_nonneg hd hE) hw
  unfold pillarRewardWith
  by_cases hex : s.expected = 0
  · simp only [hex, if_true]
    exact ⟨Int.le_refl 0, by simp [hex], Int.le_refl 0, by simpa using hK, fun _ => rfl, rfl⟩
  · have hpr : (0 : Int) ≤ (s.produced : Int) := Int.natCast_nonneg _
    have hexp : (0 : Int) < (s.expected : Int) := by omega
    simp only [hex, if_false]
    refine ⟨Int.mul_nonneg hp hpr, Int.mul_le_mul_of_nonneg_left (by omega) hp, ?_, ?_, fun hW0 => by simp [hW0], rfl⟩
    · split
      · exact Int.tdiv_nonneg (Int.tdiv_nonneg (Int.mul_nonneg (Int.mul_nonneg (Int.mul_nonneg hd hpr) hw) hE)
          (Int.le_of_lt hexp)) hW
      · exact Int.le_refl 0
    · split
      · have hN : 0 ≤ d * (s.produced : Int) * s.weight * E :=
          Int.mul_nonneg (Int.mul_nonneg (Int.mul_nonneg hd hpr) hw) hE
        have h2 : d * (s.produced : Int) * s.weight * E ≤ d * E * s.weight * (s.expected : Int) := by
          have : d * (s.produced : Int) * s.weight * E = d * E * s.weight * (s.produced : Int) := by ac_rfl
          rw [this]
          exact Int.mul_le_mul_of_nonneg_left (by omega) hK
        exact Int.le_trans
          (tdiv_mul_le_of_nonneg _ W (Int.tdiv_nonneg hN (Int.le_of_lt hexp)))
          (tdiv_le_of_le_mul _ _ _ hN hexp h2)
      · rw [Int.zero_mul]; exact hK

/-! ### the emission tables -/

/-- for every uint64 epoch the table lookup succeeds and returns an entry of the table, provided the table is not
    empty and a tick lasts at least two epochs (so that `int(epoch / tick)` cannot turn negative) -/
theorem network_mem (tbl : List Int) (epoch : Nat) (hne : tbl ≠ []) (hR : 2 ≤ Gen.RewardTickDurationInEpochs) :
    ∃ x ∈ tbl, networkRewardPerEpoch tbl epoch = some x := by
  unfold networkRewardPerEpoch
  have hR0 : Gen.RewardTickDurationInEpochs ≠ 0 := by omega
  simp only [hR0, if_false]
  have hlt : epoch % two64 / Gen.RewardTickDurationInEpochs < two63 := by
    have h1 : epoch % two64 < two64 := Nat.mod_lt _ (by decide)
    have h2 : epoch % two64 / Gen.RewardTickDurationInEpochs ≤ epoch % two64 / 2 :=
      Nat.div_le_div_left hR (by decide)
    have h3 : two64 = 2 * two63 := by decide
    omega
  generalize epoch % two64 / Gen.RewardTickDurationInEpochs = t at hlt
  have hnt : ¬ t ≥ two63 := by omega
  simp only [hnt, if_false]
  by_cases hge : (t : Int) ≥ (tbl.length : Int)
  · simp only [hge, if_true]
    cases hl : tbl.getLast? with
    | none => exact absurd (List.getLast?_eq_none_iff.mp hl) hne
    | some x =>
      refine ⟨x, ?_, rfl⟩
      obtain ⟨ys, hys⟩ := List.getLast?_eq_some_iff.mp hl
      rw [hys]; simp
  · simp only [hge, if_false]
    have hn : ¬ (t : Int) < 0 := by omega
    simp only [hn, if_false, Int.toNat_natCast]
    have hlt' : t < tbl.length := by omega
    refine ⟨tbl[t], List.getElem_mem hlt', ?_⟩
    simp [hlt']

/-- the ZNN pieces computed (in wrapping int64 arithmetic) from a network emission `n` exist, are non-negative, and a
    whole epoch of pillar rewards plus sentinel plus liquidity stays within `n` -/
def znnOK (n : Int) : Bool :=
  match znnPieces n with
  | some (d, p, s, l) =>
    decide (0 ≤ d ∧ 0 ≤ p ∧ 0 ≤ s ∧ 0 ≤ l ∧ d * Gen.MomentumsPerEpoch + p * Gen.MomentumsPerEpoch + s + l ≤ n)
  | none => false

def qsrOK (n : Int) : Bool :=
  match qsrPieces n with
  | some (st, s, l) => decide (0 ≤ st ∧ 0 ≤ s ∧ 0 ≤ l ∧ st + s + l ≤ n)
  | none => false

end ZV.Rewards
