import ZenonVerif.Model.Wallet
import ZenonVerif.Lemmas.WalletPath
import ZenonVerif.Lemmas.CodecText
/-
Helper lemmas for C19 (derivation log, outcome on grammar paths, key store glue) and the toy `Crypto` instance used
to show that the hypotheses of the theorems are satisfiable. Core Lean only.
-/
namespace ZV.Wallet
open ZV

def QueryOK (seed : Bytes) (q : Query) : Prop :=
  q = .master seed ∨ ∃ chain key i, q = .child chain key i ∧ two31 ≤ i ∧ i < two32

theorem hardened_index_range (v : Nat) (h : ¬ hardenedIndex v < Gen.FirstHardenedIndex) :
    two31 ≤ hardenedIndex v ∧ hardenedIndex v < two32 := by
  unfold hardenedIndex at *
  refine ⟨?_, Nat.mod_lt _ (by decide)⟩
  have : Gen.FirstHardenedIndex = two31 := by decide
  omega

/-- the in-line step of `deriveSegs` is `key.derive` -/
theorem deriveSegs_step (C : CryptoFns) (k : Key) (i : Nat) :
    derive C k i = if i < Gen.FirstHardenedIndex then .error .noPublicDerivation
      else .ok (ask C (.child k.chain k.key i)) := by
  rw [derive]

theorem deriveSegs_hardened (C : CryptoFns) (seed : Bytes) (segs : List Bytes) :
    ∀ (k : Key) (log : List Query), (∀ q ∈ log, QueryOK seed q) →
      ∀ q ∈ (deriveSegs C segs k log).1, QueryOK seed q := by
  induction segs with
  | nil => intro k log h; simpa [deriveSegs] using h
  | cons seg rest ih =>
    intro k log h
    rw [deriveSegs]
    cases hp : parseUint (parseBits Gen.parseUintArgs_DeriveForPath) (trimRight cQuote seg) with
    | none => simpa using h
    | some v =>
      simp only
      by_cases hlt : hardenedIndex v < Gen.FirstHardenedIndex
      · rw [if_pos hlt]; simpa using h
      · rw [if_neg hlt]
        apply ih
        intro q hq
        rcases List.mem_append.1 hq with hq | hq
        · exact h q hq
        · simp only [List.mem_singleton] at hq
          have hr := hardened_index_range v hlt
          exact Or.inr ⟨k.chain, k.key, _, hq, hr.1, hr.2⟩

theorem parseBits_derive : parseBits Gen.parseUintArgs_DeriveForPath = 32 := by decide

theorem parse_seg (d : Bytes) (h : DigitStr d ∧ decVal d < two32) :
    parseUint (parseBits Gen.parseUintArgs_DeriveForPath) (trimRight cQuote (d ++ [cQuote])) = some (decVal d) := by
  rw [trimRight_quote d h.1.2, parseBits_derive, parseUint_digits 32 d h.1]
  have : decVal d < 2 ^ 32 := by rw [← two32_eq]; exact h.2
  simp [this]

theorem hardenedIndex_lt_iff (v : Nat) (hv : v < two32) : hardenedIndex v < Gen.FirstHardenedIndex ↔ two31 ≤ v := by
  simp only [hardenedIndex, Gen.FirstHardenedIndex, two31, two32] at *
  omega

theorem deriveSegs_outcome (C : CryptoFns) (segs : List Bytes) (h : ∀ d ∈ segs, DigitStr d ∧ decVal d < two32) :
    ∀ (k : Key) (log : List Query),
    (if ∀ d ∈ segs, decVal d < two31 then ∃ k', (deriveSegs C (segs.map (· ++ [cQuote])) k log).2 = .ok k'
     else (deriveSegs C (segs.map (· ++ [cQuote])) k log).2 = .error .noPublicDerivation) := by
  induction segs with
  | nil => intro k log; simp [deriveSegs]
  | cons d rest ih =>
    intro k log
    have hd := h d (by simp)
    have hrest : ∀ e ∈ rest, DigitStr e ∧ decVal e < two32 := fun e he => h e (by simp [he])
    rw [List.map_cons, deriveSegs, parse_seg d hd]
    simp only [List.forall_mem_cons, hardenedIndex_lt_iff _ hd.2]
    by_cases hge : two31 ≤ decVal d
    · rw [if_pos hge, if_neg (fun hh => absurd hh.1 (by omega))]
    · rw [if_neg hge]
      simp only [show decVal d < two31 by omega, true_and]
      exact ih hrest _ _

theorem isValidPath_pathOf (segs : List Bytes) (hne : segs ≠ []) (h : ∀ d ∈ segs, DigitStr d ∧ decVal d < two32) :
    isValidPath (pathOf segs) = true := (isValidPath_iff _).2 ⟨segs, hne, h, rfl⟩

theorem deriveKey_outcome (C : CryptoFns) (segs : List Bytes) (seed : Bytes) (hne : segs ≠ [])
    (h : ∀ d ∈ segs, DigitStr d ∧ decVal d < two32) :
    (if ∀ d ∈ segs, decVal d < two31 then ∃ k, deriveKey C (pathOf segs) seed = .ok k
     else deriveKey C (pathOf segs) seed = .error .noPublicDerivation) := by
  unfold deriveKey deriveForPathLog
  rw [isValidPath_pathOf segs hne h, segments_pathOf segs (fun d hd => (h d hd).1)]
  simp only [Bool.not_true, Bool.false_eq_true, if_false]
  exact deriveSegs_outcome C segs h _ _

/-- `Wallet.toHexChars` and `Codec.hexChars` are the same function written in two model files, so the codec's round
    trip applies as it stands -/
theorem hexutil_roundtrip (b : Bytes) (h : b.WF) : hexutilDecode (hexutilEncode b) = some b :=
  Codec.ofHexChars_hexChars b h

theorem keyStoreFromEntropy_ok (C : CryptoFns) (entropy : Bytes) (ks : KeyStore)
    (h : keyStoreFromEntropy C entropy = .ok ks) :
    ks.entropy = entropy ∧ ∃ kp, deriveWithIndex C 0 ks.seed = .ok kp ∧ ks.baseAddress = kp.address := by
  unfold keyStoreFromEntropy at h
  split at h
  · cases h
  · simp only at h
    split at h
    · cases h
    · rename_i kp hkp
      cases h
      exact ⟨rfl, kp, hkp, rfl⟩

/-! ### a toy instance: the structure `Crypto` is inhabited (laws are consistent) -/

def toyFns : CryptoFns where
  hmac := fun _ _ => List.replicate 64 1
  sha3 := fun _ => List.replicate 32 2
  edPub := fun sk => sk
  edSign := fun sk msg => sk ++ msg
  edVerify := fun pk msg sig => sig == pk ++ msg
  kdf := fun _ pw salt => (pw ++ salt ++ List.replicate 32 0).take 32
  aeadSeal := fun k n ad m => m ++ (k ++ n ++ ad)
  aeadOpen := fun k n ad c =>
    let t := k ++ n ++ ad
    if c.drop (c.length - t.length) == t ∧ t.length ≤ c.length then some (c.take (c.length - t.length)) else none
  mnemonic := fun e => if e.length = 16 ∨ e.length = 20 ∨ e.length = 24 ∨ e.length = 28 ∨ e.length = 32 then some e else none
  seed := fun m => m

def toyCrypto : Crypto where
  toCryptoFns := toyFns
  open_seal := by
    intro k n ad m
    simp [toyFns]
  verify_sign := by intro sk msg; simp [toyFns]
  hmac_len := by intro k m; simp [toyFns]
  sha3_len := by intro m; simp [toyFns]

end ZV.Wallet
