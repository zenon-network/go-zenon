import ZenonVerif.Model.NodeCache
/-
Lemmas for Props/C06Node.lean: the invariant of the consensus database ("every stored entry is what a computation from
scratch gives on THE chain its hash names") does not mention the node's chain at all — which is why the delete events
have nothing to do — and every query re-establishes the link with the current chain by comparing hashes.
-/
namespace ZV.NodeCache

variable {El P : Type}

theorem cut_cut (C : Chain) {e e' : Nat} (h : e' ≤ e) : cut (cut C e) e' = cut C e' := by
  induction C with
  | nil => rfl
  | cons m r ih =>
    by_cases hm : e ≤ m.ts
    · simpa [cut, hm, Nat.le_trans h hm] using ih
    · simp [cut, hm]

theorem proofTime_le {len : Nat} (hlen : 0 < len) (t : Nat) : proofTime len t ≤ (t + 1) * len := by
  unfold proofTime
  split
  · exact Nat.mul_pos (Nat.succ_pos t) hlen
  · exact Nat.mul_le_mul_right len (by omega)

theorem ChainWF.suffix {pf : Nat → Chain} {g : Nat} {C C' : Chain} (h : ChainWF pf g C) (hs : C' <:+ C) :
    ChainWF pf g C' := by
  obtain ⟨t, rfl⟩ := hs
  induction t with
  | nil => exact h
  | cons m t ih => exact ih h.2

theorem ChainWF.head {pf : Nat → Chain} {g : Nat} {C : Chain} (h : ChainWF pf g C) : pf (headHash g C) = C := by
  cases C with
  | nil => exact h
  | cons m r => exact h.1

theorem ChainWF.cut {pf : Nat → Chain} {g : Nat} {C : Chain} (h : ChainWF pf g C) (e : Nat) :
    pf (headHash g (cut C e)) = cut C e := (h.suffix (List.dropWhile_suffix _)).head

/-! ### a point computed on the chain cut at (or after) the end of its tick is the point of the whole chain -/

theorem periodOn_cut (S : Spec El P) (cfg : Cfg) (hlen : 0 < cfg.len) (C : Chain) {t e : Nat} (he : (t + 1) * cfg.len ≤ e) :
    periodOn S cfg (cut C e) t = periodOn S cfg C t := by
  unfold periodOn specElect content endCut
  rw [cut_cut C (Nat.le_trans (proofTime_le hlen t) he), cut_cut C he]

theorem lower_end_le {cfg : Cfg} {T i : Nat} (h : i ∈ lowerTicks cfg T) : (i + 1) * cfg.len ≤ (T + 1) * (cfg.len * cfg.mult) := by
  unfold lowerTicks at h
  simp only [List.mem_map, List.mem_reverse, List.mem_range] at h
  obtain ⟨j, hj, rfl⟩ := h
  rw [Nat.mul_comm cfg.len, ← Nat.mul_assoc]
  exact Nat.mul_le_mul_right _ (by rw [Nat.succ_mul]; omega)

theorem lowers_full (S : Spec El P) (cfg : Cfg) (C : Chain) (T : Nat) (hf : finished (cfg.len * cfg.mult) C T = true) :
    (lowerTicks cfg T).filterMap (specPeriod S cfg C) = (lowerTicks cfg T).map (periodOn S cfg C) := by
  have hf' : (T + 1) * (cfg.len * cfg.mult) ≤ frontTs C := by simpa [finished] using hf
  have key : ∀ l : List Nat, (∀ i ∈ l, i ∈ lowerTicks cfg T) →
      l.filterMap (specPeriod S cfg C) = l.map (periodOn S cfg C) := by
    intro l
    induction l with
    | nil => intro _; rfl
    | cons i is ih =>
      intro hl
      have hi := lower_end_le (hl i (List.mem_cons_self ..))
      have hs : started cfg.len C i = true := by
        simp only [started, decide_eq_true_eq]
        have : i * cfg.len ≤ (i + 1) * cfg.len := Nat.mul_le_mul_right _ (Nat.le_succ i)
        omega
      rw [List.filterMap_cons, List.map_cons]
      simp only [specPeriod, hs, if_true]
      rw [ih (fun j hj => hl j (List.mem_cons_of_mem _ hj))]
  exact key _ (fun _ h => h)

theorem lowers_cut (S : Spec El P) (cfg : Cfg) (hlen : 0 < cfg.len) (C : Chain) (T : Nat) :
    (lowerTicks cfg T).map (periodOn S cfg (endCut (cfg.len * cfg.mult) C T)) = (lowerTicks cfg T).map (periodOn S cfg C) :=
  List.map_congr_left fun _ hi => periodOn_cut S cfg hlen C (lower_end_le hi)

/-- what is computed for tick `t` on the chain that the end hash of `t` names is what is computed on the whole chain:
    this is why a stored point may be served whenever its end hash is the current one -/
theorem periodOn_endHash (S : Spec El P) (cfg : Cfg) (hlen : 0 < cfg.len) {pf : Nat → Chain} {C : Chain}
    (hw : ChainWF pf cfg.g C) (t : Nat) :
    periodOn S cfg (pf (headHash cfg.g (endCut cfg.len C t))) t = periodOn S cfg C t := by
  rw [show pf (headHash cfg.g (endCut cfg.len C t)) = endCut cfg.len C t from hw.cut _]
  exact periodOn_cut S cfg hlen C (Nat.le_refl _)

/-- the same for a finished epoch, all of whose periods have started -/
theorem epochFull_endHash (S : Spec El P) (cfg : Cfg) (hlen : 0 < cfg.len) {pf : Nat → Chain} {C : Chain}
    (hw : ChainWF pf cfg.g C) {T : Nat} (hf : finished (cfg.len * cfg.mult) C T = true) :
    epochFull S cfg (pf (headHash cfg.g (endCut (cfg.len * cfg.mult) C T))) T =
      S.compound ((lowerTicks cfg T).filterMap (specPeriod S cfg C)) := by
  unfold epochFull
  rw [show pf (headHash cfg.g (endCut (cfg.len * cfg.mult) C T)) = endCut (cfg.len * cfg.mult) C T from hw.cut _,
    lowers_cut S cfg hlen C T, lowers_full S cfg C T hf]

/-! ### the invariant of the consensus database -/

/-- every stored entry is what a computation from scratch gives on the chain its hash names -/
structure CInv (S : Spec El P) (cfg : Cfg) (pf : Nat → Chain) (c : Caches El P) : Prop where
  el : ∀ h d, c.el h = some d → d = S.elect (pf h)
  pc : ∀ t h p, c.pc t = some (h, p) → p = periodOn S cfg (pf h) t
  ec : ∀ T h p, c.ec T = some (h, p) → p = epochFull S cfg (pf h) T

theorem CInv.empty (S : Spec El P) (cfg : Cfg) (pf : Nat → Chain) : CInv S cfg pf (Caches.empty : Caches El P) :=
  ⟨fun _ _ h => by simp [Caches.empty] at h, fun _ _ _ h => by simp [Caches.empty] at h,
   fun _ _ _ h => by simp [Caches.empty] at h⟩

theorem electC_ok (S : Spec El P) (cfg : Cfg) {pf : Nat → Chain} {c : Caches El P} (hc : CInv S cfg pf c)
    {proof : Chain} (hp : pf (headHash cfg.g proof) = proof) :
    (electC S cfg.g c proof).1 = S.elect proof ∧ CInv S cfg pf (electC S cfg.g c proof).2 := by
  unfold electC
  split
  · next d hd =>
    exact ⟨hp ▸ hc.el _ d hd, hc⟩
  · next hd =>
    refine ⟨rfl, ⟨?_, hc.pc, hc.ec⟩⟩
    intro h d hh
    simp only [upd] at hh
    split at hh
    · next heq =>
      subst heq
      rw [hp]
      exact (Option.some.inj hh).symm
    · exact hc.el h d hh

theorem genPeriod_ok (S : Spec El P) (cfg : Cfg) (hlen : 0 < cfg.len) {pf : Nat → Chain} {C : Chain}
    (hw : ChainWF pf cfg.g C) {c : Caches El P} (hc : CInv S cfg pf c) (t : Nat) :
    (genPeriod S cfg C c t).1 = some (periodOn S cfg C t) ∧ CInv S cfg pf (genPeriod S cfg C c t).2 := by
  obtain ⟨h1, h2⟩ := electC_ok S cfg hc (hw.cut (proofTime cfg.len t))
  unfold genPeriod
  simp only
  rw [h1]
  refine ⟨rfl, ⟨h2.el, ?_, h2.ec⟩⟩
  intro t' h p hh
  simp only [upd] at hh
  split at hh
  · next heq =>
    subst heq
    split at hh
    · obtain ⟨rfl, rfl⟩ := Prod.mk.inj (Option.some.inj hh)
      rw [periodOn_endHash S cfg hlen hw]
      rfl
    · cases hh
  · exact h2.pc t' h p hh

theorem periodC_ok (S : Spec El P) (cfg : Cfg) (hlen : 0 < cfg.len) {pf : Nat → Chain} {C : Chain}
    (hw : ChainWF pf cfg.g C) {c : Caches El P} (hc : CInv S cfg pf c) (t : Nat) :
    (periodC S cfg C c t).1 = specPeriod S cfg C t ∧ CInv S cfg pf (periodC S cfg C c t).2 := by
  have hg := genPeriod_ok S cfg hlen hw hc t
  unfold periodC specPeriod
  split
  · split
    · next h p hs =>
      split
      · next heq =>
        refine ⟨?_, hc⟩
        rw [hc.pc t h p hs, heq, periodOn_endHash S cfg hlen hw]
      · exact hg
    · exact hg
  · exact ⟨rfl, hc⟩

theorem lowerLoop_ok (S : Spec El P) (cfg : Cfg) (hlen : 0 < cfg.len) {pf : Nat → Chain} {C : Chain}
    (hw : ChainWF pf cfg.g C) (ticks : List Nat) {c : Caches El P} (hc : CInv S cfg pf c) :
    (lowerLoop S cfg C c ticks).1 = ticks.filterMap (specPeriod S cfg C) ∧
      CInv S cfg pf (lowerLoop S cfg C c ticks).2 := by
  induction ticks generalizing c with
  | nil => exact ⟨rfl, hc⟩
  | cons i is ih =>
    obtain ⟨p1, p2⟩ := periodC_ok S cfg hlen hw hc i
    obtain ⟨l1, l2⟩ := ih p2
    unfold lowerLoop
    simp only
    refine ⟨?_, l2⟩
    rw [List.filterMap_cons, ← p1, l1]
    cases (periodC S cfg C c i).1 <;> rfl

theorem genEpoch_ok (S : Spec El P) (cfg : Cfg) (hlen : 0 < cfg.len) {pf : Nat → Chain} {C : Chain}
    (hw : ChainWF pf cfg.g C) {c : Caches El P} (hc : CInv S cfg pf c) (T : Nat) :
    (genEpoch S cfg C c T).1 = some (S.compound ((lowerTicks cfg T).filterMap (specPeriod S cfg C))) ∧
    CInv S cfg pf (genEpoch S cfg C c T).2 := by
  obtain ⟨l1, l2⟩ := lowerLoop_ok S cfg hlen hw (lowerTicks cfg T) hc
  unfold genEpoch
  simp only
  rw [l1]
  refine ⟨rfl, ⟨l2.el, l2.pc, ?_⟩⟩
  intro T' h p hh
  simp only [upd] at hh
  split at hh
  · next heq =>
    subst heq
    split at hh
    · next hf =>
      obtain ⟨rfl, rfl⟩ := Prod.mk.inj (Option.some.inj hh)
      rw [epochFull_endHash S cfg hlen hw hf]
    · cases hh
  · exact l2.ec T' h p hh

/-- the epoch reader: it keeps the invariant and answers what a computation from scratch on the current chain gives -/
theorem epochC_ok (S : Spec El P) (cfg : Cfg) (hlen : 0 < cfg.len) {pf : Nat → Chain} {C : Chain}
    (hw : ChainWF pf cfg.g C) {c : Caches El P} (hc : CInv S cfg pf c) (T : Nat) :
    CInv S cfg pf (epochC S cfg C c T).2 ∧ (epochC S cfg C c T).1 = specEpoch S cfg C T := by
  obtain ⟨g1, g2⟩ := genEpoch_ok S cfg hlen hw hc T
  unfold epochC specEpoch
  split
  · split
    · next h p hs =>
      split
      · next hcond =>
        refine ⟨hc, ?_⟩
        rw [hc.ec T h p hs, hcond.1, epochFull_endHash S cfg hlen hw hcond.2]
      · exact ⟨g2, g1⟩
    · exact ⟨g2, g1⟩
  · exact ⟨hc, rfl⟩

structure NInv (S : Spec El P) (cfg : Cfg) (pf : Nat → Chain) (n : Node El P) : Prop where
  wf : ChainWF pf cfg.g n.chain
  c  : CInv S cfg pf n.caches

theorem insertMomentum_chain (S : Spec El P) (cfg : Cfg) (n : Node El P) (m : Mom) :
    (insertMomentum S cfg n m).chain = m :: n.chain := rfl

theorem insertMomentum_inv (S : Spec El P) (cfg : Cfg) (hlen : 0 < cfg.len) {pf : Nat → Chain} {n : Node El P}
    (hn : NInv S cfg pf n) (m : Mom) (hm : pf m.hash = m :: n.chain) : NInv S cfg pf (insertMomentum S cfg n m) := by
  have hw : ChainWF pf cfg.g (m :: n.chain) := ⟨hm, hn.wf⟩
  refine ⟨hw, ?_⟩
  have c1 := List.foldlRecOn (motive := CInv S cfg pf) (ticksFrom n.doneP (m.ts / cfg.len)) _ hn.c
    fun c hc i _ => (periodC_ok S cfg hlen hw hc i).2
  have c2 := List.foldlRecOn (motive := CInv S cfg pf) (ticksFrom n.doneE (m.ts / cfg.len / cfg.mult)) _ c1
    fun c hc i _ => (epochC_ok S cfg hlen hw hc i).1
  unfold insertMomentum
  simp only
  split
  · exact c2
  · exact (electC_ok S cfg c2 (hw.cut _)).2

theorem Reach.inv {S : Spec El P} {cfg : Cfg} (hlen : 0 < cfg.len) {pf : Nat → Chain} {n : Node El P}
    (h : Reach S cfg pf n) : NInv S cfg pf n := by
  induction h with
  | init h0 => exact ⟨h0, CInv.empty S cfg pf⟩
  | insert m _ hm ih => exact insertMomentum_inv S cfg hlen ih m hm
  | rollback k _ ih => exact ⟨ih.wf.suffix (List.drop_suffix k _), ih.c⟩
  | qPeriod t _ ih => exact ⟨ih.wf, (periodC_ok S cfg hlen ih.wf ih.c t).2⟩
  | qEpoch T _ ih => exact ⟨ih.wf, (epochC_ok S cfg hlen ih.wf ih.c T).1⟩
  | qElect t _ ih => exact ⟨ih.wf, (electC_ok S cfg ih.c (ih.wf.cut _)).2⟩

theorem onlySaw_chain (S : Spec El P) (cfg : Cfg) (C : Chain) : (onlySaw S cfg C).chain = C := by
  induction C with
  | nil => rfl
  | cons m r ih =>
    show (insertMomentum S cfg (onlySaw S cfg r) m).chain = m :: r
    rw [insertMomentum_chain, ih]

theorem onlySaw_reach (S : Spec El P) (cfg : Cfg) {pf : Nat → Chain} {C : Chain} (hw : ChainWF pf cfg.g C) :
    Reach S cfg pf (onlySaw S cfg C) := by
  induction C with
  | nil => exact Reach.init hw
  | cons m r ih =>
    have := Reach.insert (S := S) (cfg := cfg) m (ih hw.2) (by rw [onlySaw_chain]; exact hw.1)
    exact this

namespace Pool

def MInv (Q : List PMom → Mgr → Prop) (n : PNode) : Prop := ∀ a mg, n.mgrs a = some mg → Q n.ledger mg

/-- every manager present was built from the ledger as it is now, and every pooled block acknowledges a momentum of it -/
def PInv (g : Nat) : PNode → Prop :=
  MInv fun l mg => mg.base = l ∧ ∀ b ∈ mg.blocks, onChain g l b.ack = true

/-- every manager present is a fresh snapshot of the current ledger with nothing pooled on top -/
def FreshInv : PNode → Prop := MInv fun l mg => mg.base = l ∧ mg.blocks = []

theorem read_ledger (n : PNode) (a : Nat) : (read n a).ledger = n.ledger := by
  unfold read; split <;> rfl

theorem reads_ledger (as : List Nat) : ∀ (n : PNode), (reads n as).ledger = n.ledger := fun n =>
  List.foldlRecOn (motive := fun m => m.ledger = n.ledger) as read rfl fun m h a _ => (read_ledger m a).trans h

theorem read_inv {Q : List PMom → Mgr → Prop} (hQ : ∀ l, Q l ⟨l, []⟩) {n : PNode} (h : MInv Q n) (x : Nat) :
    MInv Q (read n x) := by
  unfold read
  split
  · exact h
  · intro a mg hm
    simp only [upd] at hm
    split at hm
    · cases hm; exact hQ _
    · exact h a mg hm

theorem reads_inv {Q : List PMom → Mgr → Prop} (hQ : ∀ l, Q l ⟨l, []⟩) (as : List Nat) {n : PNode} (h : MInv Q n) :
    MInv Q (reads n as) :=
  List.foldlRecOn (motive := MInv Q) as read h fun _ h a _ => read_inv hQ h a

/-- after one round of `RollbackTo` every manager is one built by a read after the notification, whatever the pool held
    before: any `Q` that holds of a just-built manager holds of all -/
theorem rollbackStep_inv {Q : List PMom → Mgr → Prop} (hQ : ∀ l, Q l ⟨l, []⟩) (n : PNode) (w : List Nat × List Nat) :
    MInv Q (rollbackStep n w) :=
  reads_inv hQ w.2 (fun a mg hm => by simp [notify] at hm)

theorem rollbackTo_inv {Q : List PMom → Mgr → Prop} (hQ : ∀ l, Q l ⟨l, []⟩) (ws : List (List Nat × List Nat))
    {n : PNode} (h : MInv Q n) : MInv Q (ws.foldl rollbackStep n) :=
  List.foldlRecOn (motive := MInv Q) ws rollbackStep h fun n _ w _ => rollbackStep_inv hQ n w

/-- the predicate of `PInv` holds of a manager just built on the ledger `l` -/
theorem PInv.freshMgr (g : Nat) (l : List PMom) : l = l ∧ ∀ b ∈ ([] : List PBlk), onChain g l b.ack = true :=
  ⟨rfl, fun _ hb => by simp at hb⟩

theorem add_inv {g : Nat} {n : PNode} (h : PInv g n) (a : Nat) (b : PBlk) : PInv g (add g n a b) := by
  unfold add
  split
  · next hon =>
    have h1 := read_inv (PInv.freshMgr g) h a
    have hl := read_ledger n a
    simp only
    split
    · next m hm =>
      intro a' mg hmg
      simp only [upd] at hmg
      split at hmg
      · next heq =>
        cases hmg
        obtain ⟨b1, b2⟩ := h1 a m (heq ▸ hm)
        refine ⟨b1, ?_⟩
        intro x hx
        rcases List.mem_append.mp hx with hx | hx
        · exact b2 x hx
        · have : x = b := by simpa using hx
          rw [this, hl]; exact hon
      · exact h1 a' mg hmg
    · exact h1
  · exact h

theorem onChain_cons {g : Nat} {l : List PMom} {h : Nat} (m : PMom) (ho : onChain g l h = true) : onChain g (m :: l) h = true := by
  unfold onChain at *
  simp only [Bool.or_eq_true, List.any_cons] at *
  rcases ho with ho | ho
  · exact Or.inl ho
  · exact Or.inr (Or.inr ho)

theorem insert_inv {g : Nat} {n : PNode} (h : PInv g n) (m : PMom) (cf : List Nat) : PInv g (insert n m cf) := by
  intro a mg hm
  simp only [insert] at hm
  split at hm
  · cases hm
  · next mg0 h0 =>
    split at hm
    · cases hm
    · cases hm
      refine ⟨rfl, ?_⟩
      intro b hb
      have hb' := (List.mem_filter.mp hb).1
      exact onChain_cons m ((h a mg0 h0).2 b hb')

theorem stepEv_inv {g : Nat} {n : PNode} (h : PInv g n) (e : Ev) : PInv g (stepEv g n e) := by
  cases e with
  | read a => exact read_inv (PInv.freshMgr g) h a
  | add a b => exact add_inv h a b
  | insert m cf => exact insert_inv h m cf
  | rollbackTo ws => exact rollbackTo_inv (PInv.freshMgr g) ws h

theorem run_inv (g : Nat) (evs : List Ev) : PInv g (run g evs) :=
  List.foldlRecOn (motive := PInv g) evs (stepEv g) (fun a mg hm => by simp [PNode.fresh] at hm)
    fun _ h e _ => stepEv_inv h e

end Pool

end ZV.NodeCache
