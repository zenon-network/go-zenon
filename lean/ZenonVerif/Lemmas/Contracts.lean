import ZenonVerif.Model.Contracts
import ZenonVerif.Lemmas.ContractsSimp
/-
Lemmas for C10 / C09: association-list storage (lookup / erase / put / total), balances and descendant sends, what
`vmStep` does whatever the method is, the generic step / run preservation of "owed ≤ balance", and, per contract,
what a successful call of each method says about its arguments and result (`*_spec`) and its balance law.
-/
namespace ZV.Contracts

section AList
variable {κ : Type} [DecidableEq κ] {ν : Type} {d : ν}

theorem lookup_erase_self (k : κ) (l : List (κ × ν)) : lookup k (erase k l) = none := by
  fun_induction erase k l with
  | case1 => rfl
  | case2 _ _ ih => exact ih
  | case3 _ _ _ h ih => rw [lookup, if_neg h, ih]

theorem lookup_erase_ne {k k' : κ} (h : k' ≠ k) (l : List (κ × ν)) : lookup k' (erase k l) = lookup k' l := by
  fun_induction erase k l with
  | case1 => rfl
  | case2 _ _ ih => rw [ih, lookup, if_neg (Ne.symm h)]
  | case3 _ _ _ _ ih => simp only [lookup, ih]

theorem lookup_put_self (k : κ) (v : ν) (l : List (κ × ν)) : lookup k (put k v l) = some v := by
  simp [put, lookup]

theorem lookup_put_ne {k k' : κ} (h : k' ≠ k) (v : ν) (l : List (κ × ν)) : lookup k' (put k v l) = lookup k' l := by
  have : k ≠ k' := fun e => h e.symm
  simp [put, lookup, this, lookup_erase_ne h]

/-- `put` stores the value under its key and leaves every other key as it was -/
theorem lookup_put (k : κ) (v : ν) (l : List (κ × ν)) :
    lookup k (put k v l) = some v ∧ ∀ k', k' ≠ k → lookup k' (put k v l) = lookup k' l :=
  ⟨lookup_put_self k v l, fun _ h => lookup_put_ne h v l⟩

theorem erase_eq_filter (k : κ) (l : List (κ × ν)) : erase k l = l.filter (fun e => e.1 ≠ k) := by
  fun_induction erase k l <;> simp [*]

theorem erase_sublist (k : κ) (l : List (κ × ν)) : (erase k l).Sublist l :=
  erase_eq_filter k l ▸ List.filter_sublist

omit [DecidableEq κ] in
theorem total_sublist_le (f : ν → Nat) {l₁ l₂ : List (κ × ν)} (h : l₁.Sublist l₂) : total f l₁ ≤ total f l₂ := by
  induction h with
  | slnil => exact Nat.le_refl _
  | cons _ _ ih => exact Nat.le_trans ih (Nat.le_add_left _ _)
  | cons_cons _ _ ih => exact Nat.add_le_add_left ih _

theorem total_erase_le (f : ν → Nat) (k : κ) (l : List (κ × ν)) : total f (erase k l) ≤ total f l :=
  total_sublist_le f (erase_sublist k l)

/-- deleting a key removes at least the value that `lookup` finds -/
theorem total_erase_add_le (f : ν → Nat) {k : κ} {v : ν} {l : List (κ × ν)} (h : lookup k l = some v) :
    total f (erase k l) + f v ≤ total f l := by
  fun_induction lookup k l with
  | case1 => cases h
  | case2 w r =>
    cases h
    have := total_erase_le f k r
    simp only [erase, if_true, total]; omega
  | case3 k' w r hk ih =>
    have := ih h
    simp only [erase, hk, if_false, total]; omega

theorem total_put_le (f : ν → Nat) (k : κ) (v : ν) (l : List (κ × ν)) : total f (put k v l) ≤ total f l + f v := by
  have := total_erase_le f k l
  simp only [put, total]; omega

/-- overwriting a key: the old value leaves the sum -/
theorem total_put_add_le (f : ν → Nat) {k : κ} {v0 : ν} (v : ν) {l : List (κ × ν)} (h : lookup k l = some v0) :
    total f (put k v l) + f v0 ≤ total f l + f v := by
  have := total_erase_add_le f h
  simp only [put, total]; omega

/-- keys are pairwise distinct -/
def NodupKeys (l : List (κ × ν)) : Prop := (l.map Prod.fst).Nodup

theorem nodupKeys_erase (k : κ) {l : List (κ × ν)} (h : NodupKeys l) : NodupKeys (erase k l) :=
  List.Nodup.sublist ((erase_sublist k l).map _) h

theorem nodupKeys_put (k : κ) (v : ν) {l : List (κ × ν)} (h : NodupKeys l) : NodupKeys (put k v l) := by
  refine List.nodup_cons.2 ⟨fun hm => ?_, nodupKeys_erase k h⟩
  obtain ⟨e, he, rfl⟩ := List.mem_map.1 hm
  have := (List.mem_filter.1 (erase_eq_filter e.1 l ▸ he)).2
  exact of_decide_eq_true this rfl

theorem erase_of_lookup_none {k : κ} {l : List (κ × ν)} (h : lookup k l = none) : erase k l = l := by
  fun_induction lookup k l with
  | case1 => rfl
  | case2 => cases h
  | case3 _ _ _ h1 ih => rw [erase, if_neg h1, ih h]

theorem mem_of_lookup {k : κ} {v : ν} {l : List (κ × ν)} (h : lookup k l = some v) : (k, v) ∈ l := by
  fun_induction lookup k l with
  | case1 => cases h
  | case2 => cases h; exact List.mem_cons_self
  | case3 _ _ _ _ ih => exact List.mem_cons_of_mem _ (ih h)

/-- with distinct keys, deleting a key removes exactly the value that `lookup` finds -/
theorem total_erase_eq (f : ν → Nat) {k : κ} {v : ν} {l : List (κ × ν)} (hn : NodupKeys l) (h : lookup k l = some v) :
    total f (erase k l) + f v = total f l := by
  fun_induction lookup k l with
  | case1 => cases h
  | case2 w r =>
    cases h
    rw [NodupKeys, List.map_cons, List.nodup_cons] at hn
    have hnone : lookup k r = none :=
      Option.eq_none_iff_forall_ne_some.2 fun _ hv => hn.1 (List.mem_map.2 ⟨_, mem_of_lookup hv, rfl⟩)
    simp only [erase, if_true, total, erase_of_lookup_none hnone]; omega
  | case3 k' w r hk ih =>
    rw [NodupKeys, List.map_cons, List.nodup_cons] at hn
    have := ih hn.2 h
    simp only [erase, hk, if_false, total]; omega

/-- a property of all entries survives `put` when the new entry has it -/
theorem forall_mem_put {p : κ × ν → Prop} {k : κ} {v : ν} {l : List (κ × ν)} (hl : ∀ x ∈ l, p x) (hv : p (k, v)) :
    ∀ x ∈ put k v l, p x := by
  intro x hx
  rcases List.mem_cons.1 hx with e | e
  · exact e ▸ hv
  · exact hl x ((erase_sublist k l).mem e)

/-! Tables read with a default, `(lookup k l).getD d`: QSR deposits, fused totals and balances (`d = 0`), proxy flags (`d = true`). -/

theorem getD_put_self (l : List (κ × ν)) (k : κ) (v : ν) : (lookup k (put k v l)).getD d = v := by
  rw [lookup_put_self]; rfl

theorem getD_put_ne (l : List (κ × ν)) {k k' : κ} (h : k' ≠ k) (v : ν) :
    (lookup k' (put k v l)).getD d = (lookup k' l).getD d := by
  rw [lookup_put_ne h]

theorem getD_erase_self (l : List (κ × ν)) (k : κ) : (lookup k (erase k l)).getD d = d := by
  rw [lookup_erase_self]; rfl

theorem getD_erase_ne (l : List (κ × ν)) {k k' : κ} (h : k' ≠ k) :
    (lookup k' (erase k l)).getD d = (lookup k' l).getD d := by
  rw [lookup_erase_ne h]

end AList

/-! ### balances and descendant sends -/

theorem Bal.get_set_self (b : Bal) (t : Tok) (v : Nat) : (b.set t v).get t = v :=
  getD_put_self b t v

theorem Bal.get_set_ne (b : Bal) {t t' : Tok} (h : t' ≠ t) (v : Nat) : (b.set t v).get t' = b.get t' :=
  getD_put_ne b h v

/-- Σ of the amounts of the descendant sends in one token -/
def payTotal (tok : Tok) : List Payout → Nat
  | [] => 0
  | p :: ps => (if p.tok = tok then p.amt else 0) + payTotal tok ps

theorem payTotal_single_ne {tok t : Tok} (h : tok ≠ t) (dst : Addr) (amt : Nat) (call : PayCall) :
    payTotal tok [⟨dst, t, amt, call⟩] = 0 := by
  simp [payTotal, Ne.symm h]

theorem payTotal_refundOf (tok : Tok) (c : Ctx) : payTotal tok (refundOf c) = if tok = c.token then c.amount else 0 := by
  unfold refundOf
  by_cases hc : tok = c.token
  · subst hc; split <;> simp [payTotal] <;> omega
  · split <;> simp [payTotal, Ne.symm hc]

theorem applyPayout_get {b b' : Bal} {p : Payout} (h : applyPayout b p = some b') {tok : Tok} (ht : tok ≠ zeroTok) :
    b'.get tok + (if p.tok = tok then p.amt else 0) = b.get tok := by
  simp only [applyPayout, Option.ite_none_left_eq_some, Option.some.injEq] at h
  obtain ⟨_, h2, rfl⟩ := h
  by_cases hp : p.tok = tok
  · subst hp
    have : ¬ b.get p.tok < p.amt := fun hlt => h2 ⟨ht, hlt⟩
    rw [Bal.get_set_self, if_pos rfl]; omega
  · rw [Bal.get_set_ne _ (Ne.symm hp), if_neg hp]; rfl

theorem applyPayouts_get {ps : List Payout} {b b' : Bal} (h : applyPayouts b ps = some b') {tok : Tok} (ht : tok ≠ zeroTok) :
    b'.get tok + payTotal tok ps = b.get tok := by
  fun_induction applyPayouts b ps with
  | case1 => cases h; rfl
  | case2 => cases h
  | case3 b p ps b1 h1 ih =>
    have e1 := applyPayout_get h1 ht
    have e2 := ih h
    simp only [payTotal]; omega

/-! ### one receive, whatever the method -/

/-- `vmStep` has two outcomes, whatever the method. APPLIED: the method succeeded with the state stored and the
    descendants emitted, and the balance of every real token moved by + amount − Σ descendants (stated with additions
    only: no subtraction truncated, every descendant was funded). REFUSED: the storage is as it was, the descendants are
    the refund, and every balance is back where it was. -/
theorem vmStep_outcome {σ : Type} (m : Method σ) (st : σ) (bal : Bal) (c : Ctx) :
    ((vmStep m st bal c).status = 1 ∧ m st c = some ((vmStep m st bal c).st, (vmStep m st bal c).descs) ∧
      ∀ tok, tok ≠ zeroTok → (vmStep m st bal c).bal.get tok + payTotal tok (vmStep m st bal c).descs
        = bal.get tok + if tok = c.token then c.amount else 0) ∨
    ((vmStep m st bal c).status = 2 ∧ (vmStep m st bal c).st = st ∧ (vmStep m st bal c).descs = refundOf c ∧
      ∀ tok, (vmStep m st bal c).bal.get tok = bal.get tok) := by
  have h1 : ∀ tok, (bal.set c.token (bal.get c.token + c.amount)).get tok
      = bal.get tok + if tok = c.token then c.amount else 0 := by
    intro tok
    by_cases hc : tok = c.token
    · subst hc; rw [Bal.get_set_self, if_pos rfl]
    · rw [Bal.get_set_ne _ hc, if_neg hc]; rfl
  have hr : ∀ tok, (if c.amount > 0 then (bal.set c.token (bal.get c.token + c.amount)).set c.token
          ((bal.set c.token (bal.get c.token + c.amount)).get c.token - c.amount)
        else bal.set c.token (bal.get c.token + c.amount)).get tok = bal.get tok := by
    intro tok
    have := h1 tok
    by_cases hc : tok = c.token
    · subst hc; split
      · rw [Bal.get_set_self]; simp only [if_true] at this; omega
      · simp only [if_true] at this; omega
    · split
      · rw [Bal.get_set_ne _ hc]; simpa [hc] using this
      · simpa [hc] using this
  unfold vmStep
  cases hmc : m st c with
  | none => exact Or.inr ⟨rfl, rfl, rfl, hr⟩
  | some r =>
    obtain ⟨st', ps⟩ := r
    cases hap : applyPayouts (bal.set c.token (bal.get c.token + c.amount)) ps <;> simp only [hap]
    · exact Or.inr ⟨trivial, trivial, trivial, hr⟩
    · exact Or.inl ⟨trivial, trivial, fun tok ht => (applyPayouts_get hap ht).trans (h1 tok)⟩

/-- the storage after a receive is either the method's result or, on refund, the storage before -/
theorem vmStep_st_cases {σ : Type} (m : Method σ) (st : σ) (bal : Bal) (c : Ctx) :
    (vmStep m st bal c).st = st ∨ ∃ ps, m st c = some ((vmStep m st bal c).st, ps) :=
  (vmStep_outcome m st bal c).elim (fun h => Or.inr ⟨_, h.2.1⟩) (fun h => Or.inl h.2.1)

/-! ### generic preservation of "owed ≤ balance" -/

/-- the balance law a method has to obey: what it newly owes plus what it pays out is covered by what it owed before
    plus the amount that came with the call -/
def MethodBacked {σ : Type} (owed : σ → Tok → Nat) (m : Method σ) : Prop :=
  ∀ st c st' ps, m st c = some (st', ps) → ∀ tok,
    owed st' tok + payTotal tok ps ≤ owed st tok + (if tok = c.token then c.amount else 0)

/-- every recorded liability in a real token is covered by the contract's balance -/
def Backed {σ : Type} (owed : σ → Tok → Nat) (st : σ) (bal : Bal) : Prop :=
  ∀ tok, tok ≠ zeroTok → owed st tok ≤ bal.get tok

/-- like `MethodBacked`, for a method whose balance law needs a state invariant `I` (which it preserves) and a
    side condition `okc` on the call context -/
def MethodBackedI {σ : Type} (I : σ → Prop) (okc : Ctx → Prop) (owed : σ → Tok → Nat) (m : Method σ) : Prop :=
  ∀ st c st' ps, I st → okc c → m st c = some (st', ps) →
    I st' ∧ ∀ tok, owed st' tok + payTotal tok ps ≤ owed st tok + (if tok = c.token then c.amount else 0)

theorem MethodBacked.withoutInv {σ : Type} {owed : σ → Tok → Nat} {m : Method σ} (h : MethodBacked owed m) :
    MethodBackedI (fun _ => True) (fun _ => True) owed m :=
  fun st c st' ps _ _ hm => ⟨trivial, h st c st' ps hm⟩

/-- one receive keeps the invariant and the backing: an applied call by the method's balance law and the balance law of
    `vmStep`, a refused one because nothing moved -/
theorem vmStep_backedI {σ : Type} {I : σ → Prop} {okc : Ctx → Prop} {owed : σ → Tok → Nat} {m : Method σ}
    (hm : MethodBackedI I okc owed m) {st : σ} {bal : Bal} (c : Ctx) (hc : okc c) (hI : I st) (h : Backed owed st bal) :
    I (vmStep m st bal c).st ∧ Backed owed (vmStep m st bal c).st (vmStep m st bal c).bal := by
  rcases vmStep_outcome m st bal c with ⟨_, hmc, hbal⟩ | ⟨_, e1, _, hbal⟩
  · obtain ⟨hI', hlaw⟩ := hm st c _ _ hI hc hmc
    refine ⟨hI', fun tok ht => ?_⟩
    have := hbal tok ht; have := hlaw tok; have := h tok ht
    omega
  · rw [e1]
    exact ⟨hI, fun tok ht => (hbal tok).symm ▸ h tok ht⟩

theorem vmStep_backed {σ : Type} {owed : σ → Tok → Nat} {m : Method σ} (hm : MethodBacked owed m)
    {st : σ} {bal : Bal} (c : Ctx) (h : Backed owed st bal) :
    Backed owed (vmStep m st bal c).st (vmStep m st bal c).bal :=
  (vmStep_backedI hm.withoutInv c trivial trivial h).2

/-- a history of calls to one contract: each receive is one `vmStep` -/
def run {σ Op : Type} (meth : Op → Method σ) (s : σ × Bal) : List (Op × Ctx) → σ × Bal
  | [] => s
  | (o, c) :: r => run meth ((vmStep (meth o) s.1 s.2 c).st, (vmStep (meth o) s.1 s.2 c).bal) r

theorem run_backedI {σ Op : Type} {I : σ → Prop} {okc : Ctx → Prop} {owed : σ → Tok → Nat} {meth : Op → Method σ}
    (hm : ∀ o, MethodBackedI I okc owed (meth o)) (ops : List (Op × Ctx)) (hc : ∀ oc ∈ ops, okc oc.2)
    (s : σ × Bal) (hI : I s.1) (h : Backed owed s.1 s.2) :
    I (run meth s ops).1 ∧ Backed owed (run meth s ops).1 (run meth s ops).2 := by
  induction ops generalizing s with
  | nil => exact ⟨hI, h⟩
  | cons oc r ih =>
    rw [List.forall_mem_cons] at hc
    have hstep := vmStep_backedI (hm oc.1) oc.2 hc.1 hI h
    exact ih hc.2 _ hstep.1 hstep.2

theorem run_backed {σ Op : Type} {owed : σ → Tok → Nat} {meth : Op → Method σ} (hm : ∀ o, MethodBacked owed (meth o))
    (ops : List (Op × Ctx)) (s : σ × Bal) (h : Backed owed s.1 s.2) :
    Backed owed (run meth s ops).1 (run meth s ops).2 :=
  (run_backedI (fun o => (hm o).withoutInv) ops (fun _ _ => trivial) s trivial h).2

/-! ### how the storage operations and the tokens enter a balance law -/

section Law
variable {κ : Type} [DecidableEq κ] {ν : Type} {g : ν → Nat} {k : κ} {v v0 : ν} {l : List (κ × ν)} {pay inc : Nat}

/-- a new entry may be worth what came with the call -/
theorem law_put (h : g v + pay ≤ inc) : total g (put k v l) + pay ≤ total g l + inc := by
  have := total_put_le g k v l; omega

/-- an overwritten entry may lose in worth what is paid out -/
theorem law_put_over (hl : lookup k l = some v0) (h : g v + pay ≤ g v0 + inc) :
    total g (put k v l) + pay ≤ total g l + inc := by
  have := total_put_add_le g v hl; omega

/-- an entry overwritten by one that is worth nothing may be paid out -/
theorem law_put_zero (hl : lookup k l = some v0) (hv : g v = 0) (h : pay ≤ g v0 + inc) :
    total g (put k v l) + pay ≤ total g l + inc :=
  law_put_over hl (by rw [hv, Nat.zero_add]; exact h)

/-- a deleted entry may be paid out -/
theorem law_erase (hl : lookup k l = some v0) (h : pay ≤ g v0 + inc) : total g (erase k l) + pay ≤ total g l + inc := by
  have := total_erase_add_le g hl; omega

end Law

/-- a second store of the same token that the call leaves alone (`law_beside`) or that alone moves (`law_beside'`) -/
theorem law_beside {A A' D pay inc : Nat} (h : A' + pay ≤ A + inc) : A' + D + pay ≤ A + D + inc := by omega

theorem law_beside' {A D D' pay inc : Nat} (h : D' + pay ≤ D + inc) : A + D' + pay ≤ A + D + inc := by omega

/-- the amount that came with the call, as the entries' sums (`e.tok = tok`) and as the law (`tok = c.token`) spell it
    (the two are equal; `≤` is the form the side condition of `law_put` takes) -/
theorem ite_comm_le {a b : Tok} {x : Nat} : (if a = b then x else 0) ≤ if b = a then x else 0 :=
  Nat.le_of_eq (ite_congr (propext eq_comm) (fun _ => rfl) fun _ => rfl)

/-- the law of a contract that owes one token: that token's sums, and nothing paid in any other -/
theorem law_one_token {T : Tok} {A A' : Nat} {c : Ctx} {ps : List Payout}
    (hT : A' + payTotal T ps ≤ A + if T = c.token then c.amount else 0)
    (ho : ∀ tok, tok ≠ T → payTotal tok ps = 0) (tok : Tok) :
    (if tok = T then A' else 0) + payTotal tok ps ≤ (if tok = T then A else 0) + if tok = c.token then c.amount else 0 := by
  by_cases h : tok = T
  · subst h; rw [if_pos rfl, if_pos rfl]; exact hT
  · rw [if_neg h, if_neg h, ho tok h]; exact Nat.zero_le _

/-- the law of a contract that owes ZNN and QSR (pillar, sentinel) -/
theorem law_znn_qsr {A A' B B' : Nat} {c : Ctx} {ps : List Payout}
    (hz : A' + payTotal znnTok ps ≤ A + if znnTok = c.token then c.amount else 0)
    (hq : B' + payTotal qsrTok ps ≤ B + if qsrTok = c.token then c.amount else 0)
    (ho : ∀ tok, tok ≠ znnTok → tok ≠ qsrTok → payTotal tok ps = 0) (tok : Tok) :
    (if tok = znnTok then A' else if tok = qsrTok then B' else 0) + payTotal tok ps ≤
      (if tok = znnTok then A else if tok = qsrTok then B else 0) + if tok = c.token then c.amount else 0 := by
  by_cases h1 : tok = znnTok
  · subst h1; rw [if_pos rfl, if_pos rfl]; exact hz
  · rw [if_neg h1, if_neg h1]
    by_cases h2 : tok = qsrTok
    · subst h2; rw [if_pos rfl, if_pos rfl]; exact hq
    · rw [if_neg h2, if_neg h2, ho tok h1 h2]; exact Nat.zero_le _

/-! ### the contract methods: when a call succeeds, and with what

Every method is a chain of guards ending in `some (s', ps)`; `simp only [method_inv]` turns "= some (s', ps)" into the
conjunction of the guards and the equations for `s'` and `ps`, which is how each `f_spec` below is stated (`consumeQsr_spec` and `redeemUnwrap_spec` are implications proved by hand:
a three-way result, and an `if` between two `some`s inside two matches, are not forms the simp set normalises). -/

theorem none_eq_some {α : Type} {a : α} : (none = some a) = False := eq_false nofun

attribute [method_inv] none_eq_some Option.ite_none_left_eq_some Option.ite_none_right_eq_some not_or not_and
  Decidable.not_not Nat.not_lt Nat.le_zero_eq Int.not_lt Int.not_le gt_iff_lt ge_iff_le Bool.not_eq_true'
  Bool.not_eq_false Option.not_isSome_iff_eq_none Option.some.injEq Prod.mk.injEq exists_eq_left' false_and and_false
  exists_false ite_self and_assoc

variable {P : Params} {c : Ctx} {ps : List Payout}

/-! ### plasma -/

section Plasma
variable {s s' : Plasma}

theorem fuse_spec {b : Addr} : fuse P b s c = some (s', ps) ↔
    c.token = qsrTok ∧ P.fuseMinAmount ≤ c.amount ∧ c.amount % P.costPerFusionUnit = 0 ∧
    { fusions := put (c.sender, c.hash) ⟨c.amount, c.height + P.fuseExpiration, b⟩ s.fusions,
      fused := put b (s.fusedOf b + c.amount) s.fused } = s' ∧ [] = ps := by
  simp only [fuse, method_inv]

theorem cancelFuse_spec {id : Hash} : cancelFuse id s c = some (s', ps) ↔
    c.amount = 0 ∧ ∃ f, lookup (c.sender, id) s.fusions = some f ∧ f.expH ≤ c.height ∧
      { fusions := erase (c.sender, id) s.fusions,
        fused := let rest : Int := (s.fusedOf f.beneficiary : Int) - f.amount
                 if rest = 0 then erase f.beneficiary s.fused
                 else put f.beneficiary (if rest < 0 then rest + (2 ^ 256 : Int) else rest).toNat s.fused } = s' ∧
      [⟨c.sender, qsrTok, f.amount, .none⟩] = ps := by
  unfold cancelFuse
  cases lookup (c.sender, id) s.fusions <;> simp only [method_inv]

theorem plasma_methodBacked (P : Params) (op : PlasmaOp) : MethodBacked plasmaOwed (op.method P) := by
  intro st c st' ps h
  cases op with
  | fuse b =>
    obtain ⟨ht, _, _, rfl, rfl⟩ := fuse_spec.1 h
    exact law_one_token (law_put (Nat.le_of_eq (if_pos ht.symm).symm)) (fun _ _ => rfl)
  | cancelFuse id =>
    obtain ⟨_, f, hf, _, rfl, rfl⟩ := cancelFuse_spec.1 h
    exact law_one_token (law_erase hf (Nat.le_add_right _ _)) (fun _ ht => payTotal_single_ne ht ..)

/-- distinct keys, and per beneficiary the recorded fused total equals the sum of its fusion entries -/
def PlasmaConsistent (s : Plasma) : Prop :=
  NodupKeys s.fusions ∧ ∀ b, s.fusedOf b = s.entriesFor b

theorem fused_covers_entry (s : Plasma) (h : PlasmaConsistent s) {k : Addr × Hash} {f : Fusion}
    (hf : lookup k s.fusions = some f) : f.amount ≤ s.fusedOf f.beneficiary := by
  have := total_erase_add_le (fun g : Fusion => if g.beneficiary = f.beneficiary then g.amount else 0) hf
  rw [if_pos rfl] at this
  rw [h.2 f.beneficiary]
  exact Nat.le_trans (Nat.le_add_left _ _) this

theorem plasma_consistent_method (P : Params) (op : PlasmaOp) (s s' : Plasma) (c : Ctx) (ps : List Payout)
    (hfresh : ∀ b, op = .fuse b → lookup (c.sender, c.hash) s.fusions = none)
    (h : PlasmaConsistent s) (hm : op.method P s c = some (s', ps)) : PlasmaConsistent s' := by
  cases op with
  | fuse b =>
    obtain ⟨_, _, _, rfl, _⟩ := fuse_spec.1 hm
    refine ⟨nodupKeys_put _ _ h.1, fun b' => ?_⟩
    have hb := h.2 b'
    simp only [Plasma.fusedOf, Plasma.entriesFor, put, erase_of_lookup_none (hfresh b rfl), total] at hb ⊢
    by_cases hb' : b' = b
    · subst hb'; simp [lookup, hb]; omega
    · simp [lookup, Ne.symm hb', lookup_erase_ne hb', hb]
  | cancelFuse id =>
    obtain ⟨_, f, hf, _, rfl, _⟩ := cancelFuse_spec.1 hm
    have hcov := fused_covers_entry s h hf
    refine ⟨nodupKeys_erase _ h.1, fun b' => ?_⟩
    -- with distinct keys the deleted entry leaves exactly its amount out of its beneficiary's sum
    have heq := total_erase_eq (fun g : Fusion => if g.beneficiary = b' then g.amount else 0) h.1 hf
    have hb := h.2 b'
    simp only [Plasma.entriesFor] at hb ⊢
    generalize hx : ((s.fusedOf f.beneficiary : Nat) : Int) - (f.amount : Int) = x
    by_cases hbf : b' = f.beneficiary
    · subst hbf
      rw [if_pos rfl] at heq
      by_cases hz : x = 0
      · rw [if_pos hz]; exact (getD_erase_self _ _).trans (by omega)
      · have hnn : ¬ x < 0 := by omega
        rw [if_neg hz, if_neg hnn]; exact (getD_put_self _ _ _).trans (by omega)
    · rw [if_neg (Ne.symm hbf)] at heq
      by_cases hz : x = 0
      · rw [if_pos hz]; exact (getD_erase_ne _ hbf).trans (hb.trans heq.symm)
      · rw [if_neg hz]; exact (getD_put_ne _ hbf _).trans (hb.trans heq.symm)

/-- every Fuse of the history carries a send-block hash that is not yet a key of its sender's entries -/
def FreshIds (P : Params) : Plasma × Bal → List (PlasmaOp × Ctx) → Prop
  | _, [] => True
  | s, (o, c) :: r =>
    (∀ b, o = .fuse b → lookup (c.sender, c.hash) s.1.fusions = none) ∧
    FreshIds P ((vmStep (o.method P) s.1 s.2 c).st, (vmStep (o.method P) s.1 s.2 c).bal) r

end Plasma

/-! ### stake -/

section Stake
variable {s s' : Stake}

theorem stake_spec {d : Int} : stake P d s c = some (s', ps) ↔
    P.stakeMinAmount ≤ c.amount ∧ c.token = znnTok ∧ P.stakeTimeMin ≤ d ∧ d ≤ P.stakeTimeMax ∧ d.tmod P.stakeTimeUnit = 0 ∧
    { entries := put (c.sender, c.hash) ⟨c.amount, weightedStake P c.amount d, c.now, 0, c.now + d⟩ s.entries } = s' ∧
    [] = ps := by
  simp only [stake, method_inv]

theorem cancelStake_spec {id : Hash} : cancelStake id s c = some (s', ps) ↔
    c.amount = 0 ∧ ∃ e, lookup (c.sender, id) s.entries = some e ∧ e.expiration ≤ c.now ∧
      { entries := put (c.sender, id) { e with revoke := c.now, amount := 0 } s.entries } = s' ∧
      [⟨c.sender, znnTok, e.amount, .none⟩] = ps := by
  unfold cancelStake
  cases lookup (c.sender, id) s.entries <;> simp only [method_inv]

theorem stake_methodBacked (P : Params) (op : StakeOp) : MethodBacked stakeOwed (op.method P) := by
  intro st c st' ps h
  cases op with
  | stake d =>
    obtain ⟨_, ht, _, _, _, rfl, rfl⟩ := stake_spec.1 h
    exact law_one_token (law_put (Nat.le_of_eq (if_pos ht.symm).symm)) (fun _ _ => rfl)
  | cancel id =>
    obtain ⟨_, e, he, _, rfl, rfl⟩ := cancelStake_spec.1 h
    exact law_one_token (law_put_zero he rfl (Nat.le_add_right _ _)) (fun _ ht => payTotal_single_ne ht ..)

end Stake

/-! ### htlc -/

section Htlc
variable {s s' : Htlc}

theorem createHtlc_spec {a : Addr} {ex : Int} {ty km : Nat} {hl : Bytes} :
    createHtlc a ex ty km hl s c = some (s', ps) ↔
    digestSize ty = some hl.length ∧ ¬ c.amount = 0 ∧ c.now < ex ∧
    { s with entries := put c.hash ⟨c.sender, a, c.token, c.amount, ex, ty, km, hl⟩ s.entries } = s' ∧ [] = ps := by
  unfold createHtlc
  cases digestSize ty <;> simp only [method_inv, eq_comm (a := hl.length)]

theorem reclaimHtlc_spec {id : Hash} : reclaimHtlc id s c = some (s', ps) ↔
    c.amount = 0 ∧ ∃ e, lookup id s.entries = some e ∧ e.timeLocked = c.sender ∧ e.expiration ≤ c.now ∧
      { s with entries := erase id s.entries } = s' ∧ [⟨e.timeLocked, e.tok, e.amount, .none⟩] = ps := by
  unfold reclaimHtlc
  cases lookup id s.entries <;> simp only [method_inv]

theorem unlockHtlc_spec {H : HashFn} {id : Hash} {pre : Bytes} : unlockHtlc H id pre s c = some (s', ps) ↔
    c.amount = 0 ∧ ∃ e, lookup id s.entries = some e ∧ (s.proxyAllowed e.hashLocked = false → c.sender = e.hashLocked) ∧
      c.now < e.expiration ∧ pre.length ≤ e.keyMax ∧ H e.hashType pre = e.hashLock ∧
      { s with entries := erase id s.entries } = s' ∧ [⟨e.hashLocked, e.tok, e.amount, .none⟩] = ps := by
  unfold unlockHtlc
  cases lookup id s.entries <;> simp only [method_inv, Bool.and_eq_true, decide_eq_true_eq]

theorem setProxyUnlock_spec {b : Bool} : setProxyUnlock b s c = some (s', ps) ↔
    c.amount = 0 ∧ { s with proxy := put c.sender b s.proxy } = s' ∧ [] = ps := by
  simp only [setProxyUnlock, method_inv]

theorem htlc_methodBacked (H : HashFn) (op : HtlcOp) : MethodBacked htlcOwed (op.method H) := by
  intro st c st' ps h tok
  cases op with
  | create a ex ty km hl =>
    obtain ⟨_, _, _, rfl, rfl⟩ := createHtlc_spec.1 h
    exact law_put ite_comm_le
  | reclaim id =>
    obtain ⟨_, e, he, _, _, rfl, rfl⟩ := reclaimHtlc_spec.1 h
    exact law_erase he (Nat.le_add_right _ _)
  | unlock id pre =>
    obtain ⟨_, e, he, _, _, _, _, rfl, rfl⟩ := unlockHtlc_spec.1 h
    exact law_erase he (Nat.le_add_right _ _)
  | deny | allow =>
    obtain ⟨_, rfl, rfl⟩ := setProxyUnlock_spec.1 h
    exact Nat.le_add_right _ _

end Htlc

/-! ### QSR deposits -/

section Deposits
variable {d d' : Deposits}

theorem depositQsr_spec : depositQsr d c = some d' ↔
    c.token = qsrTok ∧ ¬ c.amount = 0 ∧ put c.sender (depositOf d c.sender + c.amount) d = d' := by
  simp only [depositQsr, method_inv]

theorem withdrawQsr_spec : withdrawQsr d c = some (d', ps) ↔
    c.amount = 0 ∧ ¬ depositOf d c.sender = 0 ∧ erase c.sender d = d' ∧
      [⟨c.sender, qsrTok, depositOf d c.sender, .none⟩] = ps := by
  simp only [withdrawQsr, method_inv]

theorem consumeQsr_spec {owner : Addr} {required : Nat} (h : consumeQsr d owner required = some d') :
    required ≤ depositOf d owner ∧
      (depositOf d owner = required ∧ d' = erase owner d ∨ d' = put owner (depositOf d owner - required) d) := by
  simp only [consumeQsr, Option.ite_none_left_eq_some, Nat.not_lt] at h
  refine ⟨h.1, ?_⟩
  have h2 := h.2
  split at h2
  · exact Or.inl ⟨by omega, (Option.some.inj h2).symm⟩
  · exact Or.inr (Option.some.inj h2).symm

theorem depositsTotal_put (d : Deposits) (a : Addr) (v : Nat) :
    depositsTotal (put a v d) + depositOf d a ≤ depositsTotal d + v := by
  unfold depositOf
  cases hl : lookup a d with
  | none => exact total_put_le id a v d
  | some v0 => exact total_put_add_le id v hl

theorem depositsTotal_erase (d : Deposits) (a : Addr) : depositsTotal (erase a d) + depositOf d a ≤ depositsTotal d := by
  unfold depositOf
  cases hl : lookup a d with
  | none => exact total_erase_le id a d
  | some v0 => exact total_erase_add_le id hl

theorem consumeQsr_law {owner : Addr} {required : Nat} (h : consumeQsr d owner required = some d') :
    required ≤ depositOf d owner ∧ depositsTotal d' + required ≤ depositsTotal d := by
  obtain ⟨hle, ⟨he, rfl⟩ | rfl⟩ := consumeQsr_spec h
  · exact ⟨hle, he ▸ depositsTotal_erase d owner⟩
  · have := depositsTotal_put d owner (depositOf d owner - required)
    exact ⟨hle, by omega⟩

/-- DepositQsr obeys the QSR law of the contract that keeps the deposits -/
theorem depositQsr_law (h : depositQsr d c = some d') :
    depositsTotal d' ≤ depositsTotal d + if qsrTok = c.token then c.amount else 0 := by
  obtain ⟨ht, _, rfl⟩ := depositQsr_spec.1 h
  have := depositsTotal_put d c.sender (depositOf d c.sender + c.amount)
  rw [if_pos ht.symm]; omega

end Deposits

/-! ### pillar -/

section Pillar
variable {s s' : Pillar}

/-- every active pillar is recorded with exactly the collateral that Revoke pays back -/
def PillarInv (P : Params) (s : Pillar) : Prop :=
  ∀ x ∈ s.pillars, x.2.revokeTime = 0 → x.2.amount = P.pillarStakeAmount

theorem registerPillar_spec {name : Hash} {producer reward : Addr} {pb pd : Nat} {ok : Bool} :
    registerPillar P name producer reward pb pd ok s c = some (s', ps) ↔
    ok = true ∧ pb ≤ 100 ∧ pd ≤ 100 ∧ c.token = znnTok ∧ c.amount = P.pillarStakeAmount ∧ lookup name s.pillars = none ∧
    producerAvailable s producer name = true ∧ ∃ d', consumeQsr s.deposits c.sender (pillarQsrCost P s) = some d' ∧
      { s with pillars := put name ⟨c.sender, P.pillarStakeAmount, c.now, 0, producer, reward, ZV.Gen.NormalPillarType, pb, pd⟩ s.pillars,
               producing := put producer name s.producing, deposits := d' } = s' ∧
      [⟨tokenContract, qsrTok, pillarQsrCost P s, .burn⟩] = ps := by
  simp only [registerPillar]
  cases consumeQsr s.deposits c.sender (pillarQsrCost P s) <;> simp only [method_inv]

theorem revokePillar_spec {name : Hash} {ok : Bool} : revokePillar P name ok s c = some (s', ps) ↔
    ok = true ∧ c.amount = 0 ∧ ∃ p, lookup name s.pillars = some p ∧ p.revokeTime = 0 ∧ p.stakeAddr = c.sender ∧
      revocable P.pillarLock P.pillarRevoke p.regTime c.now = true ∧
      { s with pillars := put name { p with revokeTime := c.now, amount := 0 } s.pillars } = s' ∧
      [⟨p.stakeAddr, znnTok, P.pillarStakeAmount, .none⟩] = ps := by
  unfold revokePillar
  cases lookup name s.pillars <;> simp only [method_inv]

theorem updatePillar_spec {name : Hash} {producer reward : Addr} {pb pd : Nat} {ok : Bool} :
    updatePillar name producer reward pb pd ok s c = some (s', ps) ↔
    ok = true ∧ pb ≤ 100 ∧ pd ≤ 100 ∧ c.amount = 0 ∧ ∃ p, lookup name s.pillars = some p ∧ p.stakeAddr = c.sender ∧
      p.revokeTime = 0 ∧ (producer ≠ p.producer → producerAvailable s producer name = true) ∧
      { s with pillars := put name { p with producer := producer, reward := reward, pctBlock := pb, pctDelegate := pd } s.pillars,
               producing := if producer ≠ p.producer then put producer name s.producing else s.producing } = s' ∧
      [] = ps := by
  unfold updatePillar
  cases lookup name s.pillars <;> simp only [method_inv]

theorem delegate_spec {name : Hash} {ok : Bool} : delegate name ok s c = some (s', ps) ↔
    ok = true ∧ c.amount = 0 ∧ ∃ p, lookup name s.pillars = some p ∧ p.revokeTime = 0 ∧
      { s with delegations := put c.sender name s.delegations } = s' ∧ [] = ps := by
  unfold delegate
  cases lookup name s.pillars <;> simp only [method_inv]

theorem undelegate_spec : undelegate s c = some (s', ps) ↔
    c.amount = 0 ∧ ∃ n, lookup c.sender s.delegations = some n ∧
      { s with delegations := erase c.sender s.delegations } = s' ∧ [] = ps := by
  unfold undelegate
  cases lookup c.sender s.delegations <;> simp only [method_inv]

theorem pillarDeposit_spec : pillarDeposit s c = some (s', ps) ↔
    ∃ d, depositQsr s.deposits c = some d ∧ { s with deposits := d } = s' ∧ [] = ps := by
  unfold pillarDeposit
  cases depositQsr s.deposits c <;> simp only [method_inv]

theorem pillarWithdraw_spec : pillarWithdraw s c = some (s', ps) ↔
    ∃ r, withdrawQsr s.deposits c = some r ∧ { s with deposits := r.1 } = s' ∧ r.2 = ps := by
  unfold pillarWithdraw
  cases withdrawQsr s.deposits c <;> simp only [method_inv]

theorem pillar_methodBackedI (P : Params) (op : PillarOp) :
    MethodBackedI (PillarInv P) (fun c => c.now ≠ 0) pillarOwed (op.method P) := by
  intro st c st' ps hI hc h
  cases op with
  | register name producer reward pb pd ok =>
    obtain ⟨_, _, _, ht, ha, _, _, d', hd, rfl, rfl⟩ := registerPillar_spec.1 h
    exact ⟨forall_mem_put hI fun _ => rfl,
      law_znn_qsr (law_put (Nat.le_of_eq ((if_pos ht.symm).trans ha).symm))
        (Nat.le_trans (consumeQsr_law hd).2 (Nat.le_add_right _ _)) fun _ _ h2 => payTotal_single_ne h2 ..⟩
  | revoke name ok =>
    obtain ⟨_, _, p, hp, hrev, _, _, rfl, rfl⟩ := revokePillar_spec.1 h
    have hamt : p.amount = P.pillarStakeAmount := hI (name, p) (mem_of_lookup hp) hrev
    exact ⟨forall_mem_put hI fun hr => absurd hr hc,
      law_znn_qsr (law_put_zero hp rfl (Nat.le_trans (Nat.le_of_eq hamt.symm) (Nat.le_add_right _ _)))
        (Nat.le_add_right _ _) fun _ h1 _ => payTotal_single_ne h1 ..⟩
  | update name producer reward pb pd ok =>
    obtain ⟨_, _, _, _, p, hp, _, _, _, rfl, rfl⟩ := updatePillar_spec.1 h
    exact ⟨forall_mem_put hI (hI (name, p) (mem_of_lookup hp)),
      law_znn_qsr (law_put_over hp (Nat.le_add_right _ _)) (Nat.le_add_right _ _) fun _ _ _ => rfl⟩
  | delegate name ok =>
    obtain ⟨_, _, _, _, _, rfl, rfl⟩ := delegate_spec.1 h
    exact ⟨hI, law_znn_qsr (Nat.le_add_right _ _) (Nat.le_add_right _ _) fun _ _ _ => rfl⟩
  | undelegate =>
    obtain ⟨_, _, _, rfl, rfl⟩ := undelegate_spec.1 h
    exact ⟨hI, law_znn_qsr (Nat.le_add_right _ _) (Nat.le_add_right _ _) fun _ _ _ => rfl⟩
  | deposit =>
    obtain ⟨d, hd, rfl, rfl⟩ := pillarDeposit_spec.1 h
    exact ⟨hI, law_znn_qsr (Nat.le_add_right _ _) (depositQsr_law hd) fun _ _ _ => rfl⟩
  | withdraw =>
    obtain ⟨⟨d, q⟩, hd, rfl, rfl⟩ := pillarWithdraw_spec.1 h
    obtain ⟨_, _, rfl, rfl⟩ := withdrawQsr_spec.1 hd
    exact ⟨hI, law_znn_qsr (Nat.le_add_right _ _)
      (Nat.le_trans (depositsTotal_erase _ c.sender) (Nat.le_add_right _ _)) fun _ _ h2 => payTotal_single_ne h2 ..⟩

end Pillar

/-! ### sentinel -/

section Sentinel
variable {s s' : Sentinel}

theorem registerSentinel_spec : registerSentinel P s c = some (s', ps) ↔
    c.token = znnTok ∧ c.amount = P.sentinelZnn ∧ lookup c.sender s.entries = none ∧
    ∃ d', consumeQsr s.deposits c.sender P.sentinelQsr = some d' ∧
      { entries := put c.sender ⟨c.now, 0, P.sentinelZnn, P.sentinelQsr⟩ s.entries, deposits := d' } = s' ∧ [] = ps := by
  unfold registerSentinel
  cases consumeQsr s.deposits c.sender P.sentinelQsr <;> simp only [method_inv]

theorem revokeSentinel_spec : revokeSentinel P s c = some (s', ps) ↔
    c.amount = 0 ∧ ∃ e, lookup c.sender s.entries = some e ∧ e.revokeTime = 0 ∧
      revocable P.sentinelLock P.sentinelRevoke e.regTime c.now = true ∧
      { s with entries := put c.sender { e with revokeTime := c.now, znn := 0, qsr := 0 } s.entries } = s' ∧
      [⟨c.sender, znnTok, e.znn, .none⟩, ⟨c.sender, qsrTok, e.qsr, .none⟩] = ps := by
  unfold revokeSentinel
  cases lookup c.sender s.entries <;> simp only [method_inv]

theorem sentinelDeposit_spec : sentinelDeposit s c = some (s', ps) ↔
    ∃ d, depositQsr s.deposits c = some d ∧ { s with deposits := d } = s' ∧ [] = ps := by
  unfold sentinelDeposit
  cases depositQsr s.deposits c <;> simp only [method_inv]

theorem sentinelWithdraw_spec : sentinelWithdraw s c = some (s', ps) ↔
    ∃ r, withdrawQsr s.deposits c = some r ∧ { s with deposits := r.1 } = s' ∧ r.2 = ps := by
  unfold sentinelWithdraw
  cases withdrawQsr s.deposits c <;> simp only [method_inv]

theorem sentinel_methodBacked (P : Params) (op : SentinelOp) : MethodBacked sentinelOwed (op.method P) := by
  intro st c st' ps h
  cases op with
  | register =>
    obtain ⟨ht, ha, _, d', hd, rfl, rfl⟩ := registerSentinel_spec.1 h
    -- the QSR collateral recorded is what leaves the sender's deposit
    have h1 := total_put_le (fun e : SentinelE => e.qsr) c.sender ⟨c.now, 0, P.sentinelZnn, P.sentinelQsr⟩ st.entries
    have h2 := (consumeQsr_law hd).2
    refine law_znn_qsr (law_put (Nat.le_of_eq ((if_pos ht.symm).trans ha).symm)) ?_ fun _ _ _ => rfl
    dsimp only [payTotal] at h1 ⊢; omega
  | revoke =>
    obtain ⟨_, e, he, _, _, rfl, rfl⟩ := revokeSentinel_spec.1 h
    exact law_znn_qsr (law_put_zero he rfl (Nat.le_add_right _ _))
      (law_beside (law_put_zero he rfl (by show 0 + e.qsr ≤ _; omega)))
      fun _ h1 h2 => by rw [payTotal, payTotal_single_ne h2, if_neg (Ne.symm h1)]
  | deposit =>
    obtain ⟨d, hd, rfl, rfl⟩ := sentinelDeposit_spec.1 h
    exact law_znn_qsr (Nat.le_add_right _ _) (law_beside' (depositQsr_law hd)) fun _ _ _ => rfl
  | withdraw =>
    obtain ⟨⟨d, q⟩, hd, rfl, rfl⟩ := sentinelWithdraw_spec.1 h
    obtain ⟨_, _, rfl, rfl⟩ := withdrawQsr_spec.1 hd
    exact law_znn_qsr (Nat.le_add_right _ _)
      (law_beside' (Nat.le_trans (depositsTotal_erase _ c.sender) (Nat.le_add_right _ _)))
      fun _ _ h2 => payTotal_single_ne h2 ..

end Sentinel

/-! ### liquidity (stake entries) -/

section Liquidity
variable {s s' : Liquidity}

theorem liquidityStake_spec {d : Int} : liquidityStake P d s c = some (s', ps) ↔
    P.stakeTimeMin ≤ d ∧ d ≤ P.stakeTimeMax ∧ d.tmod P.stakeTimeUnit = 0 ∧ ∃ m, lookup c.token s.tuples = some m ∧ m ≤ c.amount ∧
    { s with entries := put (c.sender, c.hash) ⟨c.amount, c.token, weightedLiquidityStake P c.amount d, c.now, 0, c.now + d⟩ s.entries } = s' ∧
    [] = ps := by
  unfold liquidityStake
  cases lookup c.token s.tuples <;> simp only [method_inv]

theorem cancelLiquidityStake_spec {id : Hash} : cancelLiquidityStake id s c = some (s', ps) ↔
    c.amount = 0 ∧ ∃ e, lookup (c.sender, id) s.entries = some e ∧ e.expiration ≤ c.now ∧
      { s with entries := put (c.sender, id) { e with revoke := c.now, amount := 0 } s.entries } = s' ∧
      [⟨c.sender, e.tok, e.amount, .none⟩] = ps := by
  unfold cancelLiquidityStake
  cases lookup (c.sender, id) s.entries <;> simp only [method_inv]

theorem unlockLiquidityStakeEntries_spec {isAdmin : Bool} : unlockLiquidityStakeEntries isAdmin s c = some (s', ps) ↔
    c.amount = 0 ∧ isAdmin = true ∧ { s with entries := s.entries.map fun ke => (ke.1, unlockEntry c ke.2) } = s' ∧ [] = ps := by
  simp only [unlockLiquidityStakeEntries, method_inv]

theorem setLiquidityTuples_spec {isAdmin : Bool} {ts : List (Tok × Nat)} : setLiquidityTuples isAdmin ts s c = some (s', ps) ↔
    c.amount = 0 ∧ isAdmin = true ∧ { s with tuples := ts } = s' ∧ [] = ps := by
  simp only [setLiquidityTuples, method_inv]

theorem liquidityBurnZnn_spec {amount : Nat} {isSpork : Bool} : liquidityBurnZnn amount isSpork s c = some (s', ps) ↔
    isSpork = true ∧ s = s' ∧ [⟨tokenContract, znnTok, amount, .burn⟩] = ps := by
  simp only [liquidityBurnZnn, method_inv]

theorem liquidity_methodBacked (P : Params) (op : LiquidityOp) : MethodBacked liquidityOwed (op.method P) := by
  intro st c st' ps h tok
  cases op with
  | stake d =>
    obtain ⟨_, _, _, _, _, _, rfl, rfl⟩ := liquidityStake_spec.1 h
    exact law_put ite_comm_le
  | cancel id =>
    obtain ⟨_, e, he, _, rfl, rfl⟩ := cancelLiquidityStake_spec.1 h
    exact law_put_zero he (ite_self 0) (Nat.le_add_right _ _)

end Liquidity

/-! ### bridge: unwrap requests -/

section Bridge
variable {s s' : Bridge}

theorem unwrapToken_spec {canAct sigOk : Bool} {pair : Option PairInfo} {tx : Hash} {log : Nat} {to : Addr} {ta amount : Nat} :
    unwrapToken canAct sigOk pair tx log to ta amount s c = some (s', ps) ↔
    ¬ amount = 0 ∧ c.amount = 0 ∧ canAct = true ∧ lookup (tx, log) s.requests = none ∧
      ∃ p, pair = some p ∧ p.redeemable = true ∧ sigOk = true ∧
        { requests := put (tx, log) ⟨c.height, to, ta, p.tok, amount, 0, 0⟩ s.requests } = s' ∧ [] = ps := by
  unfold unwrapToken
  cases pair <;> simp only [method_inv]

theorem redeemUnwrap_spec {canAct : Bool} {pair : Option PairInfo} {tx : Hash} {log : Nat} {c : Ctx}
    (h : redeemUnwrap canAct pair tx log s c = some (s', ps)) :
    canAct = true ∧ c.amount = 0 ∧ ∃ r p, lookup (tx, log) s.requests = some r ∧ pair = some p ∧
      r.redeemed = 0 ∧ r.revoked = 0 ∧ p.redeemDelay ≤ c.height - r.regHeight ∧
      s' = { requests := put (tx, log) { r with redeemed := 1 } s.requests } ∧
      ps = [if p.owned then ⟨tokenContract, p.tok, 0, .mint p.tok r.amount r.toAddr⟩ else ⟨r.toAddr, p.tok, r.amount, .none⟩] := by
  unfold redeemUnwrap at h
  cases hr : lookup (tx, log) s.requests with
  | none => simp [hr] at h
  | some r =>
    cases pair with
    | none => simp [hr] at h
    | some p =>
      simp only [hr, Option.ite_none_left_eq_some, Decidable.not_not, Bool.not_eq_true', Bool.not_eq_false, not_or,
        Nat.not_lt, Nat.le_zero_eq] at h
      refine ⟨h.2.1, h.1, r, p, rfl, rfl, h.2.2.1.1, h.2.2.1.2, h.2.2.2.1, ?_⟩
      have h2 := h.2.2.2.2
      cases ho : p.owned <;> simp only [ho, Bool.false_eq_true, if_false, if_true, Option.some.injEq, Prod.mk.injEq] at h2 ⊢ <;>
        exact ⟨h2.1.symm, h2.2.symm⟩

theorem revokeUnwrap_spec {isAdmin : Bool} {tx : Hash} {log : Nat} : revokeUnwrap isAdmin tx log s c = some (s', ps) ↔
    c.amount = 0 ∧ ∃ r, lookup (tx, log) s.requests = some r ∧ isAdmin = true ∧
      { requests := put (tx, log) { r with revoked := 1 } s.requests } = s' ∧ [] = ps := by
  unfold revokeUnwrap
  cases lookup (tx, log) s.requests <;> simp only [method_inv]

end Bridge

end ZV.Contracts

