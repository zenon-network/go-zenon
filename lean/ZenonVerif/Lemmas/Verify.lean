import ZenonVerif.Model.Verify
/-
Each check of the verifier model passes exactly when the conditions it tests hold; acceptance is the conjunction.
-/
namespace ZV.Verify
open ZV

theorem chk_ok {c : Bool} {r : Reason} : chk c r = .ok () ↔ c = false := by
  unfold chk; cases c <;> simp

theorem firstErr_nil : firstErr [] = .ok () := rfl

theorem firstErr_cons {x : R} {xs : List R} :
    firstErr (x :: xs) = .ok () ↔ x = .ok () ∧ firstErr xs = .ok () := by
  cases x with
  | ok u => simp [firstErr]
  | error e => simp [firstErr]

theorem firstErr_append {xs ys : List R} :
    firstErr (xs ++ ys) = .ok () ↔ firstErr xs = .ok () ∧ firstErr ys = .ok () := by
  induction xs with
  | nil => simp [firstErr]
  | cons x xs ih => simp [firstErr_cons, ih, and_assoc]

theorem firstErr_map {α : Type} {l : List α} {g : α → R} :
    firstErr (l.map g) = .ok () ↔ ∀ a ∈ l, g a = .ok () := by
  induction l with
  | nil => simp [firstErr]
  | cons a l ih => simp [firstErr_cons, ih]

theorem heightChecks_ok {b : Blk} : firstErr (heightChecks b) = .ok () ↔ b.h ≠ 0 ∧ (b.h = 1 ↔ b.phz = true) := by
  simp only [heightChecks, firstErr_cons, firstErr_nil, chk_ok, and_true]
  cases b.phz <;> simp

theorem getContextWith_ok {st : Bool} {c : Cand} {f : Facts} : getContextWith st c f = .ok () ↔
    (c.b.h ≠ 0 ∧ (c.b.h = 1 ↔ c.b.phz = true)) ∧ c.b.maz = false ∧ f.maOn = true ∧ st = true := by
  simp only [getContextWith, firstErr_append, heightChecks_ok, firstErr_cons, firstErr_nil, chk_ok, and_true]
  cases st
  · -- without the account store every branch of the last entry is an error
    simp only [Bool.false_eq_true, if_false, and_false, iff_false, not_and]
    intro _ _ _ h
    (repeat' split at h) <;> cases h
  · simp

theorem version_ok {s : Subj} {f : Facts} : version s f = .ok () ↔ s.b.ver = 1 := by
  simp only [version, firstErr_cons, firstErr_nil, chk_ok, and_true, beq_eq_false_iff_ne, bne_eq_false_iff_eq]
  omega

theorem chainIdentifier_ok {s : Subj} {f : Facts} : chainIdentifier s f = .ok () ↔ s.b.cid ≠ 0 ∧ s.b.cid = f.ccid := by
  simp only [chainIdentifier, firstErr_cons, firstErr_nil, chk_ok, and_true, beq_eq_false_iff_ne, bne_eq_false_iff_eq]

theorem isSend_isReceive_of_type {b : Blk} :
    (b.bt = Gen.BlockTypeUserSend → isSend b = true ∧ isReceive b = false) ∧
    (b.bt = Gen.BlockTypeUserReceive → isSend b = false ∧ isReceive b = true) ∧
    (b.bt = Gen.BlockTypeContractReceive → isSend b = false ∧ isReceive b = true) ∧
    (b.bt = Gen.BlockTypeContractSend → isSend b = true ∧ isReceive b = false) := by
  refine ⟨?_, ?_, ?_, ?_⟩ <;> intro e <;> simp [isSend, isReceive, e] <;> decide

theorem blockType_ok {s : Subj} {f : Facts} : blockType s f = .ok () ↔
    (s.b.emb = true → s.b.bt = Gen.BlockTypeContractReceive ∨ s.b.bt = Gen.BlockTypeContractSend) ∧
    (s.b.emb = false → s.b.bt = Gen.BlockTypeUserReceive ∨ s.b.bt = Gen.BlockTypeUserSend) := by
  simp only [blockType, firstErr_cons, firstErr_nil, chk_ok, and_true, beq_eq_false_iff_ne, Bool.not_eq_false',
    Bool.or_eq_true]
  -- the first three tests are implied by the last: each of the four types is a send or a receive, not 0, not genesis
  have h4 : s.b.bt = Gen.BlockTypeContractReceive ∨ s.b.bt = Gen.BlockTypeContractSend ∨
      s.b.bt = Gen.BlockTypeUserReceive ∨ s.b.bt = Gen.BlockTypeUserSend →
      s.b.bt ≠ 0 ∧ s.b.bt ≠ Gen.BlockTypeGenesisReceive ∧ (isSend s.b = true ∨ isReceive s.b = true) := by
    rintro (h | h | h | h) <;> simp [isSend, isReceive, h] <;> decide
  cases s.b.emb
  · simp only [Bool.false_eq_true, if_false, chk_ok, Bool.not_eq_false', Bool.or_eq_true, beq_iff_eq, false_imp_iff,
      true_and, true_imp_iff]
    refine ⟨fun h => h.2.2.2, fun h => ?_⟩
    obtain ⟨a, b, c⟩ := h4 (.inr (.inr h))
    exact ⟨a, b, c, h⟩
  · simp only [if_true, chk_ok, Bool.not_eq_false', Bool.or_eq_true, beq_iff_eq, false_imp_iff, Bool.true_eq_false,
      and_true, true_imp_iff]
    refine ⟨fun h => h.2.2.2, fun h => ?_⟩
    obtain ⟨a, b, c⟩ := h4 (h.elim .inl (.inr ∘ .inl))
    exact ⟨a, b, c, h⟩

theorem amounts_send_ok {s : Subj} {f : Facts} (hs : isSend s.b = true) : amounts s f = .ok () ↔
    ∃ a, s.b.amt = some a ∧ 0 ≤ a ∧ a.natAbs < 2 ^ Gen.AmountMaxBitLen ∧ (0 < a → s.b.tsz = false) ∧ s.b.fbz = true := by
  simp only [amounts, hs, if_true]
  cases s.b.amt with
  | none => simp
  | some a =>
    simp only [firstErr_cons, firstErr_nil, chk_ok, and_true, amountTooBig, Option.some.injEq, exists_eq_left',
      decide_eq_false_iff_not, Bool.and_eq_false_imp, decide_eq_true_eq, Bool.not_eq_false', Int.not_lt, Nat.not_le]

theorem amounts_receive_ok {s : Subj} {f : Facts} (hs : isSend s.b = false) : amounts s f = .ok () ↔
    (s.b.amt = none ∨ s.b.amt = some 0) ∧ s.b.tsz = true ∧ s.b.toz = true ∧ s.b.fbz = false := by
  simp only [amounts, hs, Bool.false_eq_true, if_false, firstErr_cons, firstErr_nil, chk_ok, and_true, Bool.not_eq_false']
  cases s.b.amt <;> simp

theorem powCheck_ok {s : Subj} {f : Facts} : powCheck s f = .ok () ↔ (s.b.diff ≠ 0 → s.b.emb = false ∧ s.pow = true) := by
  simp only [powCheck]
  split <;> simp_all [firstErr_cons, firstErr_nil, chk_ok]

theorem previous_ok {s : Subj} {f : Facts} : previous s f = .ok () ↔
    (s.b.h ≠ 0 ∧ (s.b.h = 1 ↔ s.b.phz = true)) ∧ (s.b.h ≠ 1 → s.b.emb = false → s.sfp = 1) := by
  simp only [previous, firstErr_append, heightChecks_ok, firstErr_cons, firstErr_nil, and_true]
  refine and_congr_right fun _ => ?_
  (repeat' split) <;> simp_all [firstErr_cons, firstErr_nil, chk_ok]

theorem momentumAcknowledged_user_ok {s : Subj} {f : Facts} (he : s.b.emb = false) :
    momentumAcknowledged s f = .ok () ↔ (s.prevZeroHH = false → ∃ p, s.pmah = some p ∧ p ≤ s.b.mah) := by
  simp only [momentumAcknowledged, isBatched, isContractReceive, he, Bool.and_false, Bool.false_eq_true, if_false]
  cases s.prevZeroHH
  · cases s.pmah <;> simp [chk_ok]
  · simp

theorem momentumAcknowledged_contract_ok {s : Subj} {f : Facts} (he : s.b.emb = true) (hr : isReceive s.b = true)
    (hns : isSend s.b = false) (ht : s.top = true) :
    momentumAcknowledged s f = .ok () ↔ (∀ x ∈ s.descMaSame, x = true) ∧ f.fconf = s.b.mah := by
  simp [momentumAcknowledged, isBatched, isContractReceive, he, hr, hns, ht, firstErr_cons, firstErr_nil, chk_ok]

theorem fromHash_ok {s : Subj} {f : Facts} (ht : s.top = true) : fromHash s f = .ok () ↔
    (isSend s.b = false → f.fex = true ∧ (f.gate = true → f.ftome = true) ∧ f.recvd = false) := by
  simp only [fromHash, ht]
  cases isSend s.b
  · have hg : (!f.ftome && f.gate) = false ↔ (f.gate = true → f.ftome = true) := by
      cases f.ftome <;> cases f.gate <;> decide
    simp [firstErr_cons, firstErr_nil, chk_ok, hg]
  · simp

theorem sequencer_ok {s : Subj} {f : Facts} (ht : s.top = true) :
    sequencer s f = .ok () ↔ (s.b.emb = true → isReceive s.b = true → f.seq = 1) := by
  simp only [sequencer, ht, Bool.and_eq_true]
  split
  · next h =>
    -- `seq ≠ 0 ∧ seq = 1` is `seq = 1`
    simp only [Bool.not_true, Bool.false_eq_true, if_false, firstErr_cons, firstErr_nil, chk_ok, and_true,
      beq_eq_false_iff_ne, bne_eq_false_iff_eq, h.1, h.2, true_imp_iff]
    omega
  · next h => exact ⟨fun _ he hr => absurd ⟨he, hr⟩ h, fun _ => rfl⟩

theorem abAll_ok {s : Subj} {f : Facts} : abAll s f = .ok () ↔
    version s f = .ok () ∧ chainIdentifier s f = .ok () ∧ blockType s f = .ok () ∧ amounts s f = .ok () ∧
    powCheck s f = .ok () ∧ previous s f = .ok () ∧ momentumAcknowledged s f = .ok () ∧ fromHash s f = .ok () ∧
    sequencer s f = .ok () := by
  simp only [abAll, allChecks, List.map, firstErr_cons, firstErr_nil, and_true]

theorem txHash_ok {c : Cand} {f : Facts} : txHash c f = .ok () ↔ c.b.hz = false ∧ f.hok = true := by
  simp [txHash, firstErr_cons, firstErr_nil, chk_ok]

theorem txSignature_ok {c : Cand} {f : Facts} : txSignature c f = .ok () ↔
    (c.b.emb = true → c.b.npk = 0 ∧ c.b.nsig = 0) ∧ (c.b.emb = false → c.b.nsig ≠ 0 ∧ c.b.npk ≠ 0 ∧ f.sok = true) := by
  simp only [txSignature]
  cases c.b.emb <;> simp [firstErr_cons, firstErr_nil, chk_ok]

theorem txProducer_ok {c : Cand} {f : Facts} : txProducer c f = .ok () ↔ (c.b.emb = false → f.pka = true) := by
  simp only [txProducer]
  cases c.b.emb <;> simp [chk_ok]

/-- a user block carries no descendants; those of a contract receive are the node's own (see `txDescendantBlocks`) -/
theorem txDescendantBlocks_ok {c : Cand} {f : Facts} :
    txDescendantBlocks c f = .ok () ↔ isContractReceive c.b = true ∨ c.descs = [] := by
  simp only [txDescendantBlocks]
  cases isContractReceive c.b
  · cases c.descs <;> simp [firstErr_cons, firstErr_nil, chk_ok]
  · simp

theorem enoughPlasma_ok {b : Blk} {f : Facts} : enoughPlasma b f = .ok () ↔
    (b.emb = false → ∃ avail base, f.avail = some avail ∧ basePlasma b f = some base ∧
      b.fp ≤ avail ∧ (Pow.difficultyToPlasma b.diff + b.fp) % two64 ≤ Gen.MaxPlasmaForAccountBlock ∧
      base ≤ (Pow.difficultyToPlasma b.diff + b.fp) % two64) := by
  simp only [enoughPlasma]
  cases b.emb
  · cases f.avail <;> cases basePlasma b f <;> simp [firstErr_cons, firstErr_nil, chk_ok]
  · simp

theorem applySend_ok {b : Blk} {f : Facts} : applySend b f = .ok () ↔
    (b.toemb = true → (∃ p, f.mplasma = some p) ∧ f.vsend = true) ∧ insufficientFunds b f = false := by
  simp only [applySend, firstErr_cons, firstErr_nil, chk_ok, and_true]
  cases b.toemb <;> cases f.mplasma <;> simp [chk_ok]
/-- `Supervisor.ApplyBlock` accepts iff every stage does (the `ContractSend` test is repeated by both verifier entries) -/
theorem verifyBlock_ok {c : Cand} {f : Facts} : verifyBlock c f = .ok () ↔
    c.b.bt ≠ Gen.BlockTypeContractSend ∧ getContext c f = .ok () ∧ abAll (c.subj f) f = .ok () ∧
    vmApplyBlock c f = .ok () ∧ getContext2 c f = .ok () ∧
    txHash c f = .ok () ∧ txSignature c f = .ok () ∧ txProducer c f = .ok () ∧ txDescendantBlocks c f = .ok () := by
  simp only [verifyBlock, supervisorStages, verifyAccountBlock, verifyTransaction, txChecks, List.map, firstErr_cons,
    firstErr_nil, chk_ok, and_true, true_and, beq_eq_false_iff_ne]
  constructor
  · rintro ⟨h0, ⟨-, h1, h2⟩, h3, -, h4, h5⟩; exact ⟨h0, h1, h2, h3, h4, h5⟩
  · rintro ⟨h0, h1, h2, h3, h4, h5⟩; exact ⟨h0, ⟨h0, h1, h2⟩, h3, h0, h4, h5⟩

/-- `VM.applyBlock` by block type: plasma, then the type's own step -/
theorem vmApplyBlock_ok {c : Cand} {f : Facts} : vmApplyBlock c f = .ok () ↔ enoughPlasma c.b f = .ok () ∧
    ((c.b.bt = Gen.BlockTypeUserSend ∨ c.b.bt = Gen.BlockTypeContractSend) ∧ applySend c.b f = .ok () ∨
     c.b.bt = Gen.BlockTypeUserReceive ∨
     c.b.bt = Gen.BlockTypeContractReceive ∧ f.regen = some (true, true)) := by
  simp only [vmApplyBlock, firstErr_cons, firstErr_nil, and_true, Bool.or_eq_true, beq_iff_eq]
  refine and_congr_right fun _ => ?_
  by_cases h1 : c.b.bt = Gen.BlockTypeUserSend ∨ c.b.bt = Gen.BlockTypeContractSend
  · have : c.b.bt ≠ Gen.BlockTypeUserReceive ∧ c.b.bt ≠ Gen.BlockTypeContractReceive := by
      rcases h1 with h | h <;> rw [h] <;> decide
    simp only [h1, if_true, this.1, this.2, false_and, or_false, true_and]
  · rw [if_neg h1]
    by_cases h2 : c.b.bt = Gen.BlockTypeUserReceive
    · rw [if_pos h2]; exact ⟨fun _ => Or.inr (Or.inl h2), fun _ => rfl⟩
    · rw [if_neg h2]
      by_cases h3 : c.b.bt = Gen.BlockTypeContractReceive
      · rw [if_pos h3]
        constructor
        · intro h
          refine Or.inr (Or.inr ⟨h3, ?_⟩)
          rcases hreg : f.regen with _ | ⟨a, b⟩
          · rw [hreg] at h; cases h
          · rw [hreg] at h; cases a <;> cases b <;> simp [firstErr, chk] at h ⊢
        · rintro (h | h | ⟨-, h⟩)
          · exact absurd h.1 h1
          · exact absurd h h2
          · rw [h]; rfl
      · rw [if_neg h3]
        constructor
        · intro h; cases h
        · rintro (h | h | h)
          · exact absurd h.1 h1
          · exact absurd h h2
          · exact absurd h.1 h3
end ZV.Verify
