import ZenonVerif.Lemmas.CodecPB
/-
Helper lemmas for C13: the protobuf decoder reads back what the encoder wrote.
-/
namespace ZV.Codec
open ZV

/-! ### records that fit: the encoded list is shorter than 2^64 bytes (true of every Go slice) -/

def Fits (fs : List WField) : Prop := (encFields fs).length < two64

/-- what remains to be checked of `WField.Valid` once the lengths are known to fit -/
def WField.Shape (f : WField) : Prop :=
  1 ≤ f.num ∧ f.num ≤ maxFieldNumber ∧
  match f.val with
  | .varint v => v < two64
  | .len _ => True
  | .fixed wt b => (wt = 1 ∧ b.length = 8) ∨ (wt = 5 ∧ b.length = 4)

theorem len_lt_encField (k : Nat) (b : Bytes) : b.length < (encField ⟨k, .len b⟩).length := by
  have := List.length_pos_iff.mpr (varint_ne_nil (k * 8 + 2))
  simp only [encField, tag, List.length_append]
  omega

/-- a length-delimited record is shorter than any record list that contains it -/
theorem len_lt_of_mem (fs : List WField) (k : Nat) (b : Bytes) (h : ⟨k, .len b⟩ ∈ fs) :
    b.length < (encFields fs).length := by
  obtain ⟨s, t, rfl⟩ := List.append_of_mem h
  have := len_lt_encField k b
  simp only [encFields_append, encFields_cons, List.length_append]
  omega

theorem valid_of_fits (fs : List WField) (hfit : Fits fs) (hs : ∀ f ∈ fs, f.Shape) : ∀ f ∈ fs, f.Valid := by
  intro f hf
  obtain ⟨h1, h2, h3⟩ := hs f hf
  refine ⟨h1, h2, ?_⟩
  obtain ⟨k, v⟩ := f
  cases v with
  | varint v => exact h3
  | len b =>
    have := len_lt_of_mem fs k b hf
    simp only [Fits] at hfit
    simp only; omega
  | fixed wt b => exact h3

theorem parse_of_fits (fs : List WField) (hfit : Fits fs) (hs : ∀ f ∈ fs, f.Shape) :
    parseFields (encFields fs) = some fs :=
  parseFields_encFields fs (valid_of_fits fs hfit hs)

theorem fits_of_mem (fs : List WField) (hfit : Fits fs) (k : Nat) (r : List WField)
    (h : ⟨k, .len (encFields r)⟩ ∈ fs) : Fits r := by
  have := len_lt_of_mem fs k _ h
  simp only [Fits] at *; omega

/-! ### shapes of the pieces -/

def numOK (k : Nat) : Prop := 1 ≤ k ∧ k ≤ maxFieldNumber

instance (k : Nat) : Decidable (numOK k) := by unfold numOK; infer_instance

theorem shape_fBytes (k : Nat) (b : Bytes) (hk : numOK k) : ∀ f ∈ fBytes k b, f.Shape := by
  intro f hf
  unfold fBytes at hf
  split at hf
  · simp at hf
  · simp only [List.mem_singleton] at hf; subst hf; exact ⟨hk.1, hk.2, trivial⟩

/-! ### message layouts

A message is given by its fields in number order, each a `Slot`; what a query of the decoder finds under field number `k`
is what the slots numbered `k` contribute, and for a concrete message `slotsAt k` is a lookup that evaluates. -/

/-- what a proto3 encoder emits for one field of a message -/
inductive Slot where
  /-- scalar without presence: omitted when zero -/
  | varint (v : Nat)
  /-- `fixed32` scalar without presence: wire type 5, four bytes little endian, omitted when zero (the messages of the
      consensus store, Lemmas/ConsensusStore.lean, have such fields; those of this file have none) -/
  | fixed32 (v : Nat)
  /-- `bytes` / `string` without presence: omitted when empty -/
  | bytes (b : Bytes)
  /-- singular message: emitted iff the pointer is not nil -/
  | msg (m : Option (List WField))
  /-- repeated length-delimited field: one record per element -/
  | rep (bs : List Bytes)

def Slot.fields (k : Nat) : Slot → List WField
  | .varint v => fVarint k v
  | .fixed32 v => if v = 0 then [] else [⟨k, .fixed 5 (leBytes 4 v)⟩]
  | .bytes b => fBytes k b
  | .msg m => fMsg k m
  | .rep bs => bs.map fun b => ⟨k, .len b⟩

def layout (l : List (Nat × Slot)) : List WField := l.flatMap fun p => p.2.fields p.1

def slotsAt (k : Nat) (l : List (Nat × Slot)) : List Slot := (l.filter (·.1 == k)).map (·.2)

def Slot.Shape : Slot → Prop
  | .varint v => v < two64
  | _ => True

/-- the records of field `k` whose value a selector accepts: the common form of `lensOf`, `varintsOf` and the like -/
def pick {α : Type} (sel : WVal → Option α) (k : Nat) (fs : List WField) : List α :=
  fs.filterMap fun f => if f.num = k then sel f.val else none

theorem lensOf_eq_pick (k : Nat) (fs : List WField) :
    lensOf k fs = pick (fun v => match v with | .len b => some b | _ => none) k fs := rfl

theorem varintsOf_eq_pick (k : Nat) (fs : List WField) :
    varintsOf k fs = pick (fun v => match v with | .varint n => some n | _ => none) k fs := rfl

theorem num_fields {k : Nat} {s : Slot} {f : WField} (h : f ∈ s.fields k) : f.num = k := by
  cases s with
  | varint v => simp only [Slot.fields, fVarint] at h; split at h <;> simp_all
  | fixed32 v => simp only [Slot.fields] at h; split at h <;> simp_all
  | bytes b => simp only [Slot.fields, fBytes] at h; split at h <;> simp_all
  | msg m => cases m <;> simp_all [Slot.fields, fMsg]
  | rep bs => obtain ⟨b, _, rfl⟩ := List.mem_map.mp h; rfl

theorem pick_of_num {α : Type} (sel : WVal → Option α) (k j : Nat) : ∀ fs : List WField, (∀ f ∈ fs, f.num = j) →
    pick sel k fs = if j = k then fs.filterMap (sel ·.val) else []
  | [], _ => by simp [pick]
  | f :: fs, h => by
    have ih := pick_of_num sel k j fs fun g hg => h g (List.mem_cons_of_mem _ hg)
    simp only [pick, List.filterMap_cons, h f List.mem_cons_self] at ih ⊢
    by_cases hjk : j = k <;> simp_all

/-- a query for field `k` sees the slots numbered `k` and nothing else -/
theorem pick_layout {α : Type} (sel : WVal → Option α) (k : Nat) (l : List (Nat × Slot)) :
    pick sel k (layout l) = (slotsAt k l).flatMap fun s => (s.fields k).filterMap (sel ·.val) := by
  induction l with
  | nil => rfl
  | cons p l ih =>
    rw [layout, List.flatMap_cons, pick, List.filterMap_append, ← pick, ← pick, ← layout, ih,
      pick_of_num sel k p.1 _ fun f => num_fields, slotsAt, slotsAt, List.filter_cons]
    by_cases h : p.1 = k <;> simp [h]

theorem mem_layout {l : List (Nat × Slot)} {k : Nat} {s : Slot} (h : slotsAt k l = [s]) {f : WField}
    (hf : f ∈ s.fields k) : f ∈ layout l := by
  have hs : s ∈ slotsAt k l := by rw [h]; exact List.mem_singleton_self s
  simp only [slotsAt, List.mem_map, List.mem_filter, beq_iff_eq] at hs
  obtain ⟨p, ⟨hp, rfl⟩, rfl⟩ := hs
  exact List.mem_flatMap.mpr ⟨p, hp, hf⟩

theorem layout_shape {l : List (Nat × Slot)} (hn : (l.all fun p => decide (numOK p.1)) = true) (h : ∀ p ∈ l, p.2.Shape) :
    ∀ f ∈ layout l, f.Shape := by
  intro f hf
  obtain ⟨⟨k, s⟩, hp, hf⟩ := List.mem_flatMap.mp hf
  have hk : numOK k := of_decide_eq_true (List.all_eq_true.mp hn _ hp)
  have hs := h _ hp
  cases s with
  | varint v =>
    simp only [Slot.fields, fVarint] at hf
    split at hf
    · cases hf
    · cases List.mem_singleton.mp hf; exact ⟨hk.1, hk.2, hs⟩
  | fixed32 v =>
    simp only [Slot.fields] at hf
    split at hf
    · cases hf
    · cases List.mem_singleton.mp hf; exact ⟨hk.1, hk.2, Or.inr ⟨rfl, leBytes_length 4 v⟩⟩
  | bytes b => exact shape_fBytes k b hk f hf
  | msg m =>
    cases m with
    | none => cases hf
    | some r => cases List.mem_singleton.mp hf; exact ⟨hk.1, hk.2, trivial⟩
  | rep bs =>
    obtain ⟨b, _, rfl⟩ := List.mem_map.mp hf
    exact ⟨hk.1, hk.2, trivial⟩

theorem getVarint_of (k : Nat) (fs : List WField) (v : Nat) (h : varintsOf k fs = if v = 0 then [] else [v]) :
    getVarint k fs = v := by
  unfold getVarint; rw [h]; split <;> simp_all

theorem getBytes_of (k : Nat) (fs : List WField) (b : Bytes) (h : lensOf k fs = if b.isEmpty then [] else [b]) :
    getBytes k fs = b := by
  unfold getBytes; rw [h]
  split
  · next hb => simp at hb; simp [hb]
  · simp

theorem getVarint_layout {l : List (Nat × Slot)} {k v : Nat} (h : slotsAt k l = [.varint v]) :
    getVarint k (layout l) = v :=
  getVarint_of k _ v (by
    rw [varintsOf_eq_pick, pick_layout, h]; by_cases hv : v = 0 <;> simp [Slot.fields, fVarint, hv])

theorem getBytes_layout {l : List (Nat × Slot)} {k : Nat} {b : Bytes} (h : slotsAt k l = [.bytes b]) :
    getBytes k (layout l) = b :=
  getBytes_of k _ b (by
    rw [lensOf_eq_pick, pick_layout, h]; by_cases hb : b = [] <;> simp [Slot.fields, fBytes, hb])

theorem lensOf_layout_rep {l : List (Nat × Slot)} {k : Nat} {bs : List Bytes} (h : slotsAt k l = [.rep bs]) :
    lensOf k (layout l) = bs := by
  rw [lensOf_eq_pick, pick_layout, h]; simp [Slot.fields, List.filterMap_map, Function.comp_def]

/-- a singular message field of a fitting layout is read back when its own records have the right shape -/
theorem getMsg_layout {l : List (Nat × Slot)} {k : Nat} {m : Option (List WField)} (hfit : Fits (layout l))
    (h : slotsAt k l = [.msg m]) (hs : ∀ r, m = some r → ∀ f ∈ r, f.Shape) : getMsg k (layout l) = some m := by
  have hl : lensOf k (layout l) = (m.map encFields).toList := by
    rw [lensOf_eq_pick, pick_layout, h]; cases m <;> simp [Slot.fields, fMsg]
  unfold getMsg
  rw [hl]
  cases m with
  | none => rfl
  | some r =>
    have hp := parse_of_fits r (fits_of_mem _ hfit k r (mem_layout h (List.mem_singleton_self _))) (hs r rfl)
    simp [parseAll, hp]

theorem listMapM_map {α β : Type} (g : α → Option β) (e : β → α) (l : List β) (h : ∀ x ∈ l, g (e x) = some x) :
    listMapM g (l.map e) = some l := by
  induction l with
  | nil => rfl
  | cons x xs ih =>
    obtain ⟨hx, hxs⟩ := List.forall_mem_cons.1 h
    simp only [List.map_cons, listMapM, hx, ih hxs]
    rfl

/-! ### `HashProto` / `AddressProto` -/

theorem bytesMsgOf_fields (h : Bytes) : bytesMsgOf (bytesMsgFields h) = h :=
  getBytes_of 1 _ h (by by_cases hb : h = [] <;> simp [bytesMsgFields, fBytes, lensOf, hb])

theorem map_bytesMsgOf (m : Option Bytes) : (m.map bytesMsgFields).map bytesMsgOf = m := by
  cases m <;> simp [bytesMsgOf_fields]

/-- an optional `HashProto`/`AddressProto` field `k` of a fitting layout is read back -/
theorem getMsg_bytesMsg {l : List (Nat × Slot)} {k : Nat} {m : Option Bytes} (hfit : Fits (layout l))
    (h : slotsAt k l = [.msg (m.map bytesMsgFields)]) : getMsg k (layout l) = some (m.map bytesMsgFields) :=
  getMsg_layout hfit h fun r hr => by
    obtain ⟨b, _, rfl⟩ := Option.map_eq_some_iff.mp hr
    exact shape_fBytes 1 b (by decide)

/-! ### `HashHeightProto` -/

def hashHeightLayout (p : HashHeightPB) : List (Nat × Slot) := [(1, .msg (p.hash.map bytesMsgFields)), (2, .varint p.height)]

theorem hashHeightFields_eq (p : HashHeightPB) : hashHeightFields p = layout (hashHeightLayout p) := by
  simp [hashHeightFields, layout, hashHeightLayout, Slot.fields]

theorem hashHeight_shape (p : HashHeightPB) (hn : p.height < two64) : ∀ f ∈ hashHeightFields p, f.Shape := by
  rw [hashHeightFields_eq]
  exact layout_shape rfl (by simp [hashHeightLayout, Slot.Shape, hn])

theorem hashHeightOf_fields (p : HashHeightPB) (hfit : Fits (hashHeightFields p)) :
    hashHeightOf (hashHeightFields p) = some p := by
  rw [hashHeightFields_eq] at hfit ⊢
  simp only [hashHeightOf, getMsg_bytesMsg (m := p.hash) (k := 1) hfit rfl, getVarint_layout (l := hashHeightLayout p) (k := 2) rfl,
    Option.bind_eq_bind, Option.bind_some, map_bytesMsgOf]
  rfl

/-- an optional `HashHeightProto` field -/
theorem getMsg_hashHeight {l : List (Nat × Slot)} {k : Nat} {m : Option HashHeightPB} (hfit : Fits (layout l))
    (hn : ∀ p, m = some p → p.height < two64) (h : slotsAt k l = [.msg (m.map hashHeightFields)]) :
    (getMsg k (layout l)).bind (optMapM hashHeightOf) = some m := by
  rw [getMsg_layout hfit h fun r hr => by
    obtain ⟨p, rfl, rfl⟩ := Option.map_eq_some_iff.mp hr
    exact hashHeight_shape p (hn p rfl)]
  cases m with
  | none => rfl
  | some p =>
    simp only [Option.map_some, Option.bind_some, optMapM]
    rw [hashHeightOf_fields p (fits_of_mem _ hfit k _ (mem_layout h (List.mem_singleton_self _)))]
    rfl

/-! ### `AccountHeaderProto` -/

def accountHeaderLayout (p : AccountHeaderPB) : List (Nat × Slot) :=
  [(1, .msg (p.address.map bytesMsgFields)), (2, .msg (p.hashHeight.map hashHeightFields))]

theorem accountHeaderFields_eq (p : AccountHeaderPB) : accountHeaderFields p = layout (accountHeaderLayout p) := by
  simp [accountHeaderFields, layout, accountHeaderLayout, Slot.fields]

theorem accountHeader_shape (p : AccountHeaderPB) : ∀ f ∈ accountHeaderFields p, f.Shape := by
  rw [accountHeaderFields_eq]
  exact layout_shape rfl (by simp [accountHeaderLayout, Slot.Shape])

theorem accountHeaderOf_fields (p : AccountHeaderPB) (hn : p.NatsOK) (hfit : Fits (accountHeaderFields p)) :
    accountHeaderOf (accountHeaderFields p) = some p := by
  rw [accountHeaderFields_eq] at hfit ⊢
  obtain ⟨g, hg, h2⟩ := Option.bind_eq_some_iff.mp (getMsg_hashHeight (m := p.hashHeight) hfit hn (k := 2) rfl)
  simp only [accountHeaderOf, getMsg_bytesMsg (m := p.address) (k := 1) hfit rfl, hg, h2, Option.bind_eq_bind, Option.bind_some,
    map_bytesMsgOf]
  rfl

/-! ### `MomentumProto` -/

def contentRecs (c : List AccountHeaderPB) : List WField :=
  c.map (fun h => ⟨8, .len (encFields (accountHeaderFields h))⟩)

theorem momentumFields_eq (p : MomentumPB) : momentumFields p =
    fVarint 1 p.version ++ fVarint 2 p.chainIdentifier ++ fMsg 3 (p.hash.map bytesMsgFields) ++
    fMsg 4 (p.previousHash.map bytesMsgFields) ++ fVarint 5 p.height ++ fVarint 6 p.timestamp ++ fBytes 7 p.data ++
    contentRecs p.content ++
    fMsg 9 (p.changesHash.map bytesMsgFields) ++ fBytes 10 p.publicKey ++ fBytes 11 p.signature := rfl

def momentumLayout (p : MomentumPB) : List (Nat × Slot) := [
  (1, .varint p.version), (2, .varint p.chainIdentifier), (3, .msg (p.hash.map bytesMsgFields)),
  (4, .msg (p.previousHash.map bytesMsgFields)), (5, .varint p.height), (6, .varint p.timestamp), (7, .bytes p.data),
  (8, .rep (p.content.map fun h => encFields (accountHeaderFields h))), (9, .msg (p.changesHash.map bytesMsgFields)),
  (10, .bytes p.publicKey), (11, .bytes p.signature)]

theorem momentumFields_layout (p : MomentumPB) : momentumFields p = layout (momentumLayout p) := by
  simp [momentumFields, layout, momentumLayout, Slot.fields]

theorem momentum_shape (p : MomentumPB) (hn : p.NatsOK) : ∀ f ∈ momentumFields p, f.Shape := by
  obtain ⟨h1, h2, h3, h4, _⟩ := hn
  rw [momentumFields_layout]
  apply layout_shape rfl
  simp only [momentumLayout, List.forall_mem_cons, Slot.Shape, true_and, List.not_mem_nil, false_imp_iff, implies_true,
    and_true]
  exact ⟨h1, h2, h3, h4⟩

theorem momentumOf_fields (p : MomentumPB) (hn : p.NatsOK) (hfit : Fits (momentumFields p)) :
    momentumOf (momentumFields p) = some p := by
  obtain ⟨_, _, _, _, hc⟩ := hn
  rw [momentumFields_layout] at hfit ⊢
  have gv {k v} := @getVarint_layout (momentumLayout p) k v
  have gb {k b} := @getBytes_layout (momentumLayout p) k b
  have gm {k m} := @getMsg_bytesMsg (momentumLayout p) k m hfit
  have c8 : listMapM (fun b => (parseFields b).bind accountHeaderOf) (lensOf 8 (layout (momentumLayout p))) =
      some p.content := by
    rw [lensOf_layout_rep (l := momentumLayout p) (k := 8) rfl]
    apply listMapM_map
    intro x hx
    have hf := fits_of_mem _ hfit 8 _
      (mem_layout (l := momentumLayout p) (k := 8) rfl (List.mem_map_of_mem (List.mem_map_of_mem hx)))
    rw [parse_of_fits _ hf (accountHeader_shape x)]
    exact accountHeaderOf_fields x (hc x hx) hf
  simp only [momentumOf, c8, gm (k := 3) rfl, gm (k := 4) rfl, gm (k := 9) rfl, gv (k := 1) rfl, gv (k := 2) rfl,
    gv (k := 5) rfl, gv (k := 6) rfl, gb (k := 7) rfl, gb (k := 10) rfl, gb (k := 11) rfl, Option.bind_eq_bind,
    Option.bind_some, map_bytesMsgOf]
  rfl

theorem decMomentumPB_enc (p : MomentumPB) (hn : p.NatsOK) (hfit : (encMomentumPB p).length < two64) :
    decMomentumPB (encMomentumPB p) = some p := by
  have hf : Fits (momentumFields p) := hfit
  simp only [decMomentumPB, encMomentumPB, parse_of_fits _ hf (momentum_shape p hn), Option.bind_some]
  exact momentumOf_fields p hn hf

/-! ### `AccountBlockProto` -/

theorem descFields_eq : ∀ ds : List BlockPB, descFields ds = (ds.map encBlockPB).map fun b => ⟨13, .len b⟩
  | [] => by rw [descFields]; rfl
  | d :: ds => by rw [descFields, descFields_eq ds]; rfl

def blockLayout (body : ABodyPB) (ds : List BlockPB) : List (Nat × Slot) := [
  (1, .varint body.version), (2, .varint body.chainIdentifier), (3, .varint body.blockType),
  (4, .msg (body.hash.map bytesMsgFields)), (5, .msg (body.previousHash.map bytesMsgFields)), (6, .varint body.height),
  (7, .msg (body.momentumAcknowledged.map hashHeightFields)), (8, .msg (body.address.map bytesMsgFields)),
  (9, .msg (body.toAddress.map bytesMsgFields)), (10, .bytes body.amount), (11, .bytes body.tokenStandard),
  (12, .msg (body.fromBlockHash.map bytesMsgFields)), (13, .rep (ds.map encBlockPB)), (14, .bytes body.data),
  (15, .varint body.fusedPlasma), (17, .varint body.difficulty), (18, .bytes body.nonce), (19, .varint body.basePlasma),
  (20, .varint body.totalPlasma), (21, .msg (body.changesHash.map bytesMsgFields)), (22, .bytes body.publicKey),
  (23, .bytes body.signature)]

theorem blockFields_eq (body : ABodyPB) (ds : List BlockPB) : blockFields ⟨body, ds⟩ = layout (blockLayout body ds) := by
  rw [blockFields, descFields_eq]
  simp [abHeadFields, abTailFields, layout, blockLayout, Slot.fields]

theorem block_shape (p : BlockPB) (hn : p.NatsOK) : ∀ f ∈ blockFields p, f.Shape := by
  obtain ⟨body, ds⟩ := p
  rw [BlockPB.NatsOK] at hn
  obtain ⟨⟨h1, h2, h3, h4, h5, h6, h7, h8, _⟩, _⟩ := hn
  rw [blockFields_eq]
  apply layout_shape rfl
  simp only [blockLayout, List.forall_mem_cons, Slot.Shape, true_and, List.not_mem_nil, false_imp_iff, implies_true,
    and_true]
  exact ⟨h1, h2, h3, h4, h5, h6, h7, h8⟩

theorem aBodyOf_fields (body : ABodyPB) (ds : List BlockPB) (hn : body.NatsOK)
    (hfit : Fits (blockFields ⟨body, ds⟩)) : aBodyOf (blockFields ⟨body, ds⟩) = some body := by
  obtain ⟨_, _, _, _, _, _, _, _, hma⟩ := hn
  rw [blockFields_eq] at hfit ⊢
  have gv {k v} := @getVarint_layout (blockLayout body ds) k v
  have gb {k b} := @getBytes_layout (blockLayout body ds) k b
  have gm {k m} := @getMsg_bytesMsg (blockLayout body ds) k m hfit
  obtain ⟨g, hg, g7⟩ := Option.bind_eq_some_iff.mp
    (getMsg_hashHeight (m := body.momentumAcknowledged) hfit hma (k := 7) rfl)
  simp only [aBodyOf, hg, g7, gm (k := 4) rfl, gm (k := 5) rfl, gm (k := 8) rfl, gm (k := 9) rfl, gm (k := 12) rfl,
    gm (k := 21) rfl, gv (k := 1) rfl, gv (k := 2) rfl, gv (k := 3) rfl, gv (k := 6) rfl, gv (k := 15) rfl,
    gv (k := 17) rfl, gv (k := 19) rfl, gv (k := 20) rfl, gb (k := 10) rfl, gb (k := 11) rfl, gb (k := 14) rfl,
    gb (k := 18) rfl, gb (k := 22) rfl, gb (k := 23) rfl,
    Option.bind_eq_bind, Option.bind_some, map_bytesMsgOf]
  rfl

theorem natsOKList_mem (ds : List BlockPB) (h : NatsOKList ds) : ∀ d ∈ ds, d.NatsOK := by
  induction ds with
  | nil => nofun
  | cons x xs ih =>
    rw [NatsOKList] at h
    exact List.forall_mem_cons.2 ⟨h.1, ih h.2⟩

theorem blockOf_fields (p : BlockPB) : ∀ f, p.NatsOK → Fits (blockFields p) →
    (encFields (blockFields p)).length < f → blockOf f (blockFields p) = some p := by
  induction p using BlockPB.rec (motive_2 := fun ds => ∀ d ∈ ds, ∀ f, d.NatsOK → Fits (blockFields d) →
      (encFields (blockFields d)).length < f → blockOf f (blockFields d) = some d) with
  | mk body ds ih =>
    intro f hn hfit hlen
    cases f with
    | zero => omega
    | succ f =>
      rw [BlockPB.NatsOK] at hn
      rw [blockOf, aBodyOf_fields body ds hn.1 hfit]
      have hl : lensOf 13 (blockFields ⟨body, ds⟩) = ds.map encBlockPB := by
        rw [blockFields_eq, lensOf_layout_rep (l := blockLayout body ds) (k := 13) rfl]
      rw [hl]
      have hds : listMapM (fun b => (parseFields b).bind (blockOf f)) (ds.map encBlockPB) = some ds := by
        apply listMapM_map
        intro d hd
        have hmem : ⟨13, .len (encFields (blockFields d))⟩ ∈ blockFields ⟨body, ds⟩ := by
          rw [blockFields_eq]
          exact mem_layout (l := blockLayout body ds) (k := 13) rfl (List.mem_map_of_mem (List.mem_map_of_mem hd))
        have hdn := natsOKList_mem ds hn.2 d hd
        have hdf : Fits (blockFields d) := fits_of_mem _ hfit 13 _ hmem
        have hdl := len_lt_of_mem _ 13 _ hmem
        rw [encBlockPB, parse_of_fits _ hdf (block_shape d hdn)]
        exact ih d hd f hdn hdf (by omega)
      simp only [hds, Option.bind_eq_bind, Option.bind_some]
      rfl
  | nil =>
    rename_i hd _ _ _ _
    cases hd
  | cons d ds ihd ihds =>
    rename_i x hx f hn hfit hlen
    rcases List.mem_cons.mp hx with rfl | hx
    · exact ihd f hn hfit hlen
    · exact ihds x hx f hn hfit hlen

theorem decBlockPB_enc (p : BlockPB) (hn : p.NatsOK) (hfit : (encBlockPB p).length < two64) :
    decBlockPB (encBlockPB p) = some p := by
  have hf : Fits (blockFields p) := hfit
  simp only [decBlockPB, encBlockPB, parse_of_fits _ hf (block_shape p hn), Option.bind_some]
  exact blockOf_fields p _ hn hf (by omega)

end ZV.Codec
