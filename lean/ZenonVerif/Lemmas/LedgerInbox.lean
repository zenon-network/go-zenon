import ZenonVerif.Lemmas.LedgerFifo
/-
Contract receives (C09): balance delta of the contract, progress of the inbox, the refund path cannot fail.
-/
namespace ZV.Ledger

variable {s s' s0 s1 s2 : State} {e : Ev} {c a : Addr} {h : Hash} {st : Nat} {ds : List Desc}
  {snd nxt x : Send} {out : TokOutcome} {t n : Tok} {toks : List (Tok × TokInfo)} {d : Desc}

theorem getBal_recvCore (s : State) (a : Addr) (h : Hash) (snd : Send) (a' : Addr) (t : Tok) :
    getBal (recvCore s a h snd).bal a' t = getBal s.bal a' t + (if a = a' ∧ snd.tok = t then snd.amt else 0) :=
  getBal_credit s a snd.tok snd.amt a' t

/-- mint then guarded burn, seen from any account -/
theorem getBal_tokApply (s1 : State) (c : Addr) (out : TokOutcome)
    (hburn : out.burn ≤ getBal (tokMint s1 c out).bal c out.mintTok) (a : Addr) (t : Tok) :
    getBal (tokApply s1 c out).bal a t + (if c = a ∧ out.mintTok = t then out.burn else 0)
      = getBal s1.bal a t + (if c = a ∧ out.mintTok = t then out.mint else 0) := by
  have h1 : getBal (tokMint s1 c out).bal a t = _ := getBal_credit s1 c out.mintTok out.mint a t
  have h2 := getBal_debit (tokMint s1 c out) c out.mintTok out.burn a t hburn
  rw [h1] at h2
  exact h2

/-- the descendants are debited from `c` alone -/
theorem getBal_applyDescs {c : Addr} : ∀ {ds : List Desc} {s s' : State}, applyDescs s c ds = .ok s' →
    ∀ a t, getBal s'.bal a t + (if c = a then descSum ds t else 0) = getBal s.bal a t
  | [], s, s', hok, a, t => by
    simp only [applyDescs] at hok; cases hok; simp [descSum]
  | d :: ds, s, s', hok, a, t => by
    obtain ⟨_, hle, h2⟩ := applyDescs_cons_ok hok
    have ih := getBal_applyDescs h2 a t
    have h3 : getBal (pushSend s (mkSend c d)).bal a t + _ = _ :=
      getBal_debit s c d.tok d.amt a t hle
    simp only [descSum, List.map_cons, List.sum_cons] at ih ⊢
    by_cases hca : c = a
    · subst hca
      by_cases hdt : d.tok = t
      · subst hdt; simp only [and_self, if_true] at ih h3 ⊢; omega
      · simp only [hdt, and_false, if_true, if_false] at ih h3 ⊢; omega
    · simp only [hca, false_and, if_false] at ih h3 ⊢; omega

theorem descSum_refund (h : descShape ds = refundOf snd) (t : Tok) :
    descSum ds t = if snd.tok = t then snd.amt else 0 := by
  unfold refundOf at h
  split at h
  · cases ds with
    | nil => simp [descShape] at h
    | cons d r =>
      cases r with
      | nil =>
        simp only [descShape, List.map_cons, List.map_nil, List.cons.injEq, Prod.mk.injEq, and_true] at h
        obtain ⟨_, h2, h3⟩ := h
        simp [descSum, h2, h3]
      | cons d2 r2 => simp [descShape] at h
  · rename_i hz
    have : snd.amt = 0 := by omega
    cases ds with
    | nil => simp [descSum, this]
    | cons d r => simp [descShape] at h

/-- plain shape: the contract's balance of every token moves by + received − Σ descendants (no truncation: stated
    with additions only); nobody else's balance moves -/
theorem balance_plain
    (hds : applyDescs (recvCore s c h snd) c ds = .ok s') :
    (∀ t, getBal s'.bal c t + descSum ds t = getBal s.bal c t + (if snd.tok = t then snd.amt else 0)) ∧
    (∀ a, a ≠ c → ∀ t, getBal s'.bal a t = getBal s.bal a t) := by
  constructor
  · intro t
    have h1 := getBal_applyDescs hds c t
    have h2 := getBal_recvCore s c h snd c t
    simp only [if_true, true_and] at h1 h2
    omega
  · intro a ha t
    have h1 := getBal_applyDescs hds a t
    have h2 := getBal_recvCore s c h snd a t
    simp only [Ne.symm ha, if_false, false_and] at h1 h2
    omega

/-- token-applied shape: additionally + minted − burned of `out.mintTok` -/
theorem balance_token
    (hburn : out.burn ≤ getBal (tokMint (recvCore s c h snd) c out).bal c out.mintTok)
    (hds : applyDescs (tokApply (recvCore s c h snd) c out) c ds = .ok s') :
    (∀ t, getBal s'.bal c t + descSum ds t + (if out.mintTok = t then out.burn else 0)
        = getBal s.bal c t + (if snd.tok = t then snd.amt else 0) + (if out.mintTok = t then out.mint else 0)) ∧
    (∀ a, a ≠ c → ∀ t, getBal s'.bal a t = getBal s.bal a t) := by
  constructor
  · intro t
    have h1 := getBal_applyDescs hds c t
    have h2 := getBal_recvCore s c h snd c t
    have h3 := getBal_tokApply _ c out hburn c t
    simp only [if_true, true_and] at h1 h2 h3
    omega
  · intro a ha t
    have h1 := getBal_applyDescs hds a t
    have h2 := getBal_recvCore s c h snd a t
    have h3 := getBal_tokApply _ c out hburn a t
    simp only [Ne.symm ha, if_false, false_and] at h1 h2 h3
    omega

/-- what is next in line passes the `fromHash` checks (distinct hashes: it is *the* send with that hash) -/
theorem nextInLine_checkFrom (hw : WF s) (hnext : nextInLine s c = some nxt) :
    checkFrom s c nxt.hash = .ok nxt := by
  obtain ⟨hmem, hdst, hnot⟩ := nextInLine_spec hnext
  exact checkFrom_ok.2 ⟨findSend_of_mem hw.sendHashes hmem, fun _ => hdst, hnot⟩

theorem filter_hash_ne_of_nodup {l : List Send} (hnd : ((x :: l).map (·.hash)).Nodup) :
    l.filter (fun y => !(y.hash == x.hash)) = l := by
  rw [List.filter_eq_self]
  intro y hy
  simp only [List.map_cons, List.nodup_cons] at hnd
  simp only [Bool.not_eq_true', beq_eq_false_iff_ne, ne_eq]
  intro he
  exact hnd.1 (he ▸ List.mem_map.2 ⟨y, hy, rfl⟩)

/-- after an accepted receive of `h` by `c` the pending queue of `c` is the old one without its head (which was `h`),
    followed by whatever the receive's own descendants address to `c` -/
theorem pending_advances
    (hw : WF s) (hf : Fresh s (.crecv c h st ds)) (hok : crecv s c h st ds = .ok s') :
    (∃ nxt tl, pendingFor s c = nxt :: tl ∧ nxt.hash = h) ∧
    pendingFor s' c = (pendingFor s c).tail ++ (ds.map (mkSend c)).filter (fun x => x.dst == c) := by
  obtain ⟨_, (hsends : s'.sends = s.sends ++ ds.map (mkSend c)), hrecv⟩ := step_frame (e := .crecv c h st ds) hok
  obtain ⟨nxt, hnext, rfl⟩ := crecv_next hok
  have hmem := (nextInLine_spec hnext).1
  obtain ⟨tl, hpend⟩ := List.head?_eq_some_iff.1 (nextInLine_eq_head s c ▸ hnext)
  refine ⟨⟨nxt, tl, hpend, rfl⟩, ?_⟩
  -- pending afterwards = not `nxt` and pending before
  have hpred : ∀ x : Send, (x.dst == c && !s'.recv.contains (c, x.hash))
      = (!(x.hash == nxt.hash) && (x.dst == c && !s.recv.contains (c, x.hash))) := fun x => by
    rw [hrecv, Bool.eq_iff_iff]; simp [Ev.markers, and_left_comm]
  have hnd : ((nxt :: tl).map (·.hash)).Nodup :=
    hpend ▸ (List.Sublist.map _ List.filter_sublist).nodup hw.sendHashes
  -- the new sends are fresh: not marked, and not `nxt`
  have hnew : ∀ x ∈ ds.map (mkSend c), (x.dst == c && !s'.recv.contains (c, x.hash)) = (x.dst == c) := by
    intro x hx
    obtain ⟨d, hd, rfl⟩ := List.mem_map.1 hx
    have hfresh : d.hash ∉ s.sends.map (·.hash) := hf.2 _ (List.mem_map_of_mem hd)
    have h1 : ((mkSend c d).hash == nxt.hash) = false :=
      beq_eq_false_iff_ne.2 fun (he : d.hash = nxt.hash) => hfresh (he ▸ List.mem_map_of_mem hmem)
    have h2 : s.recv.contains (c, (mkSend c d).hash) = false :=
      contains_false_iff.2 fun hm => hfresh (hw.recvConfirmed _ hm)
    rw [hpred, h1, h2]; simp
  rw [pendingFor, hsends, List.filter_append, List.filter_congr hnew, List.filter_congr fun x _ => hpred x,
    ← List.filter_filter]
  show (pendingFor s c).filter _ ++ _ = _
  rw [hpend, List.filter_cons, beq_self_eq_true, Bool.not_true, if_neg Bool.false_ne_true, filter_hash_ne_of_nodup hnd]
  rfl

/-- the refund descendant the VM emits for a failed call (`rollbackEmbedded`): the full amount back to the sender,
    nothing for an empty send; `h'` is the hash of the descendant block -/
def refundDescs (snd : Send) (h' : Hash) : List Desc :=
  if snd.amt > 0 then [⟨snd.src, snd.tok, snd.amt, h', TokCall.none⟩] else []

theorem descShape_refundDescs (snd : Send) (h' : Hash) : descShape (refundDescs snd h') = refundOf snd := by
  unfold refundDescs refundOf descShape
  split <;> rfl

/-- at most one descendant, with the given hash and no token call -/
theorem refundDescs_single (snd : Send) (h' : Hash) :
    (refundDescs snd h').length ≤ 1 ∧ ∀ d ∈ refundDescs snd h', d.hash = h' ∧ d.call = TokCall.none := by
  unfold refundDescs; split <;> simp

/-- the refund descendants are always funded: the amount was credited by this very receive, and a zero-token send
    carries no amount -/
theorem applyDescs_refund_ok (hw : WF s) (hmem : nxt ∈ s.sends) (h' : Hash) :
    ∃ s', applyDescs (recvCore s c nxt.hash nxt) c (refundDescs nxt h') = .ok s' := by
  rw [refundDescs]
  by_cases hpos : nxt.amt > 0
  · have hle : nxt.amt ≤ getBal (recvCore s c nxt.hash nxt).bal c nxt.tok := by
      rw [getBal_recvCore, if_pos ⟨rfl, rfl⟩]; exact Nat.le_add_left ..
    rw [if_pos hpos, applyDescs_cons_of (hw.zeroAmt nxt hmem) hle]
    exact ⟨_, rfl⟩
  · rw [if_neg hpos]; exact ⟨_, rfl⟩

end ZV.Ledger
