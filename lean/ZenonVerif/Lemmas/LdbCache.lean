import ZenonVerif.Model.VersionedCache
import ZenonVerif.Lemmas.LdbInv
/-
The cached manager `CLdb` (Model/VersionedCache.lean): why extending a cached overlay object IN PLACE is sound.

1. raw level: `ApplyWithoutOverride` never removes or changes an entry, and after folding an undo patch every key of that
   patch is in the overlay; so folding it AGAIN is the identity (`buildOverlay_reapply`) — a cache entry whose tag is OLDER
   than the height its object has really been extended to (the l1 entry that stays behind when the same object is filed in
   l2) is harmless — and extending from any tag between the viewed height and the object's real top gives exactly the overlay
   the cache-free `Get` folds from scratch (`overlay_extend`).
2. logical level: an overlay for version X that is extended by the undo patch of a LATER commit still shows X over an OLDER
   snapshot (`viewOf_extend`): an entry is only added for a key the overlay does not hold yet, i.e. a key no commit between X
   and that later commit touched, and its value is the one the key had before that commit = the one in the old snapshot = X's.
   Hence `overlay_view_at`: the overlay folded up to ANY height T shows X over the content of EVERY version between X and T.
3. the invariant `CInv` of the cached manager, kept by commit / stale commit / pop / get / evict / stop.
4. steps and reachable states (`CStep`, `CReach`): the invariant holds in them, their projection is reachable for the cache-free
   manager, and a view handed out earlier keeps showing what it showed (`ViewShows`, `CSteps.view`).
5. whole runs: the cached manager answers every operation as the cache-free manager does (`answersC_eq_answersU`).
-/
namespace ZV.VersionedCache
open ZV ZV.Kv ZV.KvLogic ZV.Versioned

/-! ### 1. raw level: folding without override is monotone and idempotent -/

theorem rhas_rput (s : Raw) (k v x : Bytes) : rhas (rput s k v) x = (decide (x = k) || rhas s x) := by
  simp only [rhas, rget_rput]
  by_cases h : x = k <;> simp [h]

theorem rhas_woApplyOp_mono {rb : Raw} (o : Op) {x : Bytes} (h : rhas rb x = true) :
    rhas (woApplyOp rb o) x = true := by
  rw [woApplyOp_eq]
  split
  · exact h
  · rw [rhas_rput, h, Bool.or_true]

theorem rhas_woApplyOp_self (rb : Raw) (o : Op) : rhas (woApplyOp rb o) o.key = true := by
  rw [woApplyOp_eq]
  split
  · assumption
  · rw [rhas_rput, decide_eq_true rfl, Bool.true_or]

theorem rhas_woApply_mono (p : Patch) {rb : Raw} {x : Bytes} (h : rhas rb x = true) : rhas (woApply rb p) x = true :=
  List.foldlRecOn p woApplyOp (motive := fun rb => rhas rb x = true) h fun _ hb o _ => rhas_woApplyOp_mono o hb

def Covers (rb : Raw) (p : Patch) : Prop := ∀ o ∈ p, rhas rb o.key = true

theorem woApply_noop (p : Patch) {rb : Raw} (hc : Covers rb p) : woApply rb p = rb :=
  List.foldlRecOn p woApplyOp (motive := (· = rb)) rfl fun _ hb o ho => by
    rw [hb, woApplyOp_eq, if_pos (hc o ho)]

theorem covers_woApply_self (p : Patch) (rb : Raw) : Covers (woApply rb p) p := fun o ho => by
  obtain ⟨a, b, rfl⟩ := List.append_of_mem ho
  rw [woApply, List.foldl_append]
  exact rhas_woApply_mono b (rhas_woApplyOp_self _ o)

/-- after the loop over heights lo+1 … lo+n every key of every undo patch of these heights is in the overlay: the patch
    folded last enters its keys, the earlier ones keep theirs -/
theorem covers_buildOverlay (rbs : List (Nat × Patch)) (n lo : Nat) (rb : Raw) (j : Nat) (p : Patch) (h1 : lo < j)
    (h2 : j ≤ lo + n) (hall : ∀ i, i < n → (lookupH rbs (lo + 1 + i)).isSome = true) (hp : lookupH rbs j = some p) :
    Covers (buildOverlay rbs lo n rb) p := by
  induction n with
  | zero => omega
  | succ n ih =>
    have hall' : ∀ i, i < n → (lookupH rbs (lo + 1 + i)).isSome = true := fun i hi => hall i (Nat.lt_succ_of_lt hi)
    obtain ⟨q, hq⟩ := Option.isSome_iff_exists.1 (hall n (Nat.lt_succ_self n))
    rw [Nat.add_right_comm] at hq
    rw [buildOverlay_snoc rbs n lo rb q hall' hq]
    by_cases hj : j = lo + n + 1
    · rw [hj, hq] at hp
      cases hp
      exact covers_woApply_self p _
    · exact fun o ho => rhas_woApply_mono q (ih (by omega) hall' o ho)

theorem buildOverlay_reapply (rbs : List (Nat × Patch)) (n t : Nat) (rb : Raw)
    (hall : ∀ i, i < n → ∃ p, lookupH rbs (t + 1 + i) = some p ∧ Covers rb p) : buildOverlay rbs t n rb = rb := by
  induction n generalizing t with
  | zero => rfl
  | succ n ih =>
    obtain ⟨p, hp, hc⟩ := hall 0 (Nat.succ_pos n)
    simp only [Nat.add_zero] at hp
    simp only [buildOverlay, hp, woApply_noop p hc]
    apply ih
    intro i hi
    have := hall (i + 1) (by omega)
    rwa [show t + 1 + (i + 1) = t + 1 + 1 + i by omega] at this

/-- `overlay_extend` with the heights written as distances: the object for height `lo` folded up to `lo + a + b`,
    extended from `lo + a` up to `lo + a + b + c` -/
theorem overlay_extend_add (rbs : List (Nat × Patch)) (lo a b c : Nat)
    (hall : ∀ i, i < a + b + c → (lookupH rbs (lo + 1 + i)).isSome = true) :
    buildOverlay rbs (lo + a) (b + c) (buildOverlay rbs lo (a + b) []) = buildOverlay rbs lo (a + b + c) [] := by
  have hall' : ∀ i, i < b + c → (lookupH rbs (lo + a + 1 + i)).isSome = true := by
    intro i hi
    have := hall (a + i) (by omega)
    rwa [show lo + 1 + (a + i) = lo + a + 1 + i by omega] at this
  -- the heights up to `lo + a + b` are in the object already
  have hre : buildOverlay rbs (lo + a) b (buildOverlay rbs lo (a + b) []) = buildOverlay rbs lo (a + b) [] := by
    apply buildOverlay_reapply
    intro i hi
    obtain ⟨p, hp⟩ := Option.isSome_iff_exists.1 (hall' i (by omega))
    exact ⟨p, hp, covers_buildOverlay rbs (a + b) lo [] _ p (by omega) (by omega) (fun i' hi' => hall i' (by omega)) hp⟩
  rw [buildOverlay_split rbs b c (lo + a) _ (fun i hi => hall' i (by omega)), hre,
    buildOverlay_split rbs (a + b) c lo [] (fun i hi => hall i (by omega)), Nat.add_assoc]

/-- THE cache lemma, raw level. An overlay object for height `lo` that has been folded up to `top`, extended by the loop
    of `Get` from ANY tag height `t` with lo ≤ t ≤ top up to the frontier height `F`, is exactly the overlay folded from
    scratch up to `F`. (t = top: the ordinary hit; t < top: the stale entry of the other level.) -/
theorem overlay_extend (rbs : List (Nat × Patch)) (lo t top F : Nat) (h1 : lo ≤ t) (h2 : t ≤ top) (h3 : top ≤ F)
    (hall : ∀ j, lo < j → j ≤ F → (lookupH rbs j).isSome = true) :
    buildOverlay rbs t (F - t) (buildOverlay rbs lo (top - lo) []) = buildOverlay rbs lo (F - lo) [] := by
  obtain ⟨a, rfl⟩ := Nat.exists_eq_add_of_le h1
  obtain ⟨b, rfl⟩ := Nat.exists_eq_add_of_le h2
  obtain ⟨c, rfl⟩ := Nat.exists_eq_add_of_le h3
  have e1 : lo + a + b + c - (lo + a) = b + c := by rw [Nat.add_assoc (lo + a), Nat.add_sub_cancel_left]
  have e2 : lo + a + b - lo = a + b := by rw [Nat.add_assoc lo, Nat.add_sub_cancel_left]
  have e3 : lo + a + b + c - lo = a + b + c := by rw [Nat.add_assoc lo a, Nat.add_assoc lo, Nat.add_sub_cancel_left]
  rw [e1, e2, e3]
  exact overlay_extend_add rbs lo a b c (fun i hi => hall _ (by omega) (by omega))

/-! ### 2. logical level: a later extension does not disturb an older snapshot -/

/-- overlay `o` shows `X` over the old snapshot `sL` AND over the later content `cur`; folding the undo patch of the
    commit made on `cur` into `o` (never overriding) still shows `X` over the OLD snapshot -/
theorem viewOf_extend (X sL cur : Store) (o : Overlay) (p : Patch)
    (h1 : viewOf o sL = X) (h2 : viewOf o cur = X) :
    viewOf (woP o (rollbackPatch cur p)) sL = X := by
  funext x
  have hx1 : viewOf o sL x = X x := congrFun h1 x
  have hx2 : viewOf o cur x = X x := congrFun h2 x
  simp only [viewOf] at hx1 hx2 ⊢
  cases ho : o x with
  | some y =>
    rw [woP_keep _ _ _ _ ho]
    simpa [ho] using hx1
  | none =>
    simp only [ho] at hx1 hx2
    by_cases hm : x ∈ keys p
    · rw [woP_rollback_fresh cur p o x hm ho]; exact hx2
    · rw [woP_not_mem _ _ _ (by rwa [keys_rollbackPatch]), ho]
      exact hx1

/-- the overlay for version `v` folded over the undo patches of the `mid` versions above it shows `v` over the content
    of EVERY version from `v` up to the top of `mid` (not only over the newest one) -/
theorem overlay_view_mid (rbs : List (Nat × Patch)) (v : Ver) (older mid : List Ver)
    (hc : HChain (mid ++ v :: older)) (hr : RbInv rbs (mid ++ v :: older)) (w : Ver) (hw : w ∈ mid ++ [v]) :
    viewOf (oabs (buildOverlay rbs v.id.height mid.length [])) w.store = v.store := by
  induction mid generalizing w with
  | nil =>
    simp only [List.nil_append, List.mem_singleton] at hw
    subst hw
    simp only [List.length_nil, buildOverlay, oabs_nil, viewOf_empty]
  | cons u mid ih =>
    have hc' : HChain (mid ++ v :: older) := hc.tail
    have hr' : RbInv rbs (mid ++ v :: older) := hr.2
    have hv : v.id.height = older.length + 1 := hc'.split_height
    have hu : u.id.height = (mid ++ v :: older).length + 1 := hc.head_height
    have hlu : lookupH rbs u.id.height = some (rollbackPatch (topStore (mid ++ v :: older)) u.patch) := hr.1
    have hsnoc := buildOverlay_snoc rbs mid.length v.id.height []
      (rollbackPatch (topStore (mid ++ v :: older)) u.patch)
      (fun i hi => hr'.isSome hc' _ (by omega) (by simp only [List.length_append, List.length_cons]; omega))
      (by rw [← hlu, hu]; congr 1; simp only [List.length_append, List.length_cons]; omega)
    -- the version directly below `u` is the top of `mid ++ [v]`
    obtain ⟨t, ht, hts⟩ : ∃ t ∈ mid ++ [v], t.store = topStore (mid ++ v :: older) := by
      cases mid with
      | nil => exact ⟨v, by simp, rfl⟩
      | cons t mid' => exact ⟨t, by simp, rfl⟩
    have iht := ih hc' hr' t ht
    rw [hts] at iht
    simp only [List.length_cons]
    rw [hsnoc, oabs_woApply]
    simp only [List.cons_append, List.mem_cons] at hw
    rcases hw with rfl | hw
    · rw [(HChain.head_store hc : w.store = _)]
      exact viewOf_step v.store _ _ _ iht
    · exact viewOf_extend v.store w.store _ _ _ (ih hc' hr' w hw) iht

theorem hchain_mem_lower {above c : List Ver} (hc : HChain (above ++ c)) {v : Ver} (hv : v ∈ above ++ c)
    (hh : v.id.height ≤ c.length) : v ∈ c := by
  rcases List.mem_append.1 hv with ha | hb
  · obtain ⟨a1, a2, rfl⟩ := List.append_of_mem ha
    have : v.id.height = (a2 ++ c).length + 1 := HChain.split_height (newer := a1) (by simpa using hc)
    simp only [List.length_append] at this
    omega
  · exact hb

/-- height form of `overlay_view_mid`: on a chain `h`, for versions `v`, `w` on it and any height `T` with
    v.height ≤ w.height ≤ T ≤ |h|, the overlay for `v` folded up to height `T` shows `v` over the content of `w` -/
theorem overlay_view_at {rbs : List (Nat × Patch)} {h : List Ver} (hc : HChain h) (hr : RbInv rbs h)
    {v w : Ver} (hv : v ∈ h) (hw : w ∈ h) (T : Nat) (h1 : v.id.height ≤ w.id.height) (h2 : w.id.height ≤ T)
    (h3 : T ≤ h.length) :
    viewOf (oabs (buildOverlay rbs v.id.height (T - v.id.height) [])) w.store = v.store := by
  obtain ⟨above, c, rfl, hcl⟩ : ∃ above c, h = above ++ c ∧ c.length = T :=
    ⟨h.take (h.length - T), h.drop (h.length - T), (List.take_append_drop _ _).symm, by simp; omega⟩
  have hvc : v ∈ c := hchain_mem_lower hc hv (by omega)
  have hwc : w ∈ c := hchain_mem_lower hc hw (by omega)
  have hcc : HChain c := hc.suffix
  have hrc : RbInv rbs c := hr.suffix
  obtain ⟨mid, older, rfl⟩ := List.append_of_mem hvc
  have hvh : v.id.height = older.length + 1 := hcc.split_height
  have hml : mid.length = T - v.id.height := by
    simp only [List.length_append, List.length_cons] at hcl; omega
  have hwm : w ∈ mid ++ [v] := by
    rcases List.mem_append.1 hwc with hm | hm
    · exact List.mem_append_left _ hm
    · rcases List.mem_cons.1 hm with rfl | ho
      · simp
      · have hco : HChain older := (HChain.suffix (a := mid) hcc).tail
        have := hco.mem_height ho
        omega
  rw [← hml]
  exact overlay_view_mid rbs v older mid hcc hrc w hwm

/-! ### 3. the invariant of the cached manager -/

def CLdb.ents (s : CLdb) : List CEnt := s.l1 ++ s.l2

/-- what holds for an overlay object `o` that some cache entry references. `v` is the version it reconstructs, `top` the
    height it has REALLY been folded up to (≥ the tag of every entry that references it; the tag of an entry that stayed
    behind in the other level may be smaller). Every entry and every handed-out view that shares the object is for `v`;
    a view's snapshot is the content of some version between `v` and `top`. -/
structure ObjInv (s : CLdb) (h : List Ver) (o : Nat) (v : Ver) (top : Nat) : Prop where
  mem : v ∈ h
  lo : v.id.height ≤ top
  hi : top ≤ h.length
  obj : s.heap[o]? = some (buildOverlay s.ldb.rollbacks v.id.height (top - v.id.height) [])
  ents : ∀ e ∈ s.ents, e.obj = o →
    e.id = v.id ∧ (∃ w ∈ h, w.id = e.tag) ∧ v.id.height ≤ e.tag.height ∧ e.tag.height ≤ top
  views : ∀ vw ∈ s.views, vw.obj = o →
    vw.id = v.id ∧ Sorted vw.snap ∧ ∃ w ∈ h, KvLogic.abs vw.snap = w.store ∧ v.id.height ≤ w.id.height ∧ w.id.height ≤ top

/-- the invariant of the cached manager: the cache-free part satisfies `Inv`, every referenced object satisfies `ObjInv`,
    every handed-out view points into the heap -/
structure CInv (s : CLdb) (h : List Ver) : Prop where
  inv : Inv s.ldb h
  objs : ∀ e ∈ s.ents, ∃ v top, ObjInv s h e.obj v top
  viewsLt : ∀ vw ∈ s.views, vw.obj < s.heap.length

theorem lookupC_eq_find (l : List CEnt) (i : Id) : lookupC l i = l.find? (fun e => e.id = i) := by
  induction l with
  | nil => rfl
  | cons x t ih => by_cases hx : x.id = i <;> simp [lookupC, hx, ih]

theorem lookupC_some {l : List CEnt} {i : Id} {e : CEnt} (h : lookupC l i = some e) : e ∈ l ∧ e.id = i := by
  rw [lookupC_eq_find] at h
  exact ⟨List.mem_of_find?_eq_some h, by simpa using List.find?_some h⟩

theorem mem_cacheAdd {l : List CEnt} {e x : CEnt} (h : x ∈ cacheAdd l e) : x = e ∨ x ∈ l :=
  (List.mem_cons.1 h).imp_right fun h => (List.mem_filter.1 h).1

theorem mem_cacheEvict {l : List CEnt} {i : Id} {x : CEnt} (h : x ∈ cacheEvict l i) : x ∈ l :=
  (List.mem_filter.1 h).1

/-- the cached against the cache-free `Get` on a running manager: either nothing changes and the answer is the cache-free
    one (zero identifier, frontier, refusal), or it is the cached part `getHist` and the cache-free `Get` folds an overlay -/
theorem get_cases (cfg : Cfg) (s : CLdb) (i : Id) (hs : s.stopped = false) :
    (∃ r, s.get cfg i = (s, r) ∧ r.map (CRoot.resolve s.heap) = s.ldb.get i ∧
      (i.isZero = true ∨ i = s.ldb.frontierId ∨ s.ldb.get i = none)) ∨
    (s.get cfg i = s.getHist cfg i ∧ i.isZero = false ∧ i ≠ s.ldb.frontierId ∧
      s.ldb.get i = some (Root.hist
        (buildOverlay s.ldb.rollbacks i.height (s.ldb.frontierId.height - i.height) []) s.ldb.frontier)) := by
  unfold Ldb.get
  fun_cases CLdb.get cfg s i
  case case1 h => rw [hs] at h; cases h
  case case3 hz hf => left; simp [hz, if_pos hf, CRoot.resolve]; exact hf
  case case6 => right; simp [*]
  all_goals left; simp [*, CRoot.resolve]

/-- the cached part of `Get` with the hit made explicit: `to` = the tag the loop starts from, `o` = the object,
    `heap0` = the heap with the object in it -/
def getHistWith (cfg : Cfg) (s : CLdb) (i to : Id) (o : Nat) (heap0 : List Raw) : CLdb × Option CRoot :=
  let f := s.ldb.frontierId
  let raw := buildOverlay s.ldb.rollbacks to.height (f.height - to.height) (objAt heap0 o)
  let e : CEnt := ⟨i, f, o⟩
  let near := decide (absDiff i.height f.height < cfg.maxDiff)
  ({ s with heap := heap0.set o raw,
            l1 := if near then cacheAdd s.l1 e else s.l1,
            l2 := if near then s.l2 else cacheAdd s.l2 e,
            views := ⟨i, s.ldb.frontier, o⟩ :: s.views },
   some (CRoot.hist o s.ldb.frontier))

/-- the hit: an entry of one of the levels (l1 first), or a fresh empty object behind the heap when neither level knows
    the identifier -/
theorem getHist_eq (cfg : Cfg) (s : CLdb) (i : Id) :
    ∃ to o heap0, s.getHist cfg i = getHistWith cfg s i to o heap0 ∧
      ((∃ e ∈ s.ents, e.id = i ∧ e.tag = to ∧ e.obj = o ∧ heap0 = s.heap) ∨
       (to = i ∧ o = s.heap.length ∧ heap0 = s.heap ++ [[]])) := by
  cases hl1 : lookupC s.l1 i with
  | some e =>
    exact ⟨e.tag, e.obj, s.heap, by simp [CLdb.getHist, getHistWith, hl1],
      Or.inl ⟨e, List.mem_append_left _ (lookupC_some hl1).1, (lookupC_some hl1).2, rfl, rfl, rfl⟩⟩
  | none =>
    cases hl2 : lookupC s.l2 i with
    | some e =>
      exact ⟨e.tag, e.obj, s.heap, by simp [CLdb.getHist, getHistWith, hl1, hl2],
        Or.inl ⟨e, List.mem_append_right _ (lookupC_some hl2).1, (lookupC_some hl2).2, rfl, rfl, rfl⟩⟩
    | none =>
      exact ⟨i, s.heap.length, s.heap ++ [[]], by simp [CLdb.getHist, getHistWith, hl1, hl2],
        Or.inr ⟨rfl, rfl, rfl⟩⟩

theorem mem_ents_getHistWith {cfg : Cfg} {s : CLdb} {i to : Id} {o : Nat} {heap0 : List Raw} {x : CEnt}
    (h : x ∈ (getHistWith cfg s i to o heap0).1.ents) : x = ⟨i, s.ldb.frontierId, o⟩ ∨ x ∈ s.ents := by
  simp only [getHistWith, CLdb.ents, List.mem_append] at h ⊢
  generalize decide (absDiff i.height s.ldb.frontierId.height < cfg.maxDiff) = near at h
  cases near with
  | false =>
    simp only [Bool.false_eq_true, if_false] at h
    exact h.elim (fun h => Or.inr (Or.inl h)) (fun h => (mem_cacheAdd h).imp id Or.inr)
  | true =>
    simp only [if_true] at h
    exact h.elim (fun h => (mem_cacheAdd h).imp id Or.inl) (fun h => Or.inr (Or.inr h))

theorem new_ent_mem (cfg : Cfg) (s : CLdb) (i to : Id) (o : Nat) (heap0 : List Raw) :
    (⟨i, s.ldb.frontierId, o⟩ : CEnt) ∈ (getHistWith cfg s i to o heap0).1.ents := by
  simp only [getHistWith, CLdb.ents, List.mem_append]
  by_cases hn : absDiff i.height s.ldb.frontierId.height < cfg.maxDiff
  · left; simp [hn, cacheAdd]
  · right; simp [hn, cacheAdd]

theorem inv0_frontierHeight {s : Ldb} {h : List Ver} (hi : Inv0 s h) : s.frontierId.height = h.length :=
  hi.frontierHeight

theorem ObjInv.obj_lt {s : CLdb} {h : List Ver} {o : Nat} {v : Ver} {top : Nat} (hoi : ObjInv s h o v top) :
    o < s.heap.length :=
  let ⟨hl, _⟩ := List.getElem?_eq_some_iff.1 hoi.obj; hl

/-- `ObjInv` for object `o` looks only at the undo patches, at slot `o` of the heap, and at the entries and views that
    point to `o` -/
theorem ObjInv.of_same {s s' : CLdb} {h : List Ver} {o : Nat} {v : Ver} {top : Nat} (hoi : ObjInv s h o v top)
    (hl : s'.ldb.rollbacks = s.ldb.rollbacks) (hh : s'.heap[o]? = s.heap[o]?)
    (he : ∀ e ∈ s'.ents, e.obj = o → e ∈ s.ents) (hv : ∀ vw ∈ s'.views, vw.obj = o → vw ∈ s.views) :
    ObjInv s' h o v top :=
  ⟨hoi.mem, hoi.lo, hoi.hi, by rw [hh, hl]; exact hoi.obj, fun e hm ho => hoi.ents e (he e hm ho) ho,
    fun vw hm ho => hoi.views vw (hv vw hm ho) ho⟩

theorem ObjInv.transfer {s s' : CLdb} {h : List Ver} {o : Nat} {v : Ver} {top : Nat} (hoi : ObjInv s h o v top)
    (hl : s'.ldb.rollbacks = s.ldb.rollbacks) (hh : s'.heap[o]? = s.heap[o]?)
    (he : ∀ e ∈ s'.ents, e ∈ s.ents) (hv : ∀ vw ∈ s'.views, vw ∈ s.views) : ObjInv s' h o v top :=
  hoi.of_same hl hh (fun e hm _ => he e hm) (fun vw hm _ => hv vw hm)

/-- what a `Get` does to heap and views: both only grow, an object no entry points to afterwards is not written, and an old
    object an entry points to afterwards had an entry pointing to it before -/
structure Extends (s s' : CLdb) : Prop where
  views : ∀ vw ∈ s.views, vw ∈ s'.views
  len : s.heap.length ≤ s'.heap.length
  untouched : ∀ o, o < s.heap.length → (∀ e ∈ s'.ents, e.obj ≠ o) → s'.heap[o]? = s.heap[o]?
  back : ∀ e ∈ s'.ents, e.obj < s.heap.length → ∃ e0 ∈ s.ents, e0.obj = e.obj

theorem Extends.refl (s : CLdb) : Extends s s :=
  ⟨fun _ hv => hv, Nat.le_refl _, fun _ _ _ => rfl, fun e he _ => ⟨e, he, rfl⟩⟩

/-- what a `Get(i)` with result `g` does in an invariant state `s`: the invariant is kept, store and run flag stay, and the
    root handed out, its overlay pointer dereferenced after the call, is the one the cache-free `Get` builds -/
structure GetOk (s : CLdb) (h : List Ver) (i : Id) (g : CLdb × Option CRoot) : Prop where
  inv : CInv g.1 h
  ldb : g.1.ldb = s.ldb
  stopped : g.1.stopped = false
  answer : g.2.map (CRoot.resolve g.1.heap) = s.ldb.get i
  ext : Extends s g.1

/-- the cached part of `Get` for the version `v`, the hit made explicit: `to` = the tag found, and the object `o` of
    `heap0` satisfies `ObjInv` for `v`, folded up to `top`. The invariant is kept, the object handed out is exactly the
    overlay the cache-free `Get` folds from scratch (`hans`), and nothing else in the heap moves. -/
theorem CInv.getHistWith_inv {cfg : Cfg} {s : CLdb} {h : List Ver} (hi : CInv s h) (hs : s.stopped = false) {v : Ver}
    (to : Id) (o : Nat) (heap0 : List Raw) (top : Nat) (hoi : ObjInv { s with heap := heap0 } h o v top)
    (hlo : v.id.height ≤ to.height) (hto : to.height ≤ top)
    (hother : ∀ o', o' ≠ o → o' < s.heap.length → heap0[o']? = s.heap[o']?)
    (hlen : s.heap.length ≤ heap0.length)
    (hback : o < s.heap.length → ∃ e0 ∈ s.ents, e0.obj = o)
    (hans : s.ldb.get v.id = some (Root.hist
      (buildOverlay s.ldb.rollbacks v.id.height (s.ldb.frontierId.height - v.id.height) []) s.ldb.frontier)) :
    GetOk s h v.id (getHistWith cfg s v.id to o heap0) := by
  have hF : s.ldb.frontierId.height = h.length := inv0_frontierHeight hi.inv.inv0
  have hvh := hi.inv.inv0.hchain.mem_height hoi.mem
  have holt : o < heap0.length := hoi.obj_lt
  have hraw : buildOverlay s.ldb.rollbacks to.height (s.ldb.frontierId.height - to.height) (objAt heap0 o) =
      buildOverlay s.ldb.rollbacks v.id.height (s.ldb.frontierId.height - v.id.height) [] := by
    have : objAt heap0 o = buildOverlay s.ldb.rollbacks v.id.height (top - v.id.height) [] := by
      simp [objAt, show heap0[o]? = _ from hoi.obj]
    rw [this, hF]
    exact overlay_extend _ _ _ _ _ hlo hto hoi.hi
      (fun j h1 h2 => hi.inv.inv0.rb.isSome hi.inv.inv0.hchain j (Nat.le_trans hvh.1 (Nat.le_of_lt h1)) h2)
  have hheap : (getHistWith cfg s v.id to o heap0).1.heap =
      heap0.set o (buildOverlay s.ldb.rollbacks v.id.height (s.ldb.frontierId.height - v.id.height) []) := by
    simp only [getHistWith, hraw]
  have hself : (getHistWith cfg s v.id to o heap0).1.heap[o]? =
      some (buildOverlay s.ldb.rollbacks v.id.height (s.ldb.frontierId.height - v.id.height) []) := by
    rw [hheap, List.getElem?_set_self holt]
  have hoth : ∀ o', o' ≠ o → o' < s.heap.length →
      (getHistWith cfg s v.id to o heap0).1.heap[o']? = s.heap[o']? := by
    intro o' hne hl
    rw [hheap, List.getElem?_set_ne (Ne.symm hne)]
    exact hother o' hne hl
  -- the newest version: its identifier is the tag of the new entry, its content the snapshot of the new view
  obtain ⟨t, ht, htid, hts⟩ : ∃ t ∈ h, t.id = s.ldb.frontierId ∧ KvLogic.abs s.ldb.frontier = t.store := by
    cases h with
    | nil => exact absurd hoi.mem (List.not_mem_nil)
    | cons t h' =>
      refine ⟨t, List.mem_cons_self, ?_, ?_⟩
      · rw [hi.inv.inv0.frontierId]; rfl
      · rw [hi.inv.inv0.front]; rfl
  have hth : t.id.height = h.length := htid ▸ hF
  refine ⟨⟨hi.inv, ?_, ?_⟩, rfl, hs, ?_, fun vw hvw => List.mem_cons_of_mem _ hvw, ?_, ?_, ?_⟩
  · intro e' he'
    by_cases heo : e'.obj = o
    · -- the object is now folded up to the frontier
      refine ⟨v, h.length, hoi.mem, hvh.2, Nat.le_refl _, by rw [heo, hself, hF]; rfl, ?_, ?_⟩
      · intro e'' he'' ho''
        rcases mem_ents_getHistWith he'' with rfl | hold
        · exact ⟨rfl, ⟨t, ht, htid⟩, hF ▸ hvh.2, Nat.le_of_eq hF⟩
        · obtain ⟨a, b, c, d⟩ := hoi.ents e'' hold (by rw [ho'', heo])
          exact ⟨a, b, c, Nat.le_trans d hoi.hi⟩
      · intro vw hvw ho''
        rcases List.mem_cons.1 hvw with rfl | hold
        · exact ⟨rfl, hi.inv.inv0.sorted, t, ht, hts, hth ▸ hvh.2, Nat.le_of_eq hth⟩
        · obtain ⟨a, b, w, hw, c, d, e⟩ := hoi.views vw hold (by rw [ho'', heo])
          exact ⟨a, b, w, hw, c, d, Nat.le_trans e hoi.hi⟩
    · -- any other object is left alone
      have hold : e' ∈ s.ents := (mem_ents_getHistWith he').resolve_left (fun e => heo (e ▸ rfl))
      obtain ⟨v', top', hoi'⟩ := hi.objs e' hold
      exact ⟨v', top', hoi'.of_same rfl (hoth _ heo hoi'.obj_lt)
        (fun e'' he'' ho'' => (mem_ents_getHistWith he'').resolve_left (fun e => heo (ho'' ▸ e ▸ rfl)))
        (fun vw hvw ho'' => (List.mem_cons.1 hvw).resolve_left (fun e => heo (ho'' ▸ e ▸ rfl)))⟩
  · intro vw hvw
    rw [hheap, List.length_set]
    rcases List.mem_cons.1 hvw with rfl | hold
    · exact holt
    · exact Nat.lt_of_lt_of_le (hi.viewsLt vw hold) hlen
  · rw [hans]
    show some (Root.hist (objAt (getHistWith cfg s v.id to o heap0).1.heap o) s.ldb.frontier) = _
    simp only [objAt, hself, Option.getD_some]
  · rw [hheap, List.length_set]; exact hlen
  · intro o' hl hno
    exact hoth o' (fun e => hno _ (new_ent_mem cfg s v.id to o heap0) (e ▸ rfl)) hl
  · intro e' he' hlt
    rcases mem_ents_getHistWith he' with rfl | hold
    · exact hback hlt
    · exact ⟨e', hold, rfl⟩

theorem CInv.get {cfg : Cfg} {s : CLdb} {h : List Ver} (hi : CInv s h) (hs : s.stopped = false) (i : Id) :
    GetOk s h i (s.get cfg i) := by
  rcases get_cases cfg s i hs with ⟨r, h1, h2, _⟩ | ⟨h1, hz, hf, hans⟩
  · rw [h1]
    exact ⟨hi, rfl, hs, h2, Extends.refl s⟩
  · -- the identifier is a version on the chain
    obtain ⟨v, hv, rfl⟩ : ∃ v ∈ h, v.id = i := Classical.byContradiction fun hno => by
      rw [hi.inv.get_unknown hz fun v hv e => hno ⟨v, hv, e⟩] at hans
      cases hans
    obtain ⟨to, o, heap0, hg, hhit⟩ := getHist_eq cfg s v.id
    rw [h1, hg]
    rcases hhit with ⟨e, he, heid, rfl, rfl, rfl⟩ | ⟨rfl, rfl, rfl⟩
    · -- hit: the object of entry `e`, which is for `v`
      obtain ⟨v', top, hoi⟩ := hi.objs e he
      obtain ⟨hid, _, hlo, hto⟩ := hoi.ents e he rfl
      have hvv : v' = v := hi.inv.chain.hash_inj hoi.mem hv (by rw [← hid, heid])
      subst hvv
      exact hi.getHistWith_inv hs e.tag e.obj s.heap top hoi hlo hto (fun _ _ _ => rfl) (Nat.le_refl _)
        (fun _ => ⟨e, he, rfl⟩) hans
    · -- neither level knows the identifier: a fresh, empty object behind the heap, which nothing points to yet
      refine hi.getHistWith_inv hs v.id s.heap.length (s.heap ++ [[]]) v.id.height
        ⟨hv, Nat.le_refl _, (hi.inv.inv0.hchain.mem_height hv).2, ?_, ?_, ?_⟩ (Nat.le_refl _) (Nat.le_refl _)
        (fun o' _ hl => List.getElem?_append_left hl) (by simp) (fun hlt => absurd hlt (Nat.lt_irrefl _)) hans
      · show (s.heap ++ [[]])[s.heap.length]? = _
        rw [List.getElem?_concat_length, Nat.sub_self]; rfl
      · intro e he ho
        obtain ⟨_, _, hoi⟩ := hi.objs e he
        exact absurd (ho ▸ hoi.obj_lt) (Nat.lt_irrefl _)
      · exact fun vw hvw ho => absurd (ho ▸ hi.viewsLt vw hvw) (Nat.lt_irrefl _)

theorem get_stopped (cfg : Cfg) (s : CLdb) (i : Id) (hs : s.stopped = true) : s.get cfg i = (s, none) := by
  simp [CLdb.get, hs]

/-- a view whose overlay object is still referenced by a cache entry shows its version (whatever height the object has
    been extended to in the meantime) -/
theorem CInv.view_live {s : CLdb} {h : List Ver} (hi : CInv s h) {e : CEnt} (he : e ∈ s.ents) {vw : CView}
    (hvw : vw ∈ s.views) (ho : vw.obj = e.obj) :
    ∃ v ∈ h, vw.id = v.id ∧ Sorted (objAt s.heap vw.obj) ∧ Sorted vw.snap ∧
      viewOf (oabs (objAt s.heap vw.obj)) (KvLogic.abs vw.snap) = v.store := by
  obtain ⟨v, top, hoi⟩ := hi.objs e he
  obtain ⟨hid, hss, w, hw, hws, h1, h2⟩ := hoi.views vw hvw ho
  have hobj : objAt s.heap vw.obj = buildOverlay s.ldb.rollbacks v.id.height (top - v.id.height) [] := by
    simp [objAt, ho, hoi.obj]
  refine ⟨v, hoi.mem, hid, ?_, hss, ?_⟩
  · rw [hobj]; exact sorted_buildOverlay _ _ _ _ Sorted.nil
  · rw [hobj, hws]
    exact overlay_view_at hi.inv.inv0.hchain hi.inv.inv0.rb hoi.mem hw top h1 h2 hoi.hi

theorem CInv.evict {s : CLdb} {h : List Ver} (hi : CInv s h) (l : Bool) (i : Id) : CInv (s.evict l i) h := by
  have hsub : ∀ e ∈ (s.evict l i).ents, e ∈ s.ents := by
    intro e he
    cases l
    · simp only [CLdb.evict, CLdb.ents, Bool.false_eq_true, if_false, List.mem_append] at he ⊢
      exact he.imp id mem_cacheEvict
    · simp only [CLdb.evict, CLdb.ents, if_true, List.mem_append] at he ⊢
      exact he.imp mem_cacheEvict id
  have hldb : (s.evict l i).ldb = s.ldb := by cases l <;> rfl
  have hheap : (s.evict l i).heap = s.heap := by cases l <;> rfl
  have hviews : (s.evict l i).views = s.views := by cases l <;> rfl
  refine ⟨hldb ▸ hi.inv, ?_, ?_⟩
  · intro e he
    obtain ⟨v, top, hoi⟩ := hi.objs e (hsub e he)
    exact ⟨v, top, hoi.transfer (by rw [hldb]) (by rw [hheap]) hsub (by rw [hviews]; exact fun _ x => x)⟩
  · rw [hviews, hheap]; exact hi.viewsLt

theorem CInv.stop {s : CLdb} {h : List Ver} (hi : CInv s h) : CInv s.stop h :=
  ⟨hi.inv, fun e he => by simp [CLdb.stop, CLdb.ents] at he, hi.viewsLt⟩

def Cfg.Purges (cfg : Cfg) : Prop := cfg.purgeL1 = true ∧ cfg.purgeL2 = true

theorem pop_eq {cfg : Cfg} (hp : cfg.Purges) (s : CLdb) (hs : s.stopped = false) :
    s.pop cfg = s.ldb.pop.map (fun l => { s with ldb := l, l1 := [], l2 := [] }) := by
  simp only [CLdb.pop, hs, Bool.false_eq_true, if_false, hp.1, hp.2, if_true]
  cases s.ldb.pop <;> rfl

theorem CInv.pop {cfg : Cfg} (hp : cfg.Purges) {s s' : CLdb} {v : Ver}
    {h : List Ver} (hi : CInv s (v :: h)) (hpop : s.pop cfg = some s') :
    CInv s' h ∧ s.ldb.pop = some s'.ldb ∧ s'.heap = s.heap ∧ s'.views = s.views ∧ s'.l1 = [] ∧ s'.l2 = [] ∧
      s'.stopped = false := by
  cases hs : s.stopped with
  | true => simp [CLdb.pop, hs] at hpop
  | false =>
    rw [pop_eq hp s hs] at hpop
    obtain ⟨l, hl, rfl⟩ := Option.map_eq_some_iff.1 hpop
    exact ⟨⟨⟨hi.inv.chain.tail, hi.inv.inv0.pop hl⟩, fun e he => by simp [CLdb.ents] at he, hi.viewsLt⟩,
      hl, rfl, rfl, rfl, rfl, hs⟩

/-- `Add` computes exactly what the cache-free `Add` computes; the caches only see the `Get(previous)` -/
theorem CInv.add_eq {cfg : Cfg} {s : CLdb} {h : List Ver} (hi : CInv s h) (hs : s.stopped = false)
    (prev id : Id) (ops : Patch) :
    s.add cfg prev id ops = (s.ldb.add prev id ops).map (fun l => { (s.get cfg prev).1 with ldb := l }) := by
  obtain ⟨_, hldb, _, hans, _⟩ := hi.get (cfg := cfg) hs prev
  unfold CLdb.add Ldb.add
  rw [← hans]
  generalize s.get cfg prev = g at hldb ⊢
  obtain ⟨s1, r⟩ := g
  simp only at hldb ⊢
  cases r with
  | none => rfl
  | some cr =>
    simp only [Option.map_some, hldb]
    by_cases hp : prev = s.ldb.frontierId
    · simp [hp]
    · simp only [hp, if_false, Option.map_some]
      rw [← hldb]

theorem add_stopped (cfg : Cfg) (s : CLdb) (prev id : Id) (ops : Patch) (hs : s.stopped = true) :
    s.add cfg prev id ops = none := by
  simp [CLdb.add, get_stopped cfg s prev hs]

theorem CInv.add_some {cfg : Cfg} {s s' : CLdb} {h : List Ver} {prev id : Id} {ops : Patch} (hi : CInv s h)
    (ha : s.add cfg prev id ops = some s') :
    s.stopped = false ∧ ∃ l, s.ldb.add prev id ops = some l ∧ s' = { (s.get cfg prev).1 with ldb := l } := by
  cases hs : s.stopped with
  | true => rw [add_stopped cfg s _ _ _ hs] at ha; cases ha
  | false =>
    rw [hi.add_eq hs] at ha
    obtain ⟨l, hl, rfl⟩ := Option.map_eq_some_iff.1 ha
    exact ⟨rfl, l, hl, rfl⟩

theorem get_frontier_same (cfg : Cfg) (s : CLdb) (hs : s.stopped = false) : (s.get cfg s.ldb.frontierId).1 = s := by
  rcases get_cases cfg s s.ldb.frontierId hs with ⟨r, h1, _⟩ | ⟨_, _, hf, _⟩
  · rw [h1]
  · exact absurd rfl hf

theorem CInv.add_frontier {cfg : Cfg} {s s' : CLdb} {h : List Ver} {id : Id} {ops : Patch} (hi : CInv s h)
    (hok : AddOk s.ldb.frontierId h id ops) (ha : s.add cfg s.ldb.frontierId id ops = some s') :
    CInv s' (commitVer h id ops :: h) ∧ s.ldb.add s.ldb.frontierId id ops = some s'.ldb ∧ s'.heap = s.heap ∧
      s'.views = s.views ∧ s'.l1 = s.l1 ∧ s'.l2 = s.l2 ∧ s'.stopped = false := by
  obtain ⟨hs, l, hl, rfl⟩ := hi.add_some ha
  rw [get_frontier_same cfg s hs]
  have hfid := hi.inv.inv0.frontierId
  have hinv0 : Inv0 l (commitVer h id ops :: h) := hi.inv.inv0.add ops hok.toHOk hl
  have hleq := hi.inv.inv0.add_eq id ops hl
  have hidh : id.height = h.length + 1 := by
    rw [hok.height, hfid, hi.inv.inv0.hchain.topHeight]
  refine ⟨⟨⟨Chain.cons hi.inv.chain (hfid ▸ hok), hinv0⟩, ?_, hi.viewsLt⟩, hl, rfl, rfl, rfl, rfl, hs⟩
  intro e he
  obtain ⟨v, top, hoi⟩ := hi.objs e he
  refine ⟨v, top, List.mem_cons_of_mem _ hoi.mem, hoi.lo, Nat.le_succ_of_le hoi.hi, ?_, ?_, ?_⟩
  · show s.heap[e.obj]? = some (buildOverlay l.rollbacks v.id.height (top - v.id.height) [])
    rw [hoi.obj]
    congr 1
    apply buildOverlay_congr
    intro i hlt
    have h1 := hoi.lo
    have h2 := hoi.hi
    have hne : v.id.height + 1 + i ≠ id.height := by omega
    rw [hleq, lookupH_cons, if_neg (fun e => hne e.symm), lookupH_filter_ne _ _ _ hne]
  · intro e' he' ho'
    obtain ⟨a, ⟨w, hw, hwt⟩, c, d⟩ := hoi.ents e' he' ho'
    exact ⟨a, ⟨w, List.mem_cons_of_mem _ hw, hwt⟩, c, d⟩
  · intro vw hvw ho'
    obtain ⟨a, b, w, hw, c, d, e⟩ := hoi.views vw hvw ho'
    exact ⟨a, b, w, List.mem_cons_of_mem _ hw, c, d, e⟩

theorem CInv.add_stale {cfg : Cfg} {s s' : CLdb} {h : List Ver} {prev id : Id} {ops : Patch} (hi : CInv s h)
    (hne : prev ≠ s.ldb.frontierId) (ha : s.add cfg prev id ops = some s') :
    s.stopped = false ∧ s' = (s.get cfg prev).1 ∧ s.ldb.add prev id ops = some s.ldb := by
  obtain ⟨hs, l, hl, rfl⟩ := hi.add_some ha
  have := add_stale_eq hne hl
  subst this
  exact ⟨hs, by rw [← (hi.get (cfg := cfg) hs prev).ldb], hl⟩

/-! ### 4. steps, reachable states, views handed out earlier -/

/-- one operation of the cached manager; the second and fourth argument are the ghost histories of the current chain -/
inductive CStep (cfg : Cfg) : CLdb → List Ver → CLdb → List Ver → Prop
  | add {s s' h id ops} : AddOk s.ldb.frontierId h id ops → s.add cfg s.ldb.frontierId id ops = some s' →
      CStep cfg s h s' (commitVer h id ops :: h)
  | addStale {s s' h prev id ops} : prev ≠ s.ldb.frontierId → s.add cfg prev id ops = some s' → CStep cfg s h s' h
  | pop {s s' v h} : s.pop cfg = some s' → CStep cfg s (v :: h) s' h
  | get {s h} (i : Id) : CStep cfg s h (s.get cfg i).1 h
  | evict {s h} (level1 : Bool) (i : Id) : CStep cfg s h (s.evict level1 i) h
  | stop {s h} : CStep cfg s h s.stop h

inductive CSteps (cfg : Cfg) : CLdb → List Ver → CLdb → List Ver → Prop
  | refl {s h} : CSteps cfg s h s h
  | tail {s h s1 h1 s2 h2} : CSteps cfg s h s1 h1 → CStep cfg s1 h1 s2 h2 → CSteps cfg s h s2 h2

/-- reachable cached states (any interleaving of commits, stale commits, pops, gets, evictions, stop) -/
def CReach (cfg : Cfg) (s : CLdb) (h : List Ver) : Prop := CSteps cfg CLdb.empty [] s h

theorem CInv.init : CInv CLdb.empty [] :=
  ⟨Inv.init, fun e he => by simp [CLdb.empty, CLdb.ents] at he, fun vw hvw => by simp [CLdb.empty] at hvw⟩

theorem CStep.inv {cfg : Cfg} (hp : cfg.Purges) {s s' : CLdb} {h h' : List Ver} (hi : CInv s h)
    (hst : CStep cfg s h s' h') : CInv s' h' := by
  cases hst with
  | add hok ha => exact (hi.add_frontier hok ha).1
  | addStale hne ha =>
    obtain ⟨hs, rfl, _⟩ := hi.add_stale hne ha
    exact (hi.get hs _).inv
  | pop hpop => exact (hi.pop hp hpop).1
  | get i =>
    cases hs : s.stopped with
    | false => exact (hi.get hs i).inv
    | true => rw [get_stopped cfg s i hs]; exact hi
  | evict l i => exact hi.evict l i
  | stop => exact hi.stop

theorem CSteps.inv {cfg : Cfg} (hp : cfg.Purges) {s s' : CLdb} {h h' : List Ver} (hi : CInv s h)
    (hst : CSteps cfg s h s' h') : CInv s' h' := by
  induction hst with
  | refl => exact hi
  | tail _ st ih => exact st.inv hp ih

theorem CReach.inv {cfg : Cfg} (hp : cfg.Purges) {s : CLdb} {h : List Ver} (hr : CReach cfg s h) : CInv s h :=
  CSteps.inv hp CInv.init hr

/-- projection: forgetting heap, caches and views, every step of the cached manager is a step (or no step) of the
    cache-free manager `Ldb` of Model/Versioned.lean -/
theorem CStep.reach {cfg : Cfg} (hp : cfg.Purges) {s s' : CLdb} {h h' : List Ver} (hi : CInv s h)
    (hr : Reach s.ldb h) (hst : CStep cfg s h s' h') : Reach s'.ldb h' := by
  cases hst with
  | add hok ha => exact Reach.add hr hok (hi.add_frontier hok ha).2.1
  | addStale hne ha =>
    obtain ⟨hs, rfl, hadd⟩ := hi.add_stale hne ha
    rw [(hi.get hs _).ldb]
    exact Reach.addStale hr hne hadd
  | pop hpop => exact Reach.pop hr (hi.pop hp hpop).2.1
  | get i =>
    cases hs : s.stopped with
    | false => rw [(hi.get hs i).ldb]; exact hr
    | true => rw [get_stopped cfg s i hs]; exact hr
  | evict l i => cases l <;> exact hr
  | stop => exact hr

theorem CSteps.reach {cfg : Cfg} (hp : cfg.Purges) {s s' : CLdb} {h h' : List Ver} (hi : CInv s h)
    (hr : Reach s.ldb h) (hst : CSteps cfg s h s' h') : Reach s'.ldb h' := by
  induction hst with
  | refl => exact hr
  | tail pre st ih => exact st.reach hp (pre.inv hp hi) ih

theorem CReach.reach {cfg : Cfg} (hp : cfg.Purges) {s : CLdb} {h : List Ver} (hr : CReach cfg s h) :
    Reach s.ldb h :=
  CSteps.reach hp CInv.init Reach.init hr

/-- view `vw`, read through the heap of state `s` (its overlay pointer dereferenced NOW), shows the content `X` -/
structure ViewShows (s : CLdb) (vw : CView) (X : Store) : Prop where
  lt : vw.obj < s.heap.length
  sortedObj : Sorted (objAt s.heap vw.obj)
  sortedSnap : Sorted vw.snap
  shows : viewOf (oabs (objAt s.heap vw.obj)) (KvLogic.abs vw.snap) = X

/-- across a `Get`: if an entry still points to the view's object, both states show the version of that entry
    (`view_live`); if none does, the object has not been written -/
theorem view_step_core {s s' : CLdb} {h : List Ver} (hi : CInv s h) (hi' : CInv s' h) (hx : Extends s s')
    {vw : CView} (hvw : vw ∈ s.views) {X : Store} (hsh : ViewShows s vw X) : ViewShows s' vw X := by
  by_cases href : ∃ e ∈ s'.ents, e.obj = vw.obj
  · obtain ⟨e, he, heo⟩ := href
    obtain ⟨e0, he0, h0⟩ := hx.back e he (heo ▸ hsh.lt)
    obtain ⟨v, hv, hid, _, _, hshow⟩ := hi.view_live he0 hvw (by rw [h0, heo])
    obtain ⟨v', hv', hid', hso', hss', hshow'⟩ := hi'.view_live he (hx.views vw hvw) heo.symm
    have hvv : v' = v := hi.inv.chain.hash_inj hv' hv (by rw [← hid', hid])
    subst hvv
    exact ⟨Nat.lt_of_lt_of_le hsh.lt hx.len, hso', hss', by rw [hshow', ← hshow, hsh.shows]⟩
  · have hobj : objAt s'.heap vw.obj = objAt s.heap vw.obj := by
      simp [objAt, hx.untouched vw.obj hsh.lt (fun e he heo => href ⟨e, he, heo⟩)]
    exact ⟨Nat.lt_of_lt_of_le hsh.lt hx.len, hobj ▸ hsh.sortedObj, hsh.sortedSnap, hobj ▸ hsh.shows⟩

theorem ViewShows.of_heap {s s' : CLdb} {vw : CView} {X : Store} (hh : s'.heap = s.heap) (hsh : ViewShows s vw X) :
    ViewShows s' vw X :=
  ⟨hh ▸ hsh.lt, hh ▸ hsh.sortedObj, hsh.sortedSnap, hh ▸ hsh.shows⟩

/-- one step of the manager — in particular a `Get` that extends the very object the view points to — does not change
    what a view handed out earlier shows -/
theorem CStep.view {cfg : Cfg} (hp : cfg.Purges) {s s' : CLdb} {h h' : List Ver} (hi : CInv s h)
    (hst : CStep cfg s h s' h') {vw : CView} (hvw : vw ∈ s.views) {X : Store} (hsh : ViewShows s vw X) :
    vw ∈ s'.views ∧ ViewShows s' vw X := by
  have hget : ∀ i, s.stopped = false → vw ∈ (s.get cfg i).1.views ∧ ViewShows (s.get cfg i).1 vw X := by
    intro i hs
    have hg := hi.get (cfg := cfg) hs i
    exact ⟨hg.ext.views vw hvw, view_step_core hi hg.inv hg.ext hvw hsh⟩
  cases hst with
  | add hok ha =>
    obtain ⟨_, _, hh, hv, _⟩ := hi.add_frontier hok ha
    exact ⟨by rw [hv]; exact hvw, hsh.of_heap hh⟩
  | addStale hne ha =>
    obtain ⟨hs, rfl, _⟩ := hi.add_stale hne ha
    exact hget _ hs
  | pop hpop =>
    obtain ⟨_, _, hh, hv, _⟩ := hi.pop hp hpop
    exact ⟨by rw [hv]; exact hvw, hsh.of_heap hh⟩
  | get i =>
    cases hs : s.stopped with
    | false => exact hget i hs
    | true => rw [get_stopped cfg s i hs]; exact ⟨hvw, hsh⟩
  | evict l i => cases l <;> exact ⟨hvw, ViewShows.of_heap (s := s) rfl hsh⟩
  | stop => exact ⟨hvw, ViewShows.of_heap (s := s) rfl hsh⟩

theorem CSteps.view {cfg : Cfg} (hp : cfg.Purges) {s s' : CLdb} {h h' : List Ver} (hi : CInv s h)
    (hst : CSteps cfg s h s' h') {vw : CView} (hvw : vw ∈ s.views) {X : Store} (hsh : ViewShows s vw X) :
    vw ∈ s'.views ∧ ViewShows s' vw X := by
  induction hst with
  | refl => exact ⟨hvw, hsh⟩
  | tail pre st ih => exact st.view hp (pre.inv hp hi) ih.1 ih.2

/-- `Get` of a version below the frontier takes the cached path: the answer is a pointer to an overlay object over the
    current snapshot, the view is recorded, and at hand-out it shows the version -/
theorem CInv.get_hist {cfg : Cfg} {s : CLdb} {h : List Ver} (hi : CInv s h) (hs : s.stopped = false) {v : Ver}
    (hv : v ∈ h) (hne : v.id ≠ s.ldb.frontierId) :
    ∃ o, (s.get cfg v.id).2 = some (CRoot.hist o s.ldb.frontier) ∧
      (s.get cfg v.id).1.views = ⟨v.id, s.ldb.frontier, o⟩ :: s.views ∧
      ViewShows (s.get cfg v.id).1 ⟨v.id, s.ldb.frontier, o⟩ v.store := by
  obtain ⟨r, hr, _⟩ := hi.inv.view hv
  have hi' := (hi.get (cfg := cfg) hs v.id).inv
  rcases get_cases cfg s v.id hs with ⟨_, _, _, hz | hf | hn⟩ | ⟨h1, _⟩
  · rw [hi.inv.inv0.hchain.mem_not_zero hv] at hz; cases hz
  · exact absurd hf hne
  · rw [hr] at hn; cases hn
  · obtain ⟨to, o, heap0, hg, _⟩ := getHist_eq cfg s v.id
    rw [h1.trans hg] at hi' ⊢
    -- the entry just filed points to the object of the new view
    obtain ⟨v', hv', hid, hso, hss, hshow⟩ :=
      hi'.view_live (new_ent_mem cfg s v.id to o heap0) (vw := ⟨v.id, s.ldb.frontier, o⟩) List.mem_cons_self rfl
    have hvv : v' = v := hi.inv.chain.hash_inj hv' hv (congrArg Id.hash hid.symm)
    subst hvv
    exact ⟨o, rfl, rfl, hi'.viewsLt _ List.mem_cons_self, hso, hss, hshow⟩

/-! ### 5. whole runs -/

/-- one operation of the CACHE-FREE manager (`Ldb` + the stopped flag): evictions do nothing -/
def stepU (u : Ldb × Bool) : COp → (Ldb × Bool) × CAns
  | .add prev id ops =>
    if u.2 then (u, CAns.err)
    else match u.1.add prev id ops with
      | none => (u, CAns.err)
      | some l => ((l, u.2), CAns.ok)
  | .pop =>
    if u.2 then (u, CAns.err)
    else match u.1.pop with
      | none => (u, CAns.err)
      | some l => ((l, u.2), CAns.ok)
  | .get i => (u, CAns.view (if u.2 then none else u.1.get i))
  | .evict _ _ => (u, CAns.silent)
  | .stop => ((u.1, true), CAns.silent)

def ghostU (h : List Ver) (u : Ldb × Bool) : COp → List Ver
  | .add prev id ops =>
    if u.2 = false ∧ prev = u.1.frontierId ∧ (u.1.add prev id ops).isSome = true then commitVer h id ops :: h else h
  | .pop => if u.2 = false ∧ u.1.pop.isSome = true then h.tail else h
  | _ => h

/-- side conditions of a run, stated on the cache-free manager: every commit on the frontier of a running manager has
    height = frontier height + 1 < 2^64, a hash not on the chain and user keys outside the hash index -/
def OpOkU (h : List Ver) (u : Ldb × Bool) : COp → Prop
  | .add prev id ops => u.2 = false → prev = u.1.frontierId → AddOk u.1.frontierId h id ops
  | _ => True

def ValidU : List Ver → Ldb × Bool → List COp → Prop
  | _, _, [] => True
  | h, u, op :: t => OpOkU h u op ∧ ValidU (ghostU h u op) (stepU u op).1 t

def answersU : Ldb × Bool → List COp → List CAns
  | _, [] => []
  | u, op :: t => (stepU u op).2 :: answersU (stepU u op).1 t

def answersC (cfg : Cfg) : CLdb → List COp → List CAns
  | _, [] => []
  | s, op :: t => (s.step cfg op).2 :: answersC cfg (s.step cfg op).1 t

/-- one operation: the cached manager answers what the cache-free manager answers on the projection, its new projection is
    the cache-free manager's new state, and the invariant is kept for the new ghost history -/
theorem step_sim {cfg : Cfg} (hp : cfg.Purges) {s : CLdb} {h : List Ver} (hi : CInv s h) (op : COp)
    (hv : OpOkU h (s.ldb, s.stopped) op) :
    (s.step cfg op).2 = (stepU (s.ldb, s.stopped) op).2 ∧
    ((s.step cfg op).1.ldb, (s.step cfg op).1.stopped) = (stepU (s.ldb, s.stopped) op).1 ∧
    CInv (s.step cfg op).1 (ghostU h (s.ldb, s.stopped) op) := by
  cases op with
  | add prev id ops =>
    cases hs : s.stopped with
    | true => simp [CLdb.step, stepU, ghostU, add_stopped cfg s prev id ops hs, hs, hi]
    | false =>
      have heq := hi.add_eq (cfg := cfg) hs prev id ops
      cases hl : s.ldb.add prev id ops with
      | none =>
        rw [hl] at heq
        simp [CLdb.step, stepU, ghostU, heq, hl, hs, hi]
      | some l =>
        rw [hl] at heq
        simp only [Option.map_some] at heq
        have hst := (hi.get (cfg := cfg) hs prev).stopped
        have hinv : CInv { (s.get cfg prev).1 with ldb := l } (ghostU h (s.ldb, false) (.add prev id ops)) := by
          by_cases hpf : prev = s.ldb.frontierId
          · have hok : AddOk s.ldb.frontierId h id ops := hv hs hpf
            have hg : ghostU h (s.ldb, false) (.add prev id ops) = commitVer h id ops :: h := by
              simp [ghostU, hpf, hpf ▸ hl]
            rw [hg]
            exact CStep.inv hp hi (CStep.add hok (hpf ▸ heq))
          · have hg : ghostU h (s.ldb, false) (.add prev id ops) = h := by simp [ghostU, hpf]
            rw [hg]
            exact CStep.inv hp hi (CStep.addStale hpf heq)
        simp only [CLdb.step, heq, stepU, hl, Bool.false_eq_true, if_false]
        exact ⟨trivial, by simp [hst], hinv⟩
  | pop =>
    cases hs : s.stopped with
    | true => simp [CLdb.step, stepU, ghostU, CLdb.pop, hs, hi]
    | false =>
      have heq := pop_eq hp s hs
      cases hl : s.ldb.pop with
      | none =>
        rw [hl] at heq
        simp [CLdb.step, stepU, ghostU, heq, hl, hs, hi]
      | some l =>
        rw [hl] at heq
        simp only [Option.map_some] at heq
        cases h with
        | nil => rw [hi.inv.inv0.pop_empty] at hl; cases hl
        | cons v h' =>
          have hinv := CStep.inv hp hi (CStep.pop heq)
          simp only [CLdb.step, heq, stepU, hl, Bool.false_eq_true, if_false, ghostU, Option.isSome_some, and_self,
            if_true, List.tail_cons]
          exact ⟨trivial, by simp [hs], hinv⟩
  | get i =>
    cases hs : s.stopped with
    | true => simp [CLdb.step, stepU, ghostU, get_stopped cfg s i hs, hs, hi]
    | false =>
      have hg := hi.get (cfg := cfg) hs i
      simp only [CLdb.step, stepU, ghostU, Bool.false_eq_true, if_false]
      exact ⟨by rw [hg.answer], by rw [hg.ldb, hg.stopped], hg.inv⟩
  | evict l i =>
    refine ⟨rfl, ?_, hi.evict l i⟩
    cases l <;> rfl
  | stop => exact ⟨rfl, rfl, hi.stop⟩

/-- whole runs: from an invariant state, every operation of every valid run gets the same answer from the cached manager
    as from the cache-free manager -/
theorem answersC_eq_answersU {cfg : Cfg} (hp : cfg.Purges) (ops : List COp) :
    ∀ {s : CLdb} {h : List Ver}, CInv s h → ValidU h (s.ldb, s.stopped) ops →
      answersC cfg s ops = answersU (s.ldb, s.stopped) ops := by
  induction ops with
  | nil => intro s h _ _; rfl
  | cons op t ih =>
    intro s h hi hv
    obtain ⟨ha, hproj, hinv⟩ := step_sim hp hi op hv.1
    simp only [answersC, answersU]
    rw [ha, ih hinv (by rw [hproj]; exact hv.2), hproj]

def dropEvicts (ops : List COp) : List COp :=
  ops.filter (fun op => match op with | .evict _ _ => false | _ => true)

/-- the answers that say something (evictions and `Stop` are silent) -/
def loud (as : List CAns) : List CAns :=
  as.filter (fun a => match a with | .silent => false | _ => true)

theorem dropEvicts_evict (l : Bool) (i : Id) (t : List COp) : dropEvicts (.evict l i :: t) = dropEvicts t := rfl

theorem loud_cons (a : CAns) (as : List CAns) : loud (a :: as) = loud [a] ++ loud as :=
  List.filter_append [a] as

theorem validU_dropEvicts (ops : List COp) : ∀ (h : List Ver) (u : Ldb × Bool),
    ValidU h u ops ↔ ValidU h u (dropEvicts ops) := by
  induction ops with
  | nil => intro h u; exact Iff.rfl
  | cons op t ih =>
    intro h u
    cases op with
    | evict l i => rw [dropEvicts_evict, ← ih]; exact and_iff_right trivial
    | _ => exact and_congr Iff.rfl (ih _ _)

theorem answersU_dropEvicts (ops : List COp) : ∀ (u : Ldb × Bool),
    loud (answersU u ops) = loud (answersU u (dropEvicts ops)) := by
  induction ops with
  | nil => intro u; rfl
  | cons op t ih =>
    intro u
    cases op with
    | evict l i => rw [dropEvicts_evict, ← ih]; rfl
    | _ =>
      show loud (_ :: answersU _ t) = loud (_ :: answersU _ (dropEvicts t))
      rw [loud_cons, loud_cons _ (answersU _ (dropEvicts t)), ih]

end ZV.VersionedCache
