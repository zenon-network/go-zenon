import ZenonVerif.Lemmas.Abi
/-
Lemmas for C09 `unpack_pack`: decoding the canonical encoding (Arguments.Pack, which every ValidateSendBlock re-packs the
call data with) returns the encoded values.

`At data p x` says that `x` stands in the buffer at offset `p`; a canonical encoding is described by where its head words
and its tail stand. The decoder's equations of Lemmas/Abi.lean are evaluated at those places: a static argument reads its
own word back (`readWord_pack`), a dynamic one follows the offset in its head word (`DynOK`). One induction over the
argument loop (`packArgsLoop_canonical`) gives the round trip for tuples; a slice `[]e` is a length word followed by the
encoding of the tuple `(e, …, e)` (`packElems_tuple`, `unpackLoop_tuple`).
-/
namespace ZV.Abi
open ZV

theorem leBytes_take (w k n : Nat) (h : k ≤ w) : (leBytes w n).take k = leBytes k n := by
  induction k generalizing w n with
  | zero => rfl
  | succ k ih =>
    obtain ⟨w, rfl⟩ : ∃ w', w = w' + 1 := ⟨w - 1, by omega⟩
    exact congrArg (n % 256 :: ·) (ih w (n / 256) (by omega))

theorem beBytes_drop (d n : Nat) : (beBytes 32 n).drop d = beBytes (32 - d) n := by
  unfold beBytes
  rw [List.drop_reverse, leBytes_length, leBytes_take 32 _ n (Nat.sub_le ..)]

theorem packNum_length (n : Int) : (packNum n).length = 32 := beBytes_length 32 _

theorem packNum_nat (n : Nat) : packNum (n : Int) = beBytes 32 (n % two256) := by
  unfold packNum; rw [← Int.natCast_emod, Int.toNat_natCast]

theorem beVal_packNum {n : Nat} (h : n < two256) : beVal (packNum (n : Int)) = n := by
  rw [packNum_nat, beVal_beBytes, Nat.mod_eq_of_lt h]; exact Nat.mod_eq_of_lt h

/-- `x` stands in `data` at offset `p` -/
def At (data : Bytes) (p : Nat) (x : Bytes) : Prop := ∃ A B, data = A ++ x ++ B ∧ A.length = p

theorem At.left {data x y : Bytes} {p : Nat} : At data p (x ++ y) → At data p x
  | ⟨A, B, h, hA⟩ => ⟨A, y ++ B, by rw [h]; simp only [List.append_assoc], hA⟩

theorem At.right {data x y : Bytes} {p q : Nat} (hq : q = p + x.length) : At data p (x ++ y) → At data q y
  | ⟨A, B, h, hA⟩ => ⟨A ++ x, B, by rw [h]; simp only [List.append_assoc], by rw [List.length_append, hA, hq]⟩

theorem At.length_le {data x : Bytes} {p : Nat} : At data p x → p + x.length ≤ data.length
  | ⟨A, B, h, hA⟩ => by rw [h, List.length_append, List.length_append, hA]; omega

theorem At.drop_take {data x : Bytes} {p : Nat} : At data p x → (data.drop p).take x.length = x
  | ⟨A, B, h, hA⟩ => by rw [h, List.append_assoc, List.drop_left' hA, List.take_left]

theorem At.drop {data x : Bytes} {p : Nat} : At data p x → At (data.drop p) 0 x
  | ⟨A, B, h, hA⟩ => ⟨[], B, by rw [h, List.append_assoc, List.drop_left' hA]; rfl, rfl⟩

theorem goSlice_at {data x : Bytes} {p : Nat} (h : At data p x) {lo hi : Int} (hlo : lo = p)
    (hhi : hi = (p + x.length : Nat)) : goSlice data lo hi = .ok x := by
  subst hlo; subst hhi
  rw [goSlice_nat data (by omega) h.length_le, Nat.add_sub_cancel_left, h.drop_take]

theorem toGoType_static_at {t : Ty} (ht : t.isStaticElem = true) {data w : Bytes} {p : Nat} (h : At data p w)
    (hw : w.length = 32) (hb : (p : Int) ≤ idxBound) : toGoType t p data = readWord t w := by
  have h1 := h.length_le
  have h2 := h.drop_take
  rw [hw] at h1 h2
  rw [toGoType_static ht hb, if_neg (by omega), h2]

theorem leftPad_eq (b : Bytes) (l : Nat) : leftPad b l = List.replicate (l - b.length) 0 ++ b := by
  unfold leftPad
  split
  · rw [show l - b.length = 0 by omega]; rfl
  · rfl

theorem rightPad_eq (b : Bytes) (l : Nat) : rightPad b l = b ++ List.replicate (l - b.length) 0 := by
  unfold rightPad
  split
  · rw [show l - b.length = 0 by omega]; exact (List.append_nil b).symm
  · rfl

/-- a canonical dynamic head: the head word at `i` holds the offset `o`, and at `o` stands `packBytesSlice x n` — a length
    word `n` and then `x` (padded) with at least `n` bytes. `lengthPrefixPointsTo` returns where `x` stands, and `n`. -/
theorem lpp_packBytesSlice {data x : Bytes} {i o n : Nat} (hH : At data i (packNum (o : Int)))
    (hT : At data o (packBytesSlice x n)) (hn : n ≤ x.length) (hlen : data.length ≤ maxAlloc) :
    i + 32 ≤ data.length ∧ At data (o + 32) x ∧
      lengthPrefixPointsTo i data = .ok (((o + 32 : Nat) : Int), (n : Int)) := by
  rw [packBytesSlice, rightPad_eq] at hT
  have h1 := hH.length_le
  have h2 := hT.length_le
  have h3 := hH.drop_take
  have h4 := hT.left.drop_take
  have hA := maxAlloc_eq
  have hlt : ∀ m, m ≤ data.length → m < two256 := fun m hm =>
    Nat.lt_of_le_of_lt (Nat.le_trans hm hlen) (by decide)
  rw [List.length_append, List.length_append, packNum_length] at h2
  rw [packNum_length] at h1 h3 h4
  refine ⟨h1, (hT.right (by rw [packNum_length])).left, ?_⟩
  rw [lpp_eq (off := o) (ln := n) (by omega) hlen (by rw [h3, beVal_packNum (hlt o (by omega))])
    (by rw [h4, beVal_packNum (hlt n (by omega))]), if_neg (by omega)]

/-- the values a decoded argument of type `t` can have (the Go type's range) -/
def HasTy : Ty → Val → Prop
  | .uint bits, .num n => (bits = 8 ∨ bits = 16 ∨ bits = 32 ∨ bits = 64 ∨ bits = 256) ∧ 0 ≤ n ∧ n < ((2 ^ bits : Nat) : Int)
  | .int bits, .num n => (bits = 32 ∨ bits = 64) ∧ -((2 ^ (bits - 1) : Nat) : Int) ≤ n ∧ n < ((2 ^ (bits - 1) : Nat) : Int)
  | .bool, .bool _ => True
  | .address, .bytes b => b.length = 20
  | .tokenStandard, .bytes b => b.length = 10
  | .hash, .bytes b => b.length = 32
  | .fixedBytes k, .bytes b => b.length = k ∧ k ≤ 32
  | .string, .bytes _ => True
  | .bytes, .bytes _ => True
  | .slice e, .list vs => ∀ v ∈ vs, HasTy e v
  | _, _ => False

/-- a machine-width integer read back from the word that holds `m`: `m` reduced to the width -/
theorem readInteger_machine (sg : Bool) {bits : Nat} (hb : bits = 8 ∨ bits = 16 ∨ bits = 32 ∨ bits = 64) (m : Nat) :
    readInteger sg bits (beBytes 32 m) =
      .ok (.num (if sg then signed bits (m % 2 ^ bits) else ((m % 2 ^ bits : Nat) : Int))) := by
  rw [readInteger_word sg bits (beBytes_length 32 m), if_pos hb, beBytes_drop, beVal_beBytes]
  rcases hb with rfl | rfl | rfl | rfl <;> rfl

theorem signed_wrap {bits : Nat} (hb : bits = 32 ∨ bits = 64) (n : Int)
    (h1 : -((2 ^ (bits - 1) : Nat) : Int) ≤ n) (h2 : n < ((2 ^ (bits - 1) : Nat) : Int)) :
    signed bits ((n % (two256 : Int)).toNat % 2 ^ bits) = n := by
  unfold signed two256
  rcases hb with rfl | rfl <;> (simp only [Nat.reduceSub, Nat.reducePow] at h1 h2 ⊢; split <;> omega)

/-- a well-typed static value packs into one word, and the word reads back as the value -/
theorem readWord_pack (t : Ty) (ht : t.isStaticElem = true) (v : Val) (h : HasTy t v) :
    ∃ w, pack t v = some w ∧ w.length = 32 ∧ readWord t w = .ok v := by
  -- `address`, `tokenStandard`, `hash`: the low `k` bytes of the left-padded word
  have hleft : ∀ (b : Bytes) (k : Nat), b.length = k → k ≤ 32 →
      (leftPad b 32).length = 32 ∧ goSlice (leftPad b 32) (wordSize - k) wordSize = .ok b := by
    intro b k hk hk32
    subst hk
    rw [leftPad_eq]
    exact ⟨by rw [List.length_append, List.length_replicate, Nat.sub_add_cancel hk32],
      goSlice_at ⟨_, [], (List.append_nil _).symm, List.length_replicate⟩ (Int.ofNat_sub hk32).symm
        (by rw [Nat.sub_add_cancel hk32]; rfl)⟩
  match t, v, ht, h with
  | .uint bits, .num n, _, ⟨hb, h0, hn⟩ =>
    obtain ⟨m, rfl⟩ := Int.eq_ofNat_of_zero_le h0
    have hm : m < 2 ^ bits := Int.ofNat_lt.1 hn
    have hm256 : m < two256 := Nat.lt_of_lt_of_le hm (Nat.pow_le_pow_right (by omega) (by omega))
    refine ⟨packNum m, rfl, packNum_length _, ?_⟩
    rw [packNum_nat, Nat.mod_eq_of_lt hm256]
    show readInteger false bits (beBytes 32 m) = _
    by_cases h256 : bits = 256
    · subst h256
      rw [readInteger_word _ _ (beBytes_length 32 m), if_neg (by decide), beVal_beBytes]
      exact congrArg (fun x : Nat => Res.ok (Val.num x)) (Nat.mod_eq_of_lt hm256)
    · rw [readInteger_machine false (by omega), Nat.mod_eq_of_lt hm]; rfl
  | .int bits, .num n, _, ⟨hb, h1, h2⟩ =>
    refine ⟨packNum n, rfl, packNum_length _, ?_⟩
    show readInteger true bits (beBytes 32 _) = _
    rw [readInteger_machine true (by omega), if_pos rfl, signed_wrap hb n h1 h2]
  | .bool, .bool b, _, _ => exact ⟨_, rfl, packNum_length _, by cases b <;> rfl⟩
  | .address, .bytes b, _, h =>
    obtain ⟨hl, hs⟩ := hleft b Gen.abiAddressSize h (by decide)
    exact ⟨_, if_pos h, hl, by rw [readWord, hs]; rfl⟩
  | .tokenStandard, .bytes b, _, h =>
    obtain ⟨hl, hs⟩ := hleft b Gen.abiTokenStandardSize h (by decide)
    exact ⟨_, if_pos h, hl, by rw [readWord, hs]; rfl⟩
  | .hash, .bytes b, _, h =>
    obtain ⟨hl, hs⟩ := hleft b Gen.abiHashSize h (by decide)
    exact ⟨_, if_pos h, hl, by rw [readWord, hs, Res.bind_ok, if_pos (show b.length = Gen.abiHashSize from h)]; rfl⟩
  | .fixedBytes k, .bytes b, _, ⟨h, hk⟩ =>
    refine ⟨_, if_pos h, ?_, ?_⟩
    · rw [rightPad_eq, List.length_append, List.length_replicate]; omega
    · have hat : At (b ++ List.replicate (32 - b.length) 0) 0 b := ⟨[], _, rfl, rfl⟩
      rw [readWord, readFixedBytes, rightPad_eq, goSlice_at hat (lo := 0) (hi := k) rfl (by rw [h, Nat.zero_add])]
      rfl

/-- decoding a canonical dynamic argument of type `t`: the head word at `|A0|` holds the offset `o`, and at `o` stands the
    packed value -/
def DynOK (t : Ty) : Prop :=
  ∀ (v : Val) (p : Bytes), HasTy t v → pack t v = some p →
    ∀ (data A0 B0 A B : Bytes) (o : Nat), data = A0 ++ packNum (o : Int) ++ B0 → data = A ++ p ++ B → A.length = o →
      data.length ≤ maxAlloc → (A0.length : Int) ≤ idxBound → toGoType t (A0.length : Int) data = .ok v

/-- `DynOK` spells its two decompositions out; this is the form in which it is used -/
theorem DynOK.at {t : Ty} (h : DynOK t) {v : Val} {p data : Bytes} {i o : Nat} (hv : HasTy t v) (hp : pack t v = some p)
    (hH : At data i (packNum (o : Int))) (hT : At data o p) (hlen : data.length ≤ maxAlloc) (hi : (i : Int) ≤ idxBound) :
    toGoType t i data = .ok v := by
  obtain ⟨A0, B0, hd1, rfl⟩ := hH
  obtain ⟨A, B, hd2, hA⟩ := hT
  exact h v p hv hp data A0 B0 A B o hd1 hd2 hA hlen hi

/-- argument types `unpack_pack` speaks of: the static elementary types, and every dynamic type that has the decoding
    property `DynOK`. For a dynamic type this is a property to be proved, not a shape: `Ty.flatb_sound` proves it for `string`,
    `bytes` and slices (of slices …) of flat types. -/
def Ty.Flat (t : Ty) : Prop := t.isStaticElem = true ∨ (t.isDynamic = true ∧ DynOK t)

theorem flat_dynamic {t : Ty} (h : t.Flat) (hd : t.isDynamic = true) : DynOK t := by
  rcases h with h | h
  · cases t <;> cases h <;> cases hd
  · exact h.2

theorem flat_static {t : Ty} (h : t.Flat) (hd : ¬ t.isDynamic = true) : t.isStaticElem = true :=
  h.resolve_right fun h => hd h.1

theorem not_array_of_flat {t : Ty} (h : t.Flat) (n : Nat) (e : Ty) : t ≠ .array n e := by
  rintro rfl
  rcases h with h | h
  · cases h
  · cases h.1

theorem dynOK_bytes {t : Ty} (ht : t = .string ∨ t = .bytes) : DynOK t := by
  intro v p _ hp data A0 B0 A B o hd1 hd2 hA hlen hidx
  obtain ⟨b, rfl, rfl⟩ : ∃ b, v = .bytes b ∧ p = packBytesSlice b b.length := by
    rcases ht with rfl | rfl <;> cases v <;> cases hp <;> exact ⟨_, rfl, rfl⟩
  obtain ⟨h1, hb, hlpp⟩ := lpp_packBytesSlice ⟨A0, B0, hd1, rfl⟩ ⟨A, B, hd2, hA⟩ (Nat.le_refl _) hlen
  have h2 := hb.length_le
  have hA := maxAlloc_eq
  rw [toGoType_bytes ht hidx, if_neg (by omega), hlpp, Res.bind_ok]
  dsimp only
  rw [goSlice_at hb rfl (iadd_nat (by omega) (by omega))]
  rfl

/-- a flat argument in a canonical buffer: its head is one word — the packed value itself (static) or the offset `o` of
    the packed value (dynamic) — and `toGoType` at the head returns the value -/
theorem flat_decode {t : Ty} (ht : t.Flat) {v : Val} {p : Bytes} (hv : HasTy t v) (hp : pack t v = some p) (o : Nat) :
    (if t.isDynamic then packNum (o : Int) else p).length = 32 ∧
    ∀ {data : Bytes} {i : Nat}, At data i (if t.isDynamic then packNum (o : Int) else p) →
      At data o (if t.isDynamic then p else []) → data.length ≤ maxAlloc → (i : Int) ≤ idxBound →
      toGoType t i data = .ok v := by
  by_cases hd : t.isDynamic = true
  · simp only [if_pos hd]
    exact ⟨packNum_length _, fun hH hT hlen hi => (flat_dynamic ht hd).at hv hp hH hT hlen hi⟩
  · obtain ⟨w, hw1, hw2, hw3⟩ := readWord_pack t (flat_static ht hd) v hv
    cases hp.symm.trans hw1
    simp only [if_neg hd]
    exact ⟨hw2, fun hH _ _ hi => by rw [toGoType_static_at (flat_static ht hd) hH hw2 hi, hw3]⟩

/-- the argument values have the arguments' types -/
inductive HasTys : List Ty → List Val → Prop where
  | nil : HasTys [] []
  | cons {t : Ty} {v : Val} {ts : List Ty} {vs : List Val} : HasTy t v → HasTys ts vs → HasTys (t :: ts) (v :: vs)

/-- one step of the argument loop of `Arguments.Pack`: a dynamic argument puts its offset into the head and its packed
    value at the end of the tail, a static one its packed value into the head -/
theorem packArgsLoop_cons {io : Nat} {t : Ty} {ts : List Ty} {v : Val} {vs : List Val} {vi ret vi' : Bytes} :
    packArgsLoop io (t :: ts) (v :: vs) vi = some (ret, vi') ↔
    ∃ p ret', pack t v = some p ∧
      packArgsLoop io ts vs (vi ++ if t.isDynamic then p else []) = some (ret', vi') ∧
      ret = (if t.isDynamic then packNum (io + vi.length : Nat) else p) ++ ret' := by
  rw [packArgsLoop]
  cases pack t v <;> by_cases hd : t.isDynamic = true <;>
    simp only [hd, ↓reduceIte, Bool.false_eq_true, Option.pure_def, Option.bind_eq_bind, Option.bind_none, Option.bind_some,
      Option.bind_eq_some_iff, reduceCtorEq, false_and, exists_const, Option.some.injEq, Prod.mk.injEq, Prod.exists,
      exists_eq_right_right, Int.natCast_add, List.append_nil, eq_comm (a := ret), exists_and_left, exists_eq_left']

theorem argWords_flat {t : Ty} (h : t.Flat) : argWords t = 1 :=
  argWords_of_not_array (not_array_of_flat h)

/-- a flat argument occupies one head word and leaves `virtualArgs` at 0 -/
theorem unpackValues_cons_flat {t : Ty} (ht : t.Flat) (ts : List Ty) (k : Nat) (data : Bytes)
    (hk : k < maxAlloc) :
    unpackValues (t :: ts) k (0 : Nat) data =
      toGoType t (k * 32 : Nat) data >>= fun v =>
        unpackValues ts (k + 1 : Nat) (0 : Nat) data >>= fun vs => pure (v :: vs) := by
  rw [unpackValues_cons t ts k 0 data (fun n e h => absurd h (not_array_of_flat ht n e))
    (by rw [argWords_flat ht]; omega), argWords_flat ht]
  rfl

/-- `Arguments.Pack` of well-typed flat arguments appends to the tail, emits one head word per argument, and wherever the
    heads stand at word `k` of a buffer and the new tail at the offset the heads were computed for, `UnpackValues` from
    word `k` returns the values -/
theorem packArgsLoop_canonical (io : Nat) (tys : List Ty) (vs : List Val) (vi ret vi' : Bytes)
    (hflat : ∀ t ∈ tys, t.Flat) (hty : HasTys tys vs) (hp : packArgsLoop io tys vs vi = some (ret, vi')) :
    ∃ T, vi' = vi ++ T ∧ ret.length = 32 * tys.length ∧
      ∀ (data : Bytes) (k : Nat), data.length ≤ maxAlloc → At data (k * 32) ret → At data (io + vi.length) T →
        unpackValues tys k (0 : Nat) data = .ok vs := by
  induction tys generalizing vs vi ret vi' with
  | nil =>
    cases hty
    cases hp
    exact ⟨[], (List.append_nil _).symm, rfl, fun _ _ _ _ _ => rfl⟩
  | cons t ts ih =>
    cases hty with
    | cons hv hvs =>
      rename_i v vs'
      obtain ⟨hft, hfts⟩ := List.forall_mem_cons.1 hflat
      obtain ⟨p, ret', hpk, hr, rfl⟩ := packArgsLoop_cons.1 hp
      obtain ⟨T', hvi', hl, hdec⟩ := ih vs' _ ret' vi' hfts hvs hr
      obtain ⟨hhd, hdecode⟩ := flat_decode hft hv hpk (io + vi.length)
      refine ⟨(if t.isDynamic then p else []) ++ T', by rw [hvi', List.append_assoc], ?_, ?_⟩
      · rw [List.length_append, hhd, hl, List.length_cons]; omega
      · intro data k hlen hH hT
        have hb := hH.length_le
        have hA := maxAlloc_eq
        rw [List.length_append, hhd] at hb
        rw [unpackValues_cons_flat hft ts k data (by omega),
          hdecode hH.left hT.left hlen (le_idxBound.2 (by omega)), Res.bind_ok,
          hdec data (k + 1) hlen (hH.right (by rw [hhd]; omega)) (hT.right (by rw [List.length_append]; omega)),
          Res.bind_ok]
        rfl

theorem headSize_flat (tys : List Ty) (h : ∀ t ∈ tys, t.Flat) : headSize tys = 32 * tys.length := by
  induction tys with
  | nil => rfl
  | cons t ts ih =>
    obtain ⟨hft, hfts⟩ := List.forall_mem_cons.1 h
    have : headSize (t :: ts) = 32 + headSize ts := by
      cases t <;> first | rfl | exact absurd rfl (not_array_of_flat hft _ _)
    rw [this, ih hfts, List.length_cons]; omega

/-- `Arguments.Pack` of flat arguments is the head block followed by the tail block, one head word per argument -/
theorem packArgs_eq {tys : List Ty} {vs : List Val} {data : Bytes}
    (hflat : ∀ t ∈ tys, t.Flat) (hty : HasTys tys vs) (hp : packArgs tys vs = some data) :
    ∃ ret T, data = ret ++ T ∧ ret.length = 32 * tys.length ∧
      ∀ data' k, data'.length ≤ maxAlloc → At data' (k * 32) ret → At data' (32 * tys.length) T →
        unpackValues tys k (0 : Nat) data' = .ok vs := by
  unfold packArgs at hp
  obtain ⟨⟨ret, vi⟩, hr, h⟩ := Option.bind_eq_some_iff.1 hp
  cases h
  rw [headSize_flat tys hflat] at hr
  obtain ⟨T, hT, hl, hdec⟩ := packArgsLoop_canonical _ tys vs [] ret vi hflat hty hr
  exact ⟨ret, T, by rw [hT]; rfl, hl, hdec⟩

/-- decoding the canonical encoding returns the encoded values (flat argument types) -/
theorem unpack_packArgs (tys : List Ty) (vs : List Val) (data : Bytes)
    (hflat : ∀ t ∈ tys, t.Flat) (hty : HasTys tys vs) (hp : packArgs tys vs = some data)
    (hlen : data.length ≤ maxAlloc) (hne : tys ≠ []) : unpack tys data = .ok vs := by
  obtain ⟨ret, T, rfl, hl, hdec⟩ := packArgs_eq hflat hty hp
  unfold unpack
  rw [show unpackValues tys 0 0 (ret ++ T) = _ from
    hdec _ 0 hlen ⟨[], T, rfl, rfl⟩ ⟨ret, [], (List.append_nil _).symm, hl⟩, Res.bind_ok,
    if_neg (by rw [List.length_eq_zero_iff]; exact hne)]
  rfl

/-- `UnpackMethod` of `PackMethod` -/
theorem unpackMethod_packMethod (sel : Bytes) (hsel : sel.length = 4) (tys : List Ty) (vs : List Val) (input : Bytes)
    (hflat : ∀ t ∈ tys, t.Flat) (hty : HasTys tys vs) (hp : packMethod sel tys vs = some input)
    (hlen : input.length ≤ maxAlloc) (hne : tys ≠ []) :
    unpackMethod sel tys input = .ok vs := by
  unfold packMethod at hp
  obtain ⟨data, ha, h⟩ := Option.bind_eq_some_iff.1 hp
  cases h
  obtain ⟨ret, T, hdata, hl, _⟩ := packArgs_eq hflat hty ha
  have hpos : 0 < tys.length := List.length_pos_iff.2 hne
  have hil : (sel ++ data).length = 4 + data.length := by rw [List.length_append, hsel]
  have hdl : data.length = 32 * tys.length + T.length := by rw [hdata, List.length_append, hl]
  have hs : At (sel ++ data) 0 sel := ⟨[], data, rfl, rfl⟩
  unfold unpackMethod
  rw [if_neg (by omega), goSlice_at hs (lo := 0) (hi := 4) rfl (by rw [hsel]; rfl), Res.bind_ok, if_pos rfl,
    show goSliceFrom (sel ++ data) 4 = _ from goSliceFrom_nat _ (lo := 4) (by omega), Res.bind_ok,
    List.drop_left' hsel]
  exact unpack_packArgs tys vs data hflat hty ha (by omega) hne

/-! slices: the element block of `[]e` is the encoding of the tuple `(e, …, e)` -/

theorem hasTys_replicate {e : Ty} : ∀ {vs : List Val}, (∀ v ∈ vs, HasTy e v) → HasTys (List.replicate vs.length e) vs
  | [], _ => .nil
  | _ :: _, h => have ⟨hv, hvs⟩ := List.forall_mem_cons.1 h; .cons hv (hasTys_replicate hvs)

/-- the element loop of `Type.pack` is the argument loop of `Arguments.Pack` at the uniform type: offsets and tail for
    dynamic elements, the head alone for static ones -/
theorem packElems_tuple (e : Ty) (io : Nat) (vs : List Val) (offset : Nat) (vi offs packed : Bytes)
    (hoff : e.isDynamic = true → offset = io + vi.length)
    (h : packElems (pack e) e.isDynamic vs offset = some (offs, packed)) :
    ∃ ret T, packArgsLoop io (List.replicate vs.length e) vs vi = some (ret, vi ++ T) ∧ offs ++ packed = ret ++ T ∧
      (if e.isDynamic then offs = ret ∧ packed = T else offs = [] ∧ packed = ret ∧ T = []) := by
  induction vs generalizing offset vi offs packed with
  | nil =>
    cases h
    exact ⟨[], [], by rw [List.append_nil]; rfl, rfl, by split <;> simp⟩
  | cons v vs ih =>
    unfold packElems at h
    obtain ⟨val, hv, h⟩ := Option.bind_eq_some_iff.1 h
    obtain ⟨⟨offs', packed'⟩, hr, h⟩ := Option.bind_eq_some_iff.1 h
    cases h
    rw [List.length_cons, List.replicate_succ]
    by_cases hd : e.isDynamic = true
    · obtain ⟨ret', T', hl, _, hc⟩ := ih (offset + val.length) (vi ++ val) offs' packed'
        (fun _ => by rw [List.length_append, hoff hd, Nat.add_assoc]) hr
      simp only [if_pos hd] at hc ⊢
      obtain ⟨rfl, rfl⟩ := hc
      rw [hoff hd]
      refine ⟨_, val ++ packed', packArgsLoop_cons.2 ⟨val, offs', hv, ?_, rfl⟩, ?_, ?_, rfl⟩
      · rw [if_pos hd, hl, List.append_assoc]
      · rw [if_pos hd]
      · rw [if_pos hd]
    · obtain ⟨ret', T', hl, _, hc⟩ := ih (offset + val.length) vi offs' packed' (fun h => absurd h hd) hr
      simp only [if_neg hd] at hc ⊢
      obtain ⟨rfl, rfl, rfl⟩ := hc
      refine ⟨_, [], packArgsLoop_cons.2 ⟨val, packed', hv, by simpa only [if_neg hd, List.append_nil] using hl, rfl⟩, ?_, rfl, ?_, rfl⟩
      · rw [if_neg hd]; simp only [List.append_nil, List.nil_append]
      · rw [if_neg hd]

/-- the element loop of `forEachUnpack` over one-word elements is `UnpackValues` at the uniform type -/
theorem unpackLoop_tuple {e : Ty} (he : e.Flat) (data : Bytes) (n k : Nat) (hk : (k + n) * 32 ≤ maxAlloc) :
    unpackLoop (toGoType e) wordSize data (k * 32 : Nat) n = unpackValues (List.replicate n e) k (0 : Nat) data := by
  induction n generalizing k with
  | zero => rfl
  | succ n ih =>
    have hA := maxAlloc_eq
    rw [List.replicate_succ, unpackValues_cons_flat he _ k data (by omega), ← ih (k + 1) (by omega), unpackLoop,
      wordSize_eq, iadd_nat (c := (k + 1) * 32) (by omega) (by omega)]

theorem typeSize_dynamic {e : Ty} (h : e.isDynamic = true) : typeSize e = 32 := by
  cases e <;> first | rfl | cases h

theorem dynOK_slice {e : Ty} (he : e.Flat) : DynOK (.slice e) := by
  intro v p hv hp data A0 B0 A B o hd1 hd2 hA hlen hidx
  match v, hv, hp with
  | .list vs, hv, hp =>
    unfold pack at hp
    obtain ⟨⟨offs, packed⟩, hpe, hp⟩ := Option.bind_eq_some_iff.1 hp
    cases hp
    -- the element block is the head and tail of the tuple encoding
    obtain ⟨ret, T, hloop, hbody, _⟩ := packElems_tuple e (32 * vs.length) vs _ [] offs packed
      (fun hd => by rw [if_pos hd, typeSize_dynamic hd]; rfl) hpe
    obtain ⟨T', hT', hl, hdec⟩ := packArgsLoop_canonical _ _ vs [] ret _
      (fun t ht => List.eq_of_mem_replicate ht ▸ he) (hasTys_replicate hv) hloop
    cases List.append_cancel_left hT'
    rw [List.length_replicate] at hl
    obtain ⟨h1, hx, hlpp⟩ := lpp_packBytesSlice ⟨A0, B0, hd1, rfl⟩ ⟨A, B, hd2, hA⟩
      (by rw [hbody, List.length_append, hl]; omega) hlen
    rw [hbody] at hx
    -- the sub-buffer `output[o+32:]` begins with the element block
    have hsub := hx.drop
    have h2 := hx.length_le
    have h3 := hsub.length_le
    have hA := maxAlloc_eq
    have hsl : (data.drop (o + 32)).length ≤ maxAlloc := by rw [List.length_drop]; omega
    rw [List.length_append, hl] at h2 h3
    rw [toGoType_slice e hidx, if_neg (by omega), hlpp, Res.bind_ok]
    dsimp only
    rw [goSliceFrom_nat data (by omega), Res.bind_ok, show (0 : Int) = ((0 : Nat) : Int) from rfl,
      forEachUnpack_eq _ _ _ hsl (by omega) (by omega), if_neg (by omega),
      show ((0 : Nat) : Int) = ((0 * 32 : Nat) : Int) from rfl, unpackLoop_tuple he _ _ 0 (by omega),
      hdec _ 0 hsl hsub.left (hsub.right (by rw [hl, Nat.zero_add]; rfl))]
    rfl

/-- executable form of `Ty.Flat`: static elementary types, `string`, `bytes`, and slices (of slices …) of those -/
def Ty.flatb : Ty → Bool
  | .string => true
  | .bytes => true
  | .slice e => e.isStaticElem || (e.isDynamic && e.flatb)
  | t => t.isStaticElem

theorem Ty.flatb_sound (t : Ty) (h : t.flatb = true) : t.Flat := by
  induction t with
  | string => exact .inr ⟨rfl, dynOK_bytes (.inl rfl)⟩
  | bytes => exact .inr ⟨rfl, dynOK_bytes (.inr rfl)⟩
  | slice e ih =>
    simp only [Ty.flatb, Bool.or_eq_true, Bool.and_eq_true] at h
    exact .inr ⟨rfl, dynOK_slice (h.elim .inl fun h => ih h.2)⟩
  | array n e _ => cases h
  | _ => exact .inl h

end ZV.Abi
