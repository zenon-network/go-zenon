import ZenonVerif.Model.LedgerNode
import ZenonVerif.Lemmas.LedgerInbox
/-
Invariants of the node-level ledger (`Model/LedgerNode.lean`): the version stack is consistent with the momentum
contents, the pool applies on the frontier, stored inbox counters refine the list view, stored markers are the markers of
the confirmed receives. By induction over event lists, version stacks and, last, operation lists.
-/
namespace ZV.LedgerNode
open ZV.Ledger

variable {st st' b v v' w g : Store} {e : Ev} {es : List Ev} {n n' : Node} {p : Pool} {c : Addr} {s s' s0 : State}

theorem confirmEv_ok (h : confirmEv st e = .ok st') :
    Admissible st.led e ∧ step st.led e = .ok st'.led ∧ st'.seq = seqPush (seqPop st.seq e) e.newSends := by
  unfold confirmEv at h
  split at h
  · rename_i ha
    split at h
    · cases h
    · rename_i led' hs
      cases h
      exact ⟨ha, hs, rfl⟩
  · cases h

theorem confirmAll_cons_ok (h : confirmAll st (e :: es) = .ok st') :
    ∃ s1, confirmEv st e = .ok s1 ∧ confirmAll s1 es = .ok st' := by
  simp only [confirmAll] at h
  split at h
  · cases h
  · rename_i s1 h1; exact ⟨s1, h1, h⟩

/-- an invariant of every accepted step is an invariant of the fold -/
theorem foldlM_ok_induction {σ α ε : Type} {f : σ → α → Except ε σ} {P : σ → Prop}
    (hstep : ∀ {s s' : σ} {a : α}, f s a = .ok s' → P s → P s') :
    ∀ {l : List α} {s s' : σ}, l.foldlM f s = .ok s' → P s → P s'
  | [], s, s', h, hp => by cases h; exact hp
  | a :: l, s, s', h, hp => by
    rw [List.foldlM_cons] at h
    cases h1 : f s a with
    | error e => rw [h1] at h; cases h
    | ok s1 => rw [h1] at h; exact foldlM_ok_induction hstep h (hstep h1 hp)

theorem foldlM_snoc_ok {σ α ε : Type} {f : σ → α → Except ε σ} {l : List α} {a : α} {s s1 s2 : σ}
    (h1 : l.foldlM f s = .ok s1) (h2 : f s1 a = .ok s2) : (l ++ [a]).foldlM f s = .ok s2 := by
  rw [List.foldlM_append, h1]
  show f s1 a >>= pure = _
  rw [h2]; rfl

/-- `confirmAll`, `poolAll`, `poolRun` and `replay` are `List.foldlM` in the `Except` monad, written out -/
theorem confirmAll_eq_foldlM (es : List Ev) : ∀ st, confirmAll st es = es.foldlM confirmEv st := by
  induction es with
  | nil => exact fun _ => rfl
  | cons e es ih =>
    intro st
    rw [confirmAll, List.foldlM_cons]
    cases confirmEv st e with
    | error => rfl
    | ok s1 => exact ih s1

theorem confirmAll_append {st : Store} : ∀ {es fs : List Ev},
    confirmAll st (es ++ fs) = (match confirmAll st es with | .error err => .error err | .ok s1 => confirmAll s1 fs)
  | es, fs => by
    simp only [confirmAll_eq_foldlM, List.foldlM_append]
    cases es.foldlM confirmEv st <;> rfl

/-- every version is the previous one with the momentum's content confirmed on it -/
def ChainOk (g : Store) : List (List Ev × Store) → Prop
  | [] => True
  | (m, st) :: rest => confirmAll (topStore g rest) m = .ok st ∧ ChainOk g rest

theorem chainOk_drop {g : Store} : ∀ (k : Nat) {ch : List (List Ev × Store)}, ChainOk g ch → ChainOk g (ch.drop k)
  | 0, _, h => h
  | _ + 1, [], _ => trivial
  | k + 1, (_, _) :: rest, h => chainOk_drop k (ch := rest) h.2

theorem replay_eq_foldlM (ms : List (List Ev)) : ∀ st, replay st ms = ms.foldlM confirmAll st := by
  induction ms with
  | nil => exact fun _ => rfl
  | cons m ms ih =>
    intro st
    rw [replay, List.foldlM_cons]
    cases confirmAll st m with
    | error => rfl
    | ok s1 => exact ih s1

/-- the frontier version is what replaying the momentum contents from genesis gives: a function of the chain alone -/
theorem chainOk_replay {g : Store} : ∀ {ch : List (List Ev × Store)}, ChainOk g ch →
    replay g ((ch.map (·.1)).reverse) = .ok (topStore g ch)
  | [], _ => rfl
  | (m, st) :: rest, h => by
    rw [List.map_cons, List.reverse_cons, replay_eq_foldlM]
    exact foldlM_snoc_ok (replay_eq_foldlM _ _ ▸ chainOk_replay h.2) h.1

/-- what every confirmed event keeps holds at the frontier of a consistent version stack whose genesis has it -/
theorem chainOk_induction {P : Store → Prop} (hstep : ∀ {st st' : Store} {e : Ev}, confirmEv st e = .ok st' → P st → P st')
    {g : Store} (hg : P g) : ∀ {ch : List (List Ev × Store)}, ChainOk g ch → P (topStore g ch)
  | [], _ => hg
  | (_, _) :: _, h => foldlM_ok_induction hstep (confirmAll_eq_foldlM _ _ ▸ h.1) (chainOk_induction hstep hg h.2)

theorem chainOk_reach {ch : List (List Ev × Store)} (h : ChainOk g ch) : Reach g.led (topStore g ch).led :=
  chainOk_induction (P := fun st => Reach g.led st.led)
    (fun h1 hr => let ⟨ha, hs, _⟩ := confirmEv_ok h1; .step _ hr ha hs) .refl h

theorem poolEv_ok (h : poolEv b v e = .ok v') :
    poolCheck b v e = .ok () ∧ Admissible v.led e ∧ step v.led e = .ok v'.led ∧ v'.seq = seqPop v.seq e := by
  unfold poolEv at h
  split at h
  · cases h
  · rename_i hc
    split at h
    · rename_i ha
      split at h
      · cases h
      · rename_i led' hs
        cases h
        exact ⟨hc, ha, hs, rfl⟩
    · cases h

theorem poolAll_eq_foldlM (b : Store) (es : List Ev) : ∀ v, poolAll b v es = es.foldlM (poolEv b) v := by
  induction es with
  | nil => exact fun _ => rfl
  | cons e es ih =>
    intro v
    rw [poolAll, List.foldlM_cons]
    cases poolEv b v e with
    | error => rfl
    | ok v1 => exact ih v1

theorem poolRun_eq_foldlM (b : Store) (p : Pool) : ∀ v, poolRun b v p = p.foldlM (fun v x => poolAll b v x.2) v := by
  induction p with
  | nil => exact fun _ => rfl
  | cons x p ih =>
    intro v
    rw [poolRun, List.foldlM_cons]
    cases poolAll b v x.2 with
    | error => rfl
    | ok v1 => exact ih v1

/-- what every pooled block keeps, a pool that applies keeps -/
theorem poolRun_induction {P : Store → Prop} {b : Store}
    (hstep : ∀ {v v' : Store} {e : Ev}, poolEv b v e = .ok v' → P v → P v')
    {p : Pool} {v w : Store} (h : poolRun b v p = .ok w) : P v → P w :=
  foldlM_ok_induction (fun h1 => foldlM_ok_induction hstep (poolAll_eq_foldlM .. ▸ h1)) (poolRun_eq_foldlM .. ▸ h)

theorem poolRun_reach (h : poolRun b v p = .ok w)
    (hr : Reach s0 v.led) : Reach s0 w.led :=
  poolRun_induction (P := fun v => Reach s0 v.led)
    (fun h1 hr => let ⟨_, ha, hs, _⟩ := poolEv_ok h1; .step _ hr ha hs) h hr

/-- what `rebuild` keeps applies, and ends in the view it returns -/
theorem rebuild_run {b : Store} : ∀ (p : Pool) (v : Store), poolRun b v (rebuild b v p).1 = .ok (rebuild b v p).2
  | [], v => rfl
  | (a, evs) :: rest, v => by
    simp only [rebuild]
    split
    · rename_i v1 h1
      simp only [poolRun, h1]
      exact rebuild_run rest v1
    · exact rebuild_run rest v

/-- a pool that applies is kept whole by `rebuild` -/
theorem rebuild_of_run {b : Store} : ∀ {p : Pool} {v w : Store}, poolRun b v p = .ok w → rebuild b v p = (p, w)
  | [], v, w, h => by simp only [poolRun, Except.ok.injEq] at h; subst h; rfl
  | (a, evs) :: rest, v, w, h => by
    simp only [poolRun] at h
    split at h
    · cases h
    · rename_i v1 h1
      simp only [rebuild, h1, rebuild_of_run h]

theorem poolRun_snoc {b : Store} {a : Addr} {evs : List Ev} {p : Pool} {v w w' : Store} (h1 : poolRun b v p = .ok w)
    (h2 : poolAll b w evs = .ok w') : poolRun b v (p ++ [(a, evs)]) = .ok w' := by
  rw [poolRun_eq_foldlM] at h1 ⊢
  exact foldlM_snoc_ok h1 h2

/-- what every node reached by operations satisfies: each stored version is its predecessor with the momentum's
    content confirmed on it, and the pool as a whole applies on the frontier -/
structure Inv (n : Node) : Prop where
  chain : ChainOk n.gen n.chain
  pool : ∃ w, poolRun n.frontier n.frontier n.pool = .ok w

theorem inv_genesis (g : Store) : Inv (Node.genesis g) := ⟨trivial, ⟨g, rfl⟩⟩

theorem putBlock_ok {k : Nat} (h : n.putBlock k e = .ok n') :
    n'.gen = n.gen ∧ n'.chain = n.chain ∧
    ∃ w', poolRun n.frontier n.frontier n'.pool = .ok w' ∧
      n'.pool = (rebuild n.frontier n.frontier (n.pool.filter (fun x => x.1 != acct e))).1 ++
        [(acct e, (getPool n.pool (acct e)).take k ++ [e])] := by
  unfold Node.putBlock at h
  simp only at h
  split at h
  · cases h
  · split at h
    · cases h
    · rename_i w' hw
      cases h
      exact ⟨rfl, rfl, w', poolRun_snoc (rebuild_run _ _) hw, rfl⟩

theorem insertMomentum_ok {c : List (Addr × Nat)} (h : n.insertMomentum c = .ok n') :
    n'.gen = n.gen ∧ ∃ st, confirmAll n.frontier (contentEvents n.pool c) = .ok st ∧
      n'.chain = (contentEvents n.pool c, st) :: n.chain ∧
      ∃ rest, n'.pool = (rebuild st st rest).1 := by
  unfold Node.insertMomentum at h
  simp only at h
  split at h
  · cases h
  · split at h
    · cases h
    · rename_i st hst
      cases h
      exact ⟨rfl, st, hst, rfl, _, rfl⟩

/-- every operation keeps the invariant and the genesis version -/
theorem inv_apply (hi : Inv n) (o : Op) : Inv (n.apply o) ∧ (n.apply o).gen = n.gen := by
  cases o with
  | put k e =>
    simp only [Node.apply]
    split
    · rename_i n' h
      obtain ⟨hg, hc, w', hw, _⟩ := putBlock_ok h
      refine ⟨⟨by rw [hg, hc]; exact hi.chain, ⟨w', ?_⟩⟩, hg⟩
      simp only [Node.frontier, hg, hc]
      exact hw
    · exact ⟨hi, rfl⟩
  | insertMomentum c =>
    simp only [Node.apply]
    split
    · rename_i n' h
      obtain ⟨hg, st, hst, hc, rest, hp⟩ := insertMomentum_ok h
      refine ⟨⟨?_, ?_⟩, hg⟩
      · rw [hg, hc]; exact ⟨hst, hi.chain⟩
      · have hf : n'.frontier = st := by simp only [Node.frontier, hc, topStore]
        rw [hf, hp]
        exact ⟨_, rebuild_run rest st⟩
    · exact ⟨hi, rfl⟩
  | rollbackTo h =>
    simp only [Node.apply, Node.rollbackTo]
    split
    · exact ⟨⟨chainOk_drop _ hi.chain, ⟨_, rfl⟩⟩, rfl⟩
    · exact ⟨hi, rfl⟩
  | restart => exact ⟨⟨hi.chain, ⟨_, rfl⟩⟩, rfl⟩

theorem inv_run : ∀ (ops : List Op) {n : Node}, Inv n → Inv (n.run ops) ∧ (n.run ops).gen = n.gen
  | [], _, hi => ⟨hi, rfl⟩
  | o :: os, _, hi =>
    have h1 := inv_apply hi o
    have h2 := inv_run os h1.1
    ⟨h2.1, h2.2.trans h1.2⟩

theorem Inv.frontier_reach (hi : Inv n) : Reach n.gen.led n.frontier.led := chainOk_reach hi.chain

theorem Inv.poolView_run (hi : Inv n) : poolRun n.frontier n.frontier n.pool = .ok n.poolView := by
  obtain ⟨w, hw⟩ := hi.pool
  rw [Node.poolView, rebuild_of_run hw]; exact hw

theorem moms_rollbackTo (n : Node) (h : Nat) (hh : h ≤ n.chain.length) : (n.rollbackTo h).moms = n.moms.take h := by
  simp only [Node.rollbackTo, Node.moms]
  split
  · simp only [List.map_drop]
    rw [List.take_reverse, List.length_map]
  · have : h = n.chain.length := by omega
    subst this
    rw [List.take_of_length_le (by simp)]

theorem Inv.replay {n : Node} (hi : Inv n) : replay n.gen n.moms = .ok n.frontier := chainOk_replay hi.chain

/-- markers written by a list of events, newest first (as the ledger keeps them) -/
def markersOf : List Ev → List (Addr × Hash)
  | [] => []
  | e :: es => markersOf es ++ e.markers

theorem markersOf_append : ∀ (a b : List Ev), markersOf (a ++ b) = markersOf b ++ markersOf a
  | [], b => by simp [markersOf]
  | e :: a, b => by simp [markersOf, markersOf_append a b]

theorem confirmAll_markers : ∀ {es : List Ev} {st st' : Store}, confirmAll st es = .ok st' →
    st'.led.recv = markersOf es ++ st.led.recv
  | [], st, st', h => by simp only [confirmAll, Except.ok.injEq] at h; subst h; rfl
  | e :: es, st, st', h => by
    obtain ⟨s1, h1, h2⟩ := confirmAll_cons_ok h
    obtain ⟨_, hs, _⟩ := confirmEv_ok h1
    rw [confirmAll_markers h2, (step_frame hs).2.2, markersOf, List.append_assoc]

theorem chainOk_markers {g : Store} : ∀ {ch : List (List Ev × Store)}, ChainOk g ch →
    (topStore g ch).led.recv = markersOf ((ch.map (·.1)).reverse.flatten) ++ g.led.recv
  | [], _ => by simp [topStore, markersOf]
  | (m, st) :: rest, h => by
    simp only [List.map_cons, List.reverse_cons, List.flatten_append, List.flatten_cons, List.flatten_nil,
      List.append_nil, topStore]
    rw [confirmAll_markers h.1, chainOk_markers h.2, markersOf_append, List.append_assoc]

/-- the stored inbox of every embedded contract is the list view of Lemmas/LedgerFifo: the entries are the queue since
    genesis, `front` counts the receives; `back = entries.length` is a clause of its own because Go keeps the size under
    its own key (`SequencerSize`) and `SequencerFront` compares `front` with it, not with the entries -/
def SeqRef (st : Store) : Prop := ∀ c, isEmbedded c = true →
  (st.seq c).entries = inboxOf st.led c ∧ (st.seq c).back = (st.seq c).entries.length ∧
  (st.seq c).front = (receivedBy st.led c).length

theorem seqPush_spec : ∀ (l : List Send) (q : Addr → SeqC) (c : Addr), isEmbedded c = true →
    (seqPush q l c).entries = (q c).entries ++ (l.filter (fun x => x.dst == c)).map (·.hash) ∧
    (seqPush q l c).back = (q c).back + ((l.filter (fun x => x.dst == c)).map (·.hash)).length ∧
    (seqPush q l c).front = (q c).front
  | [], q, c, _ => by simp [seqPush]
  | x :: r, q, c, hc => by
    have ih := seqPush_spec r (if isEmbedded x.dst then upd q x.dst ((q x.dst).pushBack x.hash) else q) c hc
    rw [seqPush, List.filter_cons]
    by_cases hd : x.dst = c
    · subst hd
      rw [if_pos hc, upd, if_pos rfl] at ih
      rw [if_pos hc, if_pos (beq_self_eq_true _), ih.1, ih.2.1, ih.2.2]
      simp [SeqC.pushBack, Nat.add_assoc, Nat.add_comm 1]
    · have hq : (if isEmbedded x.dst then upd q x.dst ((q x.dst).pushBack x.hash) else q) c = q c := by
        split
        · exact if_neg fun h => hd h.symm
        · rfl
      rw [hq] at ih
      rwa [if_neg (by simpa using hd : ¬ (x.dst == c) = true)]

theorem seqPop_spec (hok : step s e = .ok s') (q : Addr → SeqC) (c : Addr)
    (hc : isEmbedded c = true) :
    (seqPop q e c).entries = (q c).entries ∧ (seqPop q e c).back = (q c).back ∧
    (seqPop q e c).front = (q c).front + (((e.markers.filter (fun m => m.1 == c)).map (·.2)).reverse).length := by
  rcases markers_embedded hok hc with hnone | ⟨h, st, ds, rfl⟩
  · -- no marker for `c`, so `e` is not a receive of `c` and leaves its queue alone
    have hq : seqPop q e c = q c := by
      cases e with
      | usend | urecv => rfl
      | crecv c' h st ds =>
        have hne : c ≠ c' := fun he => by subst he; simp [Ev.markers] at hnone
        simp only [seqPop, upd, if_neg hne]
    rw [hq, hnone]
    exact ⟨rfl, rfl, rfl⟩
  · simp [seqPop, Ev.markers, upd, SeqC.popFront]

theorem confirmEv_seqRef (hr : SeqRef st) (h : confirmEv st e = .ok st') : SeqRef st' := by
  obtain ⟨_, hs, hq⟩ := confirmEv_ok h
  intro c hc
  obtain ⟨r1, r2, r3⟩ := hr c hc
  obtain ⟨p1, p2, p3⟩ := seqPop_spec hs st.seq c hc
  obtain ⟨u1, u2, u3⟩ := seqPush_spec e.newSends (seqPop st.seq e) c hc
  rw [hq]
  refine ⟨?_, ?_, ?_⟩
  · rw [u1, p1, r1, inboxOf_step hs c]
  · rw [u2, u1, p2, p1, r2]; simp
  · rw [u3, p3, r3, receivedBy_step hs c]; simp

theorem chainOk_seqRef (hg : SeqRef g) {ch : List (List Ev × Store)} (h : ChainOk g ch) :
    SeqRef (topStore g ch) :=
  chainOk_induction (fun h1 hr => confirmEv_seqRef hr h1) hg h

/-- the live part of the stored queue is the list of confirmed, not yet received sends to the contract -/
theorem seqRef_pending (hr : SeqRef st) (hw : WF st.led) (hf : Fifo st.led)
    (hc : isEmbedded c = true) :
    (st.seq c).entries.drop (st.seq c).front = (pendingFor st.led c).map (·.hash) := by
  obtain ⟨r1, _, r3⟩ := hr c hc
  obtain ⟨rest, hpre⟩ := hf c hc
  rw [r1, r3, ← hpre, List.drop_left, pending_hashes hw hpre.symm]

theorem poolEv_marker (h : poolEv b v e = .ok v') :
    ∀ m ∈ v'.led.recv, m ∈ v.led.recv ∨ (findSend b.led.sends m.2).isSome = true := by
  obtain ⟨hc, _, hs, _⟩ := poolEv_ok h
  intro m hm
  rw [(step_frame hs).2.2, List.mem_append] at hm
  refine hm.symm.imp_right fun hm => ?_
  cases e with
  | usend => cases hm
  | urecv | crecv =>
    obtain rfl := List.mem_singleton.1 hm
    simp only [poolCheck] at hc
    split at hc
    · assumption
    · cases hc

theorem poolRun_marker (h : poolRun b v p = .ok w) :
    ∀ m ∈ w.led.recv, m ∈ v.led.recv ∨ (findSend b.led.sends m.2).isSome = true :=
  poolRun_induction (P := fun u => ∀ m ∈ u.led.recv, m ∈ v.led.recv ∨ (findSend b.led.sends m.2).isSome = true)
    (fun h1 ih m hm => (poolEv_marker h1 m hm).elim (ih m) .inr) h fun _ hm => .inl hm

end ZV.LedgerNode
