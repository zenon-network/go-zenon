import ZenonVerif.Model.Fetcher
/-!
Lemmas about Model/Fetcher.lean: counting under the list operations that stand for Go's map operations, what each handler
does to each field it writes, and the invariant `Inv` of the transition system (preserved by every handler, by the head of
the loop, hence by `step`).
-/
namespace ZV.Fetcher
open ZV.Gen

theorem foldl_inv {σ α : Type} (P : σ → Prop) (f : σ → α → σ) (hf : ∀ s a, P s → P (f s a)) (l : List α) (s : σ)
    (h : P s) : P (l.foldl f s) :=
  List.foldlRecOn l f h fun s hs a _ => hf s a hs

/-- deleting the first entry that satisfies `q` lowers the number of entries of peer `p` by one exactly when that entry is `p`'s
(`f`: the origin of an entry, so that this reads `cntA` / `cntQ`) -/
theorem count_eraseP {α : Type} (f : α → Nat) (q : α → Bool) (p : Nat) (l : List α) (a : α) (hf : l.find? q = some a) :
    (l.eraseP q).countP (fun x => f x == p) + (if f a = p then 1 else 0) = l.countP (fun x => f x == p) := by
  obtain ⟨hq, as, bs, rfl, hn⟩ := List.find?_eq_some_iff_append.mp hf
  rw [List.eraseP_append_right _ (by simpa using hn), List.eraseP_cons_of_pos hq]
  simp [List.countP_cons]
  omega

theorem nodup_eraseP_key {α : Type} (f : α → Nat) (h : Nat) : ∀ (l : List α), (l.map f).Nodup →
    ∀ j ∈ l.eraseP (fun i => f i == h), f j ≠ h
  | x :: l, hn, j, hj => by
    rw [List.map_cons, List.nodup_cons] at hn
    by_cases hx : f x = h
    · rw [List.eraseP_cons_of_pos (by simpa using hx)] at hj
      exact fun hjh => hn.1 (List.mem_map.mpr ⟨j, hj, hjh.trans hx.symm⟩)
    · rw [List.eraseP_cons_of_neg (by simpa using hx), List.mem_cons] at hj
      rcases hj with rfl | hj
      · exact hx
      · exact nodup_eraseP_key f h l hn.2 j hj

theorem cntA_split (l : List Ann) (h p : Nat) :
    cntA (l.filter (fun a => !(a.hash == h))) p + cntA (l.filter (fun a => a.hash == h)) p = cntA l p :=
  (Nat.add_comm ..).trans (List.countP_eq_countP_filter_add ..).symm

theorem cntA_append_one (l : List Ann) (a : Ann) (p : Nat) :
    cntA (l ++ [a]) p = cntA l p + (if a.origin = p then 1 else 0) := by
  simp [cntA, List.countP_append]

theorem cntQ_append_one (l : List Inj) (a : Inj) (p : Nat) :
    cntQ (l ++ [a]) p = cntQ l p + (if a.origin = p then 1 else 0) := by
  simp [cntQ, List.countP_append]

/-! ### a per-peer counter and the count it stands for move together -/

theorem dec_count {f : Nat → Int} {c c' : Nat → Nat} {a : Nat} (hf : ∀ q, f q = c q)
    (hc : ∀ q, c' q + (if a = q then 1 else 0) = c q) (q : Nat) : dec f a q = c' q := by
  have := hf q; have := hc q
  unfold dec
  by_cases h : q = a
  · rw [if_pos h]; rw [if_pos h.symm] at *; omega
  · rw [if_neg h]; rw [if_neg (Ne.symm h)] at *; omega

theorem setc_count {f : Nat → Int} {c c' : Nat → Nat} {a : Nat} (hf : ∀ q, f q = c q)
    (hc : ∀ q, c' q = c q + (if a = q then 1 else 0)) (q : Nat) : setc f a (f a + 1) q = c' q := by
  have := hf q; have := hc q
  unfold setc
  by_cases h : q = a
  · rw [if_pos h]; rw [if_pos h.symm] at *; subst h; omega
  · rw [if_neg h]; rw [if_neg (Ne.symm h)] at *; omega

theorem dec_le {f : Nat → Int} {B : Int} (hf : ∀ q, f q ≤ B) (a q : Nat) : dec f a q ≤ B := by
  have := hf q; unfold dec; split <;> omega

theorem setc_le {f : Nat → Int} {B x : Int} (hf : ∀ q, f q ≤ B) (a : Nat) (hx : x ≤ B) (q : Nat) : setc f a x q ≤ B := by
  unfold setc; split
  · exact hx
  · exact hf q

theorem cntQ_map (l : List Inj) (f : Inj → Inj) (hf : ∀ j, (f j).origin = j.origin) (p : Nat) :
    cntQ (l.map f) p = cntQ l p := by
  simp only [cntQ, List.countP_map, Function.comp_def, hf]

theorem length_split (l : List Inj) (p : Nat) :
    l.length = cntQ l p + (l.filter (fun i => !(i.origin == p))).length := by
  rw [← List.countP_eq_length_filter, List.length_eq_countP_add_countP (fun i => i.origin == p)]
  simp only [cntQ, Bool.not_eq_true, Bool.decide_eq_false]

theorem length_le_peers (B : Nat) : ∀ (ps : List Nat) (l : List Inj),
    (∀ i ∈ l, i.origin ∈ ps) → (∀ p, cntQ l p ≤ B) → l.length ≤ ps.length * B
  | [], l, hm, _ => by
    rw [List.eq_nil_iff_forall_not_mem.mpr fun i hi => nomatch hm i hi]
    exact Nat.zero_le _
  | p :: ps, l, hm, hb => by
    have hlen := length_split l p
    have ih := length_le_peers B ps (l.filter (fun i => !(i.origin == p)))
      (fun i hi => by
        obtain ⟨him, hne⟩ := List.mem_filter.mp hi
        exact (List.mem_cons.mp (hm i him)).resolve_left fun h => by simp [h] at hne)
      (fun q => Nat.le_trans (List.Sublist.countP_le List.filter_sublist) (hb q))
    have h1 := hb p
    simp only [List.length_cons, Nat.succ_mul]
    omega

/-! ### `forgetHash`, field by field -/

theorem forgetHash_queue (s : St) (h : Nat) : (forgetHash s h).queues = s.queues ∧ (forgetHash s h).queued = s.queued := by
  fun_cases forgetHash s h <;> exact ⟨rfl, rfl⟩

theorem forgetHash_announced (s : St) (h : Nat) :
    (forgetHash s h).announced = s.announced.filter (fun a => !(a.hash == h)) := by
  fun_cases forgetHash s h <;> rfl

theorem forgetHash_fetching (s : St) (h : Nat) :
    (forgetHash s h).fetching = s.fetching.eraseP (fun a => a.hash == h) := by
  fun_cases forgetHash s h
  · rfl
  · rename_i hn
    exact (List.eraseP_of_forall_not (by simpa using hn)).symm

/-- the counter goes down by as much as the two lists lose, and by at least the size of the group deleted -/
theorem forgetHash_announces (s : St) (h q : Nat) :
    (forgetHash s h).announces q + (cntA s.announced q + cntA s.fetching q : Nat)
      = s.announces q + (cntA (forgetHash s h).announced q + cntA (forgetHash s h).fetching q : Nat) ∧
    (forgetHash s h).announces q + (cntA (s.announced.filter (fun a => a.hash == h)) q : Nat) ≤ s.announces q := by
  have hs := cntA_split s.announced h q
  unfold forgetHash; simp only []; split
  · rename_i a hf
    have : cntA (s.fetching.eraseP _) q + (if a.origin = q then 1 else 0) = cntA s.fetching q :=
      count_eraseP Ann.origin _ q s.fetching a hf
    simp only [dec]
    split <;> rename_i hq
    · rw [if_pos hq.symm] at this; omega
    · rw [if_neg (Ne.symm hq)] at this; omega
  · simp only []; omega

/-! ### `forgetBlock`, field by field -/

theorem forgetBlock_queued (v : Variant) (s : St) (h : Nat) :
    (forgetBlock v s h).queued = s.queued.eraseP (fun i => i.blk.hash == h) := by
  unfold forgetBlock; split
  · rfl
  · rename_i hn
    exact (List.eraseP_of_forall_not (by simpa using hn)).symm

theorem forgetBlock_announced (v : Variant) (s : St) (h : Nat) : (forgetBlock v s h).announced = s.announced := by
  fun_cases forgetBlock v s h <;> rfl

structure Inv (v : Variant) (s : St) : Prop where
  qcons : v.decOnForget = true → ∀ p, s.queues p = (cntQ s.queued p : Nat)
  qle : ∀ p, s.queues p ≤ (FeBlockLimit : Int)
  acons : v.countFetching = true → ∀ p, s.announces p = ((cntA s.announced p + cntA s.fetching p : Nat) : Int)
  ale : ∀ p, s.announces p ≤ (FeHashLimit : Int)
  dist : v.distTest = true → ∀ i ∈ s.queued, i.hAt ≤ i.blk.height + FeMaxUncleDist ∧ i.blk.height ≤ i.hAt + FeMaxQueueDist
  pop : ∀ i ∈ s.queued, ∀ ph, i.st = some ph → i.blk.height ≤ ph + 1 ∧ ph ≤ i.blk.height + FeMaxUncleDist
  nodup : (s.queued.map (fun i => i.blk.hash)).Nodup

/-- `Inv` reads five fields only -/
theorem Inv.congr {v : Variant} {s t : St} (h : Inv v s) (h1 : t.announces = s.announces) (h2 : t.announced = s.announced)
    (h3 : t.fetching = s.fetching) (h4 : t.queues = s.queues) (h5 : t.queued = s.queued) : Inv v t :=
  ⟨h4 ▸ h5 ▸ h.qcons, h4 ▸ h.qle, h1 ▸ h2 ▸ h3 ▸ h.acons, h1 ▸ h.ale, h5 ▸ h.dist, h5 ▸ h.pop, h5 ▸ h.nodup⟩

theorem inv_init (v : Variant) (k : List Nat) (h : Nat) : Inv v { known := k, height := h } := by
  constructor <;> simp [cntQ, cntA] <;> omega

theorem forgetHash_inv {v : Variant} {s : St} (h : Nat) (hi : Inv v s) : Inv v (forgetHash s h) := by
  obtain ⟨h1, h2⟩ := forgetHash_queue s h
  exact ⟨h1 ▸ h2 ▸ hi.qcons, h1 ▸ hi.qle,
    fun hv p => by have := (forgetHash_announces s h p).1; have := hi.acons hv p; omega,
    fun p => by have := (forgetHash_announces s h p).2; have := hi.ale p; omega,
    h2 ▸ hi.dist, h2 ▸ hi.pop, h2 ▸ hi.nodup⟩

theorem forgetBlock_inv {v : Variant} {s : St} (h : Nat) (hi : Inv v s) : Inv v (forgetBlock v s h) := by
  unfold forgetBlock
  split
  · rename_i i hf
    exact { hi with
      qcons := fun hv => by
        rw [hv]; exact dec_count (hi.qcons hv) (fun q => count_eraseP Inj.origin _ q s.queued i hf)
      qle := by split; exact dec_le hi.qle _; exact hi.qle
      dist := fun hv j hj => hi.dist hv j (List.mem_of_mem_eraseP hj)
      pop := fun j hj => hi.pop j (List.mem_of_mem_eraseP hj)
      nodup := hi.nodup.sublist (List.eraseP_sublist.map _) }
  · exact hi

theorem onNotify_inv {v : Variant} {s : St} (p h : Nat) (t : Int) (hi : Inv v s) : Inv v (onNotify s p h t) := by
  fun_cases onNotify s p h t
  · exact hi
  · exact hi
  · exact { hi with
      acons := fun hv => setc_count (hi.acons hv) (fun q => by simp only [cntA_append_one]; omega)
      ale := setc_le hi.ale p (by omega) }

theorem enqueue_inv {v : Variant} {s : St} (p : Nat) (b : Blk) (hi : Inv v s) : Inv v (enqueue v s p b) := by
  fun_cases enqueue v s p b
  · exact hi
  · exact hi
  · exact hi
  · rename_i hd hdup
    simp only [List.any_eq_true, beq_iff_eq, not_exists, not_and] at hdup
    exact { hi with
      qcons := fun hv => setc_count (hi.qcons hv) (fun q => by simp only [cntQ_append_one])
      qle := setc_le hi.qle p (by omega)
      dist := fun hv => List.forall_mem_append.mpr ⟨hi.dist hv, List.forall_mem_singleton.mpr (by
        -- the new entry passed the distance test against the height it records
        simp only [hv, Bool.true_and, Bool.or_eq_true, decide_eq_true_eq, not_or] at hd
        simp only []; omega)⟩
      pop := List.forall_mem_append.mpr ⟨hi.pop, List.forall_mem_singleton.mpr nofun⟩
      nodup := by
        rw [List.map_append]
        exact List.nodup_append.mpr ⟨hi.nodup, by simp, fun a ha c hc => by
          obtain ⟨j, hj, rfl⟩ := List.mem_map.mp ha
          cases List.mem_singleton.mp hc
          exact hdup j hj⟩ }

theorem timerOne_inv {v : Variant} (pick : Nat) {s : St} (h : Nat) (hi : Inv v s) : Inv v (timerOne v pick s h) := by
  have hf := forgetHash_inv (v := v) h hi
  fun_cases timerOne v pick s h
  · exact hi
  · exact hf
  · rename_i a0 rest hg _ a s1 _
    unfold s1
    -- the chosen announcement is one of the group, so forgetHash lowered its origin's counter
    have hamem : a ∈ a0 :: rest := by
      have hidx : pick % (rest.length + 1) < (a0 :: rest).length := Nat.mod_lt _ (Nat.succ_pos _)
      unfold a
      rw [List.getD_eq_getElem?_getD, List.getElem?_eq_getElem hidx]
      exact List.getElem_mem hidx
    have hle : (forgetHash s h).announces a.origin + 1 ≤ (FeHashLimit : Int) := by
      have hcnt : 1 ≤ cntA (s.announced.filter (fun a => a.hash == h)) a.origin := by
        rw [hg]; exact List.countP_pos_iff.mpr ⟨a, hamem, beq_self_eq_true _⟩
      have := (forgetHash_announces s h a.origin).2; have := hi.ale a.origin
      omega
    exact { hf with
      acons := fun hv => by
        rw [hv]; exact setc_count (hf.acons hv) (fun q => by simp only [cntA_append_one]; omega)
      ale := by split; exact setc_le hf.ale _ hle; exact hf.ale }
  · exact hi

theorem goroutine_fields (s : St) (i : Inj) (nh : Nat) :
    (goroutine s i nh).announces = s.announces ∧ (goroutine s i nh).announced = s.announced ∧
    (goroutine s i nh).fetching = s.fetching ∧ (goroutine s i nh).queues = s.queues ∧ (goroutine s i nh).queued = s.queued := by
  fun_cases goroutine s i nh <;> exact ⟨rfl, rfl, rfl, rfl, rfl⟩

theorem goroutine_dropped (s : St) (i : Inj) (nh : Nat) :
    (goroutine s i nh).dropped = if s.known.contains i.blk.parent && !i.blk.vOk then i.origin :: s.dropped else s.dropped := by
  unfold goroutine
  cases s.known.contains i.blk.parent <;> cases i.blk.vOk <;> cases i.blk.iOk <;> simp

theorem goroutine_handed (s : St) (i : Inj) (nh : Nat) :
    (goroutine s i nh).handed = if s.known.contains i.blk.parent && i.blk.vOk then i :: s.handed else s.handed := by
  unfold goroutine
  cases s.known.contains i.blk.parent <;> cases i.blk.vOk <;> cases i.blk.iOk <;> simp

theorem onFinish_inv {v : Variant} {s : St} (h nh : Nat) (hi : Inv v s) : Inv v (onFinish v s h nh) := by
  unfold onFinish
  split
  · exact hi
  · rename_i i _
    apply forgetBlock_inv
    apply forgetHash_inv
    obtain ⟨h1, h2, h3, h4, h5⟩ := goroutine_fields s i nh
    exact hi.congr h1 h2 h3 h4 h5

theorem handle_inv {v : Variant} {s : St} (e : Ev) (hi : Inv v s) : Inv v (handle v s e) := by
  cases e with
  | notify p h t => exact onNotify_inv p h t hi
  | enqueue p b => exact enqueue_inv p b hi
  | timer k => exact foldl_inv _ _ (fun _ h => timerOne_inv k h) _ _ hi
  | deliver bs =>
    refine foldl_inv _ _ (fun t b ht => ?_) _ _ (foldl_inv _ _ (fun _ h => forgetHash_inv h) _ _ hi)
    unfold deliverTwo
    split
    · exact enqueue_inv _ _ ht
    · exact ht
  | finish h nh => exact onFinish_inv h nh hi
  | tick d => exact hi.congr rfl rfl rfl rfl rfl
  | chain k h => exact hi.congr rfl rfl rfl rfl rfl
  | leave p => exact hi

theorem markPopped_inv {v : Variant} {s : St} (i : Inj) (height : Nat)
    (h1 : i.blk.height ≤ height + 1) (h2 : height ≤ i.blk.height + FeMaxUncleDist) (hi : Inv v s) :
    Inv v (markPopped s i height) := by
  -- the mark changes `st` only
  let g (j : Inj) : Inj := if j == i then { j with st := some height } else j
  have hm (j : Inj) : (g j).origin = j.origin ∧ (g j).blk = j.blk ∧ (g j).hAt = j.hAt := by
    unfold g; split <;> exact ⟨rfl, rfl, rfl⟩
  unfold markPopped
  exact { hi with
    qcons := fun hv p => by
      simp only []; rw [cntQ_map _ _ (fun j => (hm j).1)]; exact hi.qcons hv p
    dist := fun hv => List.forall_mem_map.mpr fun j0 hj0 => by
      rw [(hm j0).2.1, (hm j0).2.2]; exact hi.dist hv j0 hj0
    pop := List.forall_mem_map.mpr fun j0 hj0 ph hst => by
      rw [(hm j0).2.1]
      split at hst
      · rename_i heq
        cases hst; cases eq_of_beq heq
        exact ⟨h1, h2⟩
      · exact hi.pop j0 hj0 ph hst
    nodup := by
      rw [List.map_map]
      exact (List.map_congr_left fun j _ => congrArg Blk.hash (hm j).2.1) ▸ hi.nodup }

theorem head_inv {v : Variant} {s : St} (hi : Inv v s) : Inv v (head v s) := by
  unfold head importPass
  refine List.foldlRecOn _ _ (foldl_inv _ _ (fun _ h => forgetHash_inv h) _ _ hi) fun t ht i him => ?_
  simp only [List.mem_filter, Bool.and_eq_true, decide_eq_true_eq] at him
  unfold importOne
  split
  · exact forgetBlock_inv _ ht
  · rename_i hc
    simp only [Bool.or_eq_true, decide_eq_true_eq, not_or, Nat.not_lt] at hc
    exact markPopped_inv _ _ him.2.2 hc.1 ht

theorem step_inv {v : Variant} {s : St} (e : Ev) (hi : Inv v s) : Inv v (step v s e) :=
  head_inv (handle_inv e hi)

theorem reach_inv {v : Variant} {s : St} (hr : Reach v s) : Inv v s := by
  induction hr with
  | init k h => exact inv_init v k h
  | step e _ ih => exact step_inv e ih

/-! ### the logs (dropPeer, insertChain, broadcastBlock): written by the goroutine of `insert` only -/

def Logs (s : St) : List Nat × List Inj × List (Nat × Bool) := (s.dropped, s.handed, s.bcast)

theorem foldl_pres {σ α β : Type} (g : σ → β) (f : σ → α → σ) (hf : ∀ s a, g (f s a) = g s) (l : List α) (s : σ) :
    g (l.foldl f s) = g s :=
  foldl_inv (fun t => g t = g s) f (fun t a h => (hf t a).trans h) l s rfl

theorem forgetHash_logs (s : St) (h : Nat) : Logs (forgetHash s h) = Logs s := by
  fun_cases forgetHash s h <;> rfl
theorem forgetBlock_logs (v : Variant) (s : St) (h : Nat) : Logs (forgetBlock v s h) = Logs s := by
  fun_cases forgetBlock v s h <;> rfl
theorem onNotify_logs (s : St) (p h : Nat) (t : Int) : Logs (onNotify s p h t) = Logs s := by
  fun_cases onNotify s p h t <;> rfl
theorem enqueue_logs (v : Variant) (s : St) (p : Nat) (b : Blk) : Logs (enqueue v s p b) = Logs s := by
  fun_cases enqueue v s p b <;> rfl
theorem timerOne_logs (v : Variant) (pick : Nat) (s : St) (h : Nat) : Logs (timerOne v pick s h) = Logs s := by
  fun_cases timerOne v pick s h
  · rfl
  · exact forgetHash_logs s h
  · exact forgetHash_logs s h
  · rfl
theorem onDeliver_logs (v : Variant) (s : St) (bs : List Blk) : Logs (onDeliver v s bs) = Logs s := by
  unfold onDeliver
  simp only []
  rw [foldl_pres Logs _ fun t b => ?_, foldl_pres Logs _ forgetHash_logs]
  unfold deliverTwo
  split
  · exact enqueue_logs _ _ _ _
  · rfl
theorem head_logs (v : Variant) (s : St) : Logs (head v s) = Logs s := by
  unfold head importPass expire
  rw [foldl_pres Logs _ fun t i => ?_, foldl_pres Logs _ forgetHash_logs]
  unfold importOne
  split
  · exact forgetBlock_logs _ _ _
  · rfl

/-- a step leaves the logs alone, or it is the end of the goroutine of a popped entry of `f.queued`, and the logs are what
that goroutine made of them -/
theorem step_logs (v : Variant) (s : St) (e : Ev) :
    Logs (step v s e) = Logs s ∨
    ∃ h nh i, e = .finish h nh ∧ i ∈ s.queued ∧ i.st.isSome = true ∧ i.blk.hash = h ∧
      Logs (step v s e) = Logs (goroutine s i nh) := by
  unfold step
  rw [head_logs]
  cases e with
  | notify p h t => exact .inl (onNotify_logs s p h t)
  | enqueue p b => exact .inl (enqueue_logs v s p b)
  | timer k => exact .inl (foldl_pres Logs _ (timerOne_logs v k) _ _)
  | deliver bs => exact .inl (onDeliver_logs v s bs)
  | tick d => exact .inl rfl
  | chain k h => exact .inl rfl
  | leave p => exact .inl rfl
  | finish h nh =>
    simp only [handle, onFinish]
    split
    · exact .inl rfl
    · rename_i i hf
      have hp := List.find?_some hf
      simp only [Bool.and_eq_true, beq_iff_eq] at hp
      exact .inr ⟨h, nh, i, rfl, List.mem_of_find?_eq_some hf, hp.2, hp.1,
        (forgetBlock_logs v _ h).trans (forgetHash_logs _ h)⟩

/-! ### announcements arriving at an idle fetcher -/

theorem run_append (v : Variant) (s : St) (es fs : List Ev) : run v s (es ++ fs) = run v (run v s es) fs :=
  List.foldl_append

theorem head_idle (v : Variant) {s : St} (hf : s.fetching = []) (hq : s.queued = []) : head v s = s := by
  have he : expire s = s := by simp [expire, hf]
  simp [head, he, importPass, hq]

theorem notify_idle (v : Variant) (p h : Nat) (t : Int) {s : St} {k : Nat} (hf : s.fetching = []) (hq : s.queued = [])
    (hk : s.announces p + k = FeHashLimit) :
    (step v s (.notify p h t)).fetching = [] ∧ (step v s (.notify p h t)).queued = [] ∧
    (step v s (.notify p h t)).announces p + (k - 1 : Nat) = FeHashLimit ∧
    cntA (step v s (.notify p h t)).announced p = cntA s.announced p + min 1 k := by
  have hany : s.fetching.any (fun b => b.hash == h) = false := by rw [hf]; rfl
  simp only [step, handle, onNotify, hany]
  split
  · rw [head_idle v hf hq]
    exact ⟨hf, hq, by omega, by omega⟩
  · rw [if_neg Bool.false_ne_true, head_idle v]
    · exact ⟨hf, hq, by simp only [setc, if_pos]; omega, by simp only [cntA_append_one, if_pos]; omega⟩
    · exact hf
    · exact hq

/-- A peer whose counter is `k` below hashLimit is granted exactly `k` further announcements: of a run of `notify` events for
peer `p`, arriving while nothing is being fetched or queued, the first `k` are stored. The hashes are `h` over any list, so
that the witnesses of C15Fetcher (hashes `100 + i` over a range of indices) are instances as they stand. -/
theorem notify_flood (v : Variant) (p : Nat) (t : Int) {α : Type} (h : α → Nat) : ∀ (l : List α) (s : St) (k : Nat),
    s.fetching = [] → s.queued = [] → s.announces p + k = FeHashLimit →
    cntA (run v s (l.map fun a => Ev.notify p (h a) t)).announced p = cntA s.announced p + min l.length k
  | [], s, k, _, _, _ => by simp [run]
  | a :: l, s, k, hf, hq, hk => by
    obtain ⟨hf', hq', hk', hc⟩ := notify_idle v p (h a) t hf hq hk
    have := notify_flood v p t h l _ _ hf' hq' hk'
    simp only [run, List.map_cons, List.foldl_cons, List.length_cons] at this ⊢
    omega
end ZV.Fetcher
