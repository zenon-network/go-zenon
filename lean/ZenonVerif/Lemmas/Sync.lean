import ZenonVerif.Model.Sync
/-
Lemmas for Props/C16.lean. `InsertChain` is the skip loop followed by `insertSuffix` (`insertChain_eq`), and `insertSuffix`
either refuses without touching the node or is the apply loop on the node rolled back to some height
(`insertSuffix_cases`, `applyLoop_spec`); well-formedness (`Node.WF`) goes through rollback and apply loop. Core Lean only.
-/
namespace ZV.Sync
open ZV ZV.Proto

theorem linked_concat : ∀ (l : List DM) (d : DM), Linked l →
    (∀ a, l.getLast? = some a → d.prev = a.hash ∧ d.height = a.height + 1) → Linked (l ++ [d])
  | [], _, _, _ => trivial
  | [x], d, _, h => ⟨(h x rfl).1, (h x rfl).2, trivial⟩
  | x :: y :: t, d, hl, h =>
      ⟨hl.1, hl.2.1, linked_concat (y :: t) d hl.2.2 (fun a ha => h a (by rw [List.getLast?_cons_cons]; exact ha))⟩

theorem linked_take : ∀ (l : List DM) (k : Nat), Linked l → Linked (l.take k)
  | _, 0, _ => trivial
  | [], _ + 1, _ => trivial
  | [_], _ + 1, _ => by simp [Linked]
  | _ :: _ :: _, 1, _ => trivial
  | _ :: y :: t, k + 2, hl => ⟨hl.1, hl.2.1, linked_take (y :: t) (k + 1) hl.2.2⟩

theorem linked_height : ∀ (l : List DM) (a : DM) (i : Nat) (d : DM), Linked (a :: l) → (a :: l)[i]? = some d →
    d.height = a.height + i
  | _, _, 0, _, _, h => by cases h; rfl
  | [], _, _ + 1, _, _, h => nomatch h
  | b :: t, a, i + 1, d, hl, h => by
      rw [linked_height t b i d hl.2.2 h, hl.2.1, Nat.add_assoc, Nat.add_comm 1]

theorem getLastD_append_one (l : List DM) (a g : DM) : (l ++ [a]).getLastD g = a := by
  simp [List.getLastD_eq_getLast?]

theorem chain_length (n : Node) : n.chain.length = n.rest.length + 1 := by simp [Node.chain]

theorem frontier_eq (n : Node) : n.chain.getLast? = some n.frontier := by
  simp [Node.chain, Node.frontier, List.getLastD_eq_getLast?, List.getLast?_cons]

theorem frontier_append_cons (n : Node) (l : List DM) (a : DM) (m : List DM) :
    ({ n with rest := l ++ a :: m } : Node).frontier = (a :: m).getLastD a := by
  simp [Node.frontier, List.getLastD_eq_getLast?, List.getLast?_append, List.getLast?_cons]

theorem frontier_mem (n : Node) : n.frontier ∈ n.chain := List.mem_of_getLast? (frontier_eq n)

theorem frontier_index (n : Node) : n.chain[n.chain.length - 1]? = some n.frontier := by
  rw [← frontier_eq, List.getLast?_eq_getElem?]

theorem wf_height {n : Node} (hwf : n.WF) {i : Nat} {d : DM} (h : n.chain[i]? = some d) : d.height = i + 1 := by
  have := linked_height n.rest n.genesis i d hwf.linked h
  rw [hwf.gen] at this; omega

theorem wf_frontier_height {n : Node} (hwf : n.WF) : n.frontier.height = n.chain.length := by
  have := wf_height hwf (frontier_index n)
  have := chain_length n
  omega

theorem byHeight_eq_some {n : Node} {h : Nat} {t : DM} (hb : n.byHeight h = some t) :
    1 ≤ h ∧ n.chain[h - 1]? = some t := by
  unfold Node.byHeight at hb
  split at hb
  · cases hb
  · exact ⟨by omega, hb⟩

theorem byHeight_mem {n : Node} {h : Nat} {t : DM} (hb : n.byHeight h = some t) : t ∈ n.chain :=
  List.mem_of_getElem? (byHeight_eq_some hb).2

theorem byHeight_wf {n : Node} (hwf : n.WF) {h : Nat} {t : DM} (hb : n.byHeight h = some t) :
    t.height = h ∧ 1 ≤ h ∧ h ≤ n.chain.length := by
  obtain ⟨h1, h2⟩ := byHeight_eq_some hb
  have := wf_height hwf h2
  have hlt : h - 1 < n.chain.length := by
    rcases List.getElem?_eq_some_iff.mp h2 with ⟨hl, _⟩; exact hl
  omega

theorem byHeight_of_le {n : Node} {h : Nat} (h1 : 1 ≤ h) (h2 : h ≤ n.chain.length) : ∃ t, n.byHeight h = some t := by
  unfold Node.byHeight
  have : ¬ h = 0 := by omega
  simp only [this, if_false]
  exact ⟨n.chain[h - 1]'(by omega), List.getElem?_eq_getElem (by omega)⟩

theorem rollbackTo_chain (n : Node) (h : Nat) : (n.rollbackTo h).chain = n.chain.take (max h 1) := by
  rcases h with _ | k <;> simp [Node.rollbackTo, Node.chain]

theorem push_chain (n : Node) (d : DM) : (n.push d).chain = n.chain ++ [d] := by
  simp [Node.push, Node.chain]

theorem push_frontier (n : Node) (d : DM) : (n.push d).frontier = d := by
  simp [Node.push, Node.frontier, List.getLastD_eq_getLast?]

/-- below 2^64 − 1 the uint64 predecessor is the predecessor: no wrap-around -/
theorem pred64_small {h k : Nat} (hp : pred64 h = k) (hk : k + 1 < two64) : h = k + 1 := by
  unfold pred64 at hp
  split at hp <;> omega

theorem pred64_eq {h k : Nat} (hk : k + 1 < two64) (hp : pred64 h = k) (_hh : h < two64) : h = k + 1 ∨ (h = 0 ∧ False) :=
  Or.inl (pred64_small hp hk)

/-- a momentum that names the frontier of a well-formed node as its previous sits one above it -/
theorem applies_height {valid : DM → Bool} {n : Node} {d : DM} (hwf : n.WF) (ha : applies valid n d = true) :
    d.prev = n.frontier.hash ∧ d.height = n.frontier.height + 1 ∧ valid d = true := by
  simp only [applies, DM.prevId, DM.id, Bool.and_eq_true, beq_iff_eq, Prod.mk.injEq] at ha
  have hf := wf_frontier_height hwf
  have hb := hwf.bound
  exact ⟨ha.1.1, pred64_small ha.1.2 (by omega), ha.2⟩

theorem push_wf {valid : DM → Bool} {n : Node} {d : DM} (hwf : n.WF) (ha : applies valid n d = true)
    (hroom : n.chain.length + 2 < two64) : (n.push d).WF := by
  obtain ⟨h1, h2, _⟩ := applies_height hwf ha
  refine ⟨hwf.gen, ?_, by rw [push_chain, List.length_append, List.length_singleton]; omega⟩
  rw [push_chain]
  refine linked_concat _ d hwf.linked (fun a ha => ?_)
  rw [frontier_eq] at ha
  cases ha
  exact ⟨h1, h2⟩

theorem rollbackTo_length_le (n : Node) (h : Nat) : (n.rollbackTo h).chain.length ≤ n.chain.length := by
  rw [rollbackTo_chain, List.length_take]; omega

theorem rollbackTo_wf {n : Node} (hwf : n.WF) (h : Nat) : (n.rollbackTo h).WF :=
  ⟨hwf.gen, by rw [rollbackTo_chain]; exact linked_take _ _ hwf.linked,
    Nat.lt_of_le_of_lt (Nat.add_le_add_right (rollbackTo_length_le n h) 1) hwf.bound⟩

theorem rollbackTo_frontier (n : Node) : n.rollbackTo n.chain.length = n := by
  simp [Node.rollbackTo, Node.chain]

/-- the skip loop is `List.dropWhile` -/
theorem dropKnown_eq_dropWhile (n : Node) : ∀ ms, dropKnown n ms = ms.dropWhile n.held
  | [] => rfl
  | d :: t => by rw [dropKnown, List.dropWhile_cons, dropKnown_eq_dropWhile n t]

theorem dropKnown_split (n : Node) (ms : List DM) :
    ∃ known, ms = known ++ dropKnown n ms ∧ ∀ d ∈ known, n.held d = true :=
  ⟨ms.takeWhile n.held, by rw [dropKnown_eq_dropWhile, List.takeWhile_append_dropWhile],
    List.all_eq_true.1 List.all_takeWhile⟩

theorem dropKnown_length_le (n : Node) (ms : List DM) : (dropKnown n ms).length ≤ ms.length :=
  dropKnown_eq_dropWhile n ms ▸ (List.dropWhile_sublist _).length_le

theorem dropKnown_append (n : Node) (known rest : List DM) (h : ∀ d ∈ known, n.held d = true) :
    dropKnown n (known ++ rest) = dropKnown n rest := by
  rw [dropKnown_eq_dropWhile, dropKnown_eq_dropWhile, List.dropWhile_append_of_pos h]

theorem dropKnown_head_not_held (n : Node) (ms : List DM) (hd : DM) (more : List DM)
    (h : dropKnown n ms = hd :: more) : n.held hd = false := by
  have := List.head?_dropWhile_not n.held ms
  rw [← dropKnown_eq_dropWhile, h] at this
  exact this

/-- what the apply loop does: it appends a valid, applying prefix `new` of the batch and either finishes
    (ok, index 0) or stops at the first element that does not apply (errVerify, index i + |new|). -/
theorem applyLoop_spec (valid : DM → Bool) (ms : List DM) (n : Node) (i : Nat) :
    ∃ new, (applyLoop valid n ms i).1 = { n with rest := n.rest ++ new } ∧ (∀ d ∈ new, valid d = true) ∧
      (((applyLoop valid n ms i).2 = (0, .ok) ∧ new = ms) ∨
       ((applyLoop valid n ms i).2 = (i + new.length, .errVerify) ∧
          ∃ d rest', ms = new ++ d :: rest' ∧ applies valid (applyLoop valid n ms i).1 d = false)) := by
  fun_induction applyLoop valid n ms i with
  | case1 => exact ⟨[], by simp, by simp, Or.inl ⟨rfl, rfl⟩⟩
  | case2 n d rest i ha ih =>
    obtain ⟨new, h1, h2, h3⟩ := ih
    refine ⟨d :: new, by rw [h1]; simp [Node.push], ?_, ?_⟩
    · intro x hx
      rcases List.mem_cons.1 hx with rfl | hx
      · exact (Bool.and_eq_true_iff.1 ha).2
      · exact h2 x hx
    · rcases h3 with ⟨o1, o2⟩ | ⟨o1, d', r', o2, o3⟩
      · exact Or.inl ⟨o1, by rw [o2]⟩
      · exact Or.inr ⟨by rw [o1, List.length_cons]; congr 1; omega, d', r', by rw [o2]; rfl, o3⟩
  | case3 n d rest i ha => exact ⟨[], by simp, by simp, Or.inr ⟨rfl, d, rest, rfl, by simpa using ha⟩⟩

theorem applyLoop_chain {valid : DM → Bool} {ms new : List DM} {n : Node} {i : Nat}
    (h : (applyLoop valid n ms i).1 = { n with rest := n.rest ++ new }) :
    (applyLoop valid n ms i).1.chain = n.chain ++ new := by
  rw [h]; rfl

theorem applyLoop_ne_panic (valid : DM → Bool) (ms : List DM) (n : Node) (i : Nat) :
    (applyLoop valid n ms i).2.2 ≠ .panic := by
  obtain ⟨_, _, _, h⟩ := applyLoop_spec valid ms n i
  rcases h with ⟨o, _⟩ | ⟨o, _⟩ <;> rw [o] <;> simp

/-- well-formedness is kept by the apply loop as long as heights stay uint64 values -/
theorem applyLoop_wf (valid : DM → Bool) (ms : List DM) (n : Node) (i : Nat) (hwf : n.WF)
    (hroom : n.chain.length + ms.length + 1 < two64) : (applyLoop valid n ms i).1.WF := by
  fun_induction applyLoop valid n ms i with
  | case1 | case3 => exact hwf
  | case2 n d rest i ha ih =>
    rw [List.length_cons] at hroom
    exact ih (push_wf hwf ha (by omega)) (by rw [push_chain, List.length_append, List.length_singleton]; omega)

/-- shifting the start offset shifts the reported index of a verification error and nothing else -/
def shiftIdx (k : Nat) (r : Node × Nat × Outcome) : Node × Nat × Outcome :=
  (r.1, (if r.2.2 = .errVerify then k + r.2.1 else r.2.1), r.2.2)

theorem applyLoop_shift (valid : DM → Bool) (k : Nat) : ∀ (ms : List DM) (n : Node) (i : Nat),
    applyLoop valid n ms (k + i) = shiftIdx k (applyLoop valid n ms i)
  | [], n, i => rfl
  | d :: rest, n, i => by
    unfold applyLoop
    split
    · exact applyLoop_shift valid k rest (n.push d) (i + 1)
    · rfl

/-- the skip loop, then the rest; the empty batch is the case of an empty suffix -/
theorem insertChain_eq (valid : DM → Bool) (n : Node) (ms : List DM) :
    insertChain valid n ms = insertSuffix valid n (dropKnown n ms) (ms.length - (dropKnown n ms).length) := by
  cases ms <;> rfl

/-- The two ways `InsertChain` can go after the skip loop, whatever the offset `start`. Either it refuses without
    touching the node, or it runs the insert loop over the whole suffix on the node rolled back to some height `h`: the
    frontier's (no rollback: the suffix is empty or its head names the frontier), or that of an own momentum `target`
    which the head names as its previous, at most the window below the frontier, with the tail claiming more height than
    the frontier. -/
theorem insertSuffix_cases (valid : DM → Bool) (n : Node) (suf : List DM) :
    (∃ o, (∀ start, insertSuffix valid n suf start = (n, 0, o)) ∧ o ≠ .ok ∧ o ≠ .errVerify ∧ o ≠ .panic) ∨
    (∃ h, (∀ start, insertSuffix valid n suf start = applyLoop valid (n.rollbackTo h) suf start) ∧
      (h = n.chain.length ∨ ∃ head more target, suf = head :: more ∧
        n.byHeight (pred64 head.height) = some target ∧ target.id = head.prevId ∧
        sub64 n.frontier.height target.height ≤ Gen.InsertChainWindow ∧
        n.frontier.height < ((head :: more).getLastD head).height ∧ h = target.height)) := by
  cases suf with
  | nil => exact Or.inr ⟨_, fun _ => by rw [rollbackTo_frontier]; rfl, Or.inl rfl⟩
  | cons head more =>
    by_cases hl : head.prevId ≠ n.frontier.id
    · cases hb : n.byHeight (pred64 head.height) with
      | none => exact Or.inl ⟨.errLink, fun _ => by simp only [insertSuffix, if_pos hl, hb], by decide⟩
      | some target =>
        by_cases hid : target.id ≠ head.prevId
        · exact Or.inl ⟨.errLink, fun _ => by simp only [insertSuffix, if_pos hl, hb, if_pos hid], by decide⟩
        · by_cases hfar : sub64 n.frontier.height target.height > Gen.InsertChainWindow
          · exact Or.inl ⟨.errTooFar, fun _ => by simp only [insertSuffix, if_pos hl, hb, if_neg hid, if_pos hfar],
              by decide⟩
          · by_cases hlong : ((head :: more).getLastD head).height ≤ n.frontier.height
            · exact Or.inl ⟨.errNotLonger,
                fun _ => by simp only [insertSuffix, if_pos hl, hb, if_neg hid, if_neg hfar, if_pos hlong], by decide⟩
            · exact Or.inr ⟨_,
                fun _ => by simp only [insertSuffix, if_pos hl, hb, if_neg hid, if_neg hfar, if_neg hlong],
                Or.inr ⟨head, more, target, rfl, hb, Decidable.of_not_not hid, Nat.le_of_not_gt hfar,
                  Nat.lt_of_not_le hlong, rfl⟩⟩
    · exact Or.inr ⟨_, fun _ => by rw [rollbackTo_frontier]; simp only [insertSuffix, if_neg hl], Or.inl rfl⟩

theorem insertSuffix_shift (valid : DM → Bool) (k : Nat) (n : Node) (suf : List DM) (s : Nat) :
    insertSuffix valid n suf (k + s) = shiftIdx k (insertSuffix valid n suf s) := by
  rcases insertSuffix_cases valid n suf with ⟨o, he, _, ho, _⟩ | ⟨h, he, _⟩
  · rw [he, he]; simp [shiftIdx, ho]
  · rw [he, he]; exact applyLoop_shift valid k _ _ s

/-- `InsertChain` either refuses without touching the node, or is the insert loop over everything behind the known
    prefix, on the node rolled back as `insertSuffix_cases` says -/
theorem insertChain_cases (valid : DM → Bool) (n : Node) (ms : List DM) :
    (∃ o, insertChain valid n ms = (n, 0, o) ∧ o ≠ .ok ∧ o ≠ .errVerify ∧ o ≠ .panic) ∨
    (∃ h, insertChain valid n ms =
        applyLoop valid (n.rollbackTo h) (dropKnown n ms) (ms.length - (dropKnown n ms).length) ∧
      (h = n.chain.length ∨ ∃ head more target, dropKnown n ms = head :: more ∧
        n.byHeight (pred64 head.height) = some target ∧ target.id = head.prevId ∧
        sub64 n.frontier.height target.height ≤ Gen.InsertChainWindow ∧
        n.frontier.height < ((head :: more).getLastD head).height ∧ h = target.height)) := by
  rw [insertChain_eq]
  rcases insertSuffix_cases valid n (dropKnown n ms) with ⟨o, he, ho⟩ | ⟨h, he, hh⟩
  · exact Or.inl ⟨o, he _, ho⟩
  · exact Or.inr ⟨h, he _, hh⟩

end ZV.Sync
