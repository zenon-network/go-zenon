import ZenonVerif.Lemmas.Contracts
import ZenonVerif.Model.ContractsJoint
/-
Lemmas for the joint machine of Model/ContractsJoint.lean: the frame condition `KeepsBacking`, its preservation by one
receive of any contract, and its proof for every modelled method.
-/
namespace ZV.ContractsJoint
open ZV.Contracts

/-- the frame condition asked of a method that is not modelled: it does not lower balance − liabilities, i.e. what
    the contract owes afterwards plus what the call pays out is covered by what it owed before plus the amount that came
    with the call (and it keeps the contract's storage invariant `I`, assumed for calls satisfying `okc`).
    This is `MethodBackedI`, under the name by which `C10Joint.backed_joint` asks it of a method it has no model of. -/
def KeepsBacking {σ : Type} (I : σ → Prop) (okc : Ctx → Prop) (owed : σ → Tok → Nat) (m : Method σ) : Prop :=
  MethodBackedI I okc owed m

abbrev noInv {σ : Type} : σ → Prop := fun _ => True
abbrev anyCtx : Ctx → Prop := fun _ => True

/-- the frame condition of a receive, by contract; the pillar contract's storage invariant is "an active pillar is
    recorded with the collateral that Revoke pays back", its calls are received at a non-zero frontier time -/
def Call.KeepsBacking (P : Params) : Call → Prop
  | .plasma m => ZV.ContractsJoint.KeepsBacking noInv anyCtx plasmaOwed m
  | .stake m => ZV.ContractsJoint.KeepsBacking noInv anyCtx stakeOwed m
  | .htlc m => ZV.ContractsJoint.KeepsBacking noInv anyCtx htlcOwed m
  | .pillar m => ZV.ContractsJoint.KeepsBacking (PillarInv P) (fun c => c.now ≠ 0) pillarOwed m
  | .sentinel m => ZV.ContractsJoint.KeepsBacking noInv anyCtx sentinelOwed m
  | .liquidity m => ZV.ContractsJoint.KeepsBacking noInv anyCtx liquidityOwed m
  | .bridge _ => True
  | .other => True

/-- every modelled contract holds what it owes, in every real token -/
structure JBacked (P : Params) (s : JState) : Prop where
  plasma : Backed plasmaOwed s.plasma (s.bal .plasma)
  stake : Backed stakeOwed s.stake (s.bal .stake)
  htlc : Backed htlcOwed s.htlc (s.bal .htlc)
  pillarInv : PillarInv P s.pillar
  pillar : Backed pillarOwed s.pillar (s.bal .pillar)
  sentinel : Backed sentinelOwed s.sentinel (s.bal .sentinel)
  liquidity : Backed liquidityOwed s.liquidity (s.bal .liquidity)

theorem step_noInv {σ : Type} {owed : σ → Tok → Nat} {m : Method σ} (hm : KeepsBacking noInv anyCtx owed m)
    {st : σ} {bal : Bal} (c : Ctx) (h : Backed owed st bal) :
    Backed owed (vmStep m st bal c).st (vmStep m st bal c).bal :=
  (vmStep_backedI hm c trivial trivial h).2

theorem setB_ne (bal : CId → Bal) {i j : CId} (h : j ≠ i) (b : Bal) : setB bal i b j = bal j := by simp [setB, h]

/-- one receive of any contract keeps every contract backed: the receiving contract by `vmStep_backedI`, the others
    because neither their storage nor their balances move -/
theorem step_backed (P : Params) (s : JState) (x : Call × Ctx) (hk : x.1.KeepsBacking P) (hnow : x.2.now ≠ 0)
    (h : JBacked P s) : JBacked P (step s x) := by
  obtain ⟨call, c⟩ := x
  cases call with
  | plasma m => exact { h with plasma := step_noInv hk c h.plasma }
  | stake m => exact { h with stake := step_noInv hk c h.stake }
  | htlc m => exact { h with htlc := step_noInv hk c h.htlc }
  | pillar m =>
    have := vmStep_backedI hk c hnow h.pillarInv h.pillar
    exact { h with pillarInv := this.1, pillar := this.2 }
  | sentinel m => exact { h with sentinel := step_noInv hk c h.sentinel }
  | liquidity m => exact { h with liquidity := step_noInv hk c h.liquidity }
  | bridge m => exact { h with }
  | other => exact h

theorem runJ_backed (P : Params) (tr : List (Call × Ctx)) (hk : ∀ x ∈ tr, x.1.KeepsBacking P) (hnow : ∀ x ∈ tr, x.2.now ≠ 0)
    (s : JState) (h : JBacked P s) : JBacked P (runJ s tr) := by
  induction tr generalizing s with
  | nil => exact h
  | cons x r ih =>
    rw [List.forall_mem_cons] at hk hnow
    exact ih hk.2 hnow.2 _ (step_backed P s x hk.1 hnow.1 h)

variable {P : Params} {c : Ctx} {ps : List Payout}

/-! ### the frame condition of the methods modelled in Model/ContractsJoint.lean -/

/-- descendant blocks that carry no amount (Mint calls to the token contract) -/
theorem payTotal_map_zero {α : Type} (tok : Tok) (f : α → Payout) (hf : ∀ a, (f a).amt = 0) (l : List α) :
    payTotal tok (l.map f) = 0 := by
  induction l with
  | nil => rfl
  | cons a r ih => simp [payTotal, hf a, ih]

/-- a method that writes none of the entries and pays nothing out of the balance -/
theorem keepsBacking_frame {σ : Type} {I : σ → Prop} {okc : Ctx → Prop} {owed : σ → Tok → Nat} {m : Method σ}
    (hm : ∀ st c st' ps, m st c = some (st', ps) → st' = st ∧ ∀ tok, payTotal tok ps = 0) :
    KeepsBacking I okc owed m := by
  intro st c st' ps hI _ h
  obtain ⟨e, hp⟩ := hm st c st' ps h
  subst e
  exact ⟨hI, fun tok => by rw [hp tok]; omega⟩

theorem donate_keepsBacking {σ : Type} {I : σ → Prop} {okc : Ctx → Prop} {owed : σ → Tok → Nat} :
    KeepsBacking I okc owed (donate : Method σ) :=
  keepsBacking_frame fun st c st' ps h => by
    cases h; exact ⟨rfl, fun _ => rfl⟩

theorem rewardUpdate_keepsBacking {σ : Type} {I : σ → Prop} {okc : Ctx → Prop} {owed : σ → Tok → Nat} (ok : Bool) :
    KeepsBacking I okc owed (rewardUpdate ok : Method σ) :=
  keepsBacking_frame fun st c st' ps h => by
    simp only [rewardUpdate, method_inv] at h
    exact ⟨h.2.2.1.symm, fun _ => h.2.2.2 ▸ rfl⟩

theorem collectReward_keepsBacking {σ : Type} {I : σ → Prop} {okc : Ctx → Prop} {owed : σ → Tok → Nat} (rw : List (Tok × Nat)) :
    KeepsBacking I okc owed (collectReward rw : Method σ) :=
  keepsBacking_frame fun st c st' ps h => by
    simp only [collectReward, method_inv] at h
    exact ⟨h.2.2.1.symm, fun tok => h.2.2.2 ▸ payTotal_map_zero tok _ (fun _ => rfl) rw⟩

/-! ### deletion of cancelled stake entries by a reward epoch -/

theorem sweepStake_sublist (endT : Int) (l : List ((Addr × Hash) × StakeE)) : (sweepStake endT l).Sublist l := by
  induction l with
  | nil => exact .slnil
  | cons x r ih =>
    simp only [sweepStake]
    split
    · exact ih.cons _
    · exact ih.cons_cons _

/-- passes that never raise a sum do not raise it when repeated -/
theorem total_foldl_le {κ ν : Type} [DecidableEq κ] (f : ν → Nat) (sw : Int → List (κ × ν) → List (κ × ν))
    (h : ∀ e l, total f (sw e l) ≤ total f l) (ends : List Int) (l : List (κ × ν)) :
    total f (ends.foldl (fun l e => sw e l) l) ≤ total f l := by
  induction ends generalizing l with
  | nil => exact Nat.le_refl _
  | cons e r ih => exact Nat.le_trans (ih _) (h e l)

/-- every stake entry that has been paid out is recorded with amount 0 -/
def StakeInv (s : Stake) : Prop := ∀ x ∈ s.entries, x.2.revoke ≠ 0 → x.2.amount = 0

/-- the deletion pass removes nothing that is owed: when the entries are those of a state with `StakeInv` (the
    hypothesis `h`), the liability sum is exactly what it was -/
theorem total_sweepStake_eq (endT : Int) (l : List ((Addr × Hash) × StakeE))
    (h : ∀ x ∈ l, x.2.revoke ≠ 0 → x.2.amount = 0) :
    total (·.amount) (sweepStake endT l) = total (·.amount) l := by
  induction l with
  | nil => rfl
  | cons x r ih =>
    obtain ⟨k, e⟩ := x
    rw [List.forall_mem_cons] at h
    have hr := ih h.2
    simp only [sweepStake]
    split
    · rename_i hc
      have : e.amount = 0 := h.1 hc.1
      simp only [total, this, hr]; omega
    · simp only [total, hr]

/-- an entry that has not been cancelled survives the deletion pass: same key, same content -/
theorem lookup_sweepStake_active (endT : Int) (l : List ((Addr × Hash) × StakeE)) (k : Addr × Hash) (e : StakeE)
    (hl : lookup k l = some e) (ha : e.revoke = 0) : lookup k (sweepStake endT l) = some e := by
  induction l with
  | nil => simp [lookup] at hl
  | cons y r ih =>
    obtain ⟨k', e'⟩ := y
    simp only [lookup] at hl
    split at hl
    · rename_i hk
      cases hl
      subst hk
      simp [sweepStake, ha, lookup]
    · rename_i hk
      simp only [sweepStake]
      split
      · exact ih hl
      · simp only [lookup, hk, if_false]; exact ih hl

/-- the deletion passes of one Update keep every entry that has not been cancelled, add none, and under `StakeInv`
    leave the liability sum as it was -/
theorem sweeps_spec (ends : List Int) (l : List ((Addr × Hash) × StakeE)) :
    (∀ k e, lookup k l = some e → e.revoke = 0 → lookup k (ends.foldl (fun l e => sweepStake e l) l) = some e) ∧
    (∀ x ∈ ends.foldl (fun l e => sweepStake e l) l, x ∈ l) ∧
    ((∀ x ∈ l, x.2.revoke ≠ 0 → x.2.amount = 0) →
      total (·.amount) (ends.foldl (fun l e => sweepStake e l) l) = total (·.amount) l) := by
  induction ends generalizing l with
  | nil => exact ⟨fun _ _ h _ => h, fun _ h => h, fun _ => rfl⟩
  | cons t r ih =>
    obtain ⟨h1, h2, h3⟩ := ih (sweepStake t l)
    exact ⟨fun k e hl ha => h1 k e (lookup_sweepStake_active t l k e hl ha) ha, fun x hx => (sweepStake_sublist t l).mem (h2 x hx),
      fun hI => (h3 fun x hx => hI x ((sweepStake_sublist t l).mem hx)).trans (total_sweepStake_eq t l hI)⟩

theorem stakeUpdate_spec {ends : List Int} {s s' : Stake} : stakeUpdate ends s c = some (s', ps) ↔
    c.amount = 0 ∧ { entries := ends.foldl (fun l e => sweepStake e l) s.entries } = s' ∧ [] = ps := by
  simp only [stakeUpdate, method_inv]

theorem stakeUpdate_keepsBacking (ends : List Int) : KeepsBacking noInv anyCtx stakeOwed (stakeUpdate ends) := by
  intro st c st' ps _ _ h
  obtain ⟨_, rfl, rfl⟩ := stakeUpdate_spec.1 h
  exact ⟨trivial, law_one_token (Nat.le_trans (total_foldl_le _ _ (fun e l => total_sublist_le _ (sweepStake_sublist e l)) ends st.entries) (Nat.le_add_right _ _)) fun _ _ => rfl⟩

theorem sweepLStake_sublist (endT : Int) (l : List ((Addr × Hash) × LStakeE)) : (sweepLStake endT l).Sublist l := by
  induction l with
  | nil => exact .slnil
  | cons x r ih =>
    simp only [sweepLStake]
    split
    · exact ih.cons _
    · exact ih.cons_cons _

theorem liquidityUpdate_keepsBacking (ends : List Int) (mints : List (Tok × Nat × Addr)) :
    KeepsBacking noInv anyCtx liquidityOwed (liquidityUpdate ends mints) := by
  intro st c st' ps _ _ h
  simp only [liquidityUpdate, method_inv] at h
  obtain ⟨_, rfl, rfl⟩ := h
  refine ⟨trivial, fun tok => ?_⟩
  rw [payTotal_map_zero tok _ (fun _ => rfl) mints]
  exact Nat.le_trans (total_foldl_le _ _ (fun e l => total_sublist_le _ (sweepLStake_sublist e l)) ends st.entries) (Nat.le_add_right _ _)

/-! ### legacy pillar registration -/

theorem registerLegacyPillar_spec {name : Hash} {producer reward : Addr} {pb pd : Nat} {ok slot : Bool} {s s' : Pillar} :
    registerLegacyPillar P name producer reward pb pd ok slot s c = some (s', ps) ↔
    ok = true ∧ pb ≤ 100 ∧ pd ≤ 100 ∧ c.token = znnTok ∧ c.amount = P.pillarStakeAmount ∧ slot = true ∧
    lookup name s.pillars = none ∧ producerAvailable s producer name = true ∧
    ∃ d', consumeQsr s.deposits c.sender P.pillarQsrBase = some d' ∧
      { s with pillars := put name ⟨c.sender, P.pillarStakeAmount, c.now, 0, producer, reward, ZV.Gen.LegacyPillarType, pb, pd⟩ s.pillars,
               producing := put producer name s.producing, deposits := d' } = s' ∧
      [⟨tokenContract, qsrTok, P.pillarQsrBase, .burn⟩] = ps := by
  unfold registerLegacyPillar
  cases consumeQsr s.deposits c.sender P.pillarQsrBase <;> simp only [method_inv]

theorem registerLegacyPillar_keepsBacking (P : Params) (name : Hash) (producer reward : Addr) (pb pd : Nat) (ok slot : Bool) :
    KeepsBacking (PillarInv P) (fun c => c.now ≠ 0) pillarOwed (registerLegacyPillar P name producer reward pb pd ok slot) := by
  intro st c st' ps hI _ h
  obtain ⟨_, _, _, ht, ha, _, _, _, d', hd, rfl, rfl⟩ := registerLegacyPillar_spec.1 h
  exact ⟨forall_mem_put hI fun _ => rfl,
    law_znn_qsr (law_put (Nat.le_of_eq ((if_pos ht.symm).trans ha).symm))
      (Nat.le_trans (consumeQsr_law hd).2 (Nat.le_add_right _ _)) fun _ _ h2 => payTotal_single_ne h2 ..⟩

/-- every modelled method obeys the frame condition -/
theorem modelled_keepsBacking (P : Params) (H : HashFn) {call : Call} (h : call.Modelled P H) : call.KeepsBacking P := by
  cases h with
  | plasma op => exact (plasma_methodBacked P op).withoutInv
  | plasmaDonate => exact donate_keepsBacking
  | stake op => exact (stake_methodBacked P op).withoutInv
  | stakeUpdate ends => exact stakeUpdate_keepsBacking ends
  | stakeCollect rw => exact collectReward_keepsBacking rw
  | stakeDonate => exact donate_keepsBacking
  | htlc op => exact (htlc_methodBacked H op).withoutInv
  | htlcDonate => exact donate_keepsBacking
  | pillar op => exact pillar_methodBackedI P op
  | pillarLegacy name producer reward pb pd nameOk slotOk => exact registerLegacyPillar_keepsBacking P name producer reward pb pd nameOk slotOk
  | pillarUpdate ok => exact rewardUpdate_keepsBacking ok
  | pillarCollect rw => exact collectReward_keepsBacking rw
  | pillarDonate => exact donate_keepsBacking
  | sentinel op => exact (sentinel_methodBacked P op).withoutInv
  | sentinelUpdate ok => exact rewardUpdate_keepsBacking ok
  | sentinelCollect rw => exact collectReward_keepsBacking rw
  | sentinelDonate => exact donate_keepsBacking
  | liquidity op => exact (liquidity_methodBacked P op).withoutInv
  | liquidityUpdate ends mints => exact liquidityUpdate_keepsBacking ends mints
  | liquidityCollect rw => exact collectReward_keepsBacking rw
  | liquidityDonate => exact donate_keepsBacking
  | bridge m => exact trivial
  | other => exact trivial

end ZV.ContractsJoint
