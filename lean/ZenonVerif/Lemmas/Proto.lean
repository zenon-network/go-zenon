import ZenonVerif.Model.Proto
/-
Helper lemmas for C15 (request arithmetic of the protocol handler). Core Lean only.
-/
namespace ZV.Proto
open ZV

theorem capHash_le (a : Nat) : capHash a ≤ Gen.MaxHashFetch := by
  unfold capHash; split <;> omega

theorem capHash_le_self (a : Nat) : capHash a ≤ a := by
  unfold capHash; split <;> omega

theorem capHash_of_le {a : Nat} (h : a ≤ Gen.MaxHashFetch) : capHash a = a := by
  unfold capHash; split <;> omega

theorem u64_of_lt {n : Nat} (h : n < two64) : u64 n = n := Nat.mod_eq_of_lt h

theorem u64_lt (n : Nat) : u64 n < two64 := Nat.mod_lt _ (by decide)

theorem sub64_of_le {a b : Nat} (hb : b ≤ a) : sub64 a b = a - b := by
  unfold sub64; simp [hb]

theorem sub64_le (a b : Nat) (ha : a < two64) : sub64 a b ≤ two64 := by
  unfold sub64; split <;> omega

theorem byHeight_some {H h : Nat} (h1 : 1 ≤ h) (h2 : h ≤ H) : byHeight H h = some h := by
  unfold byHeight; simp [h1, h2]

theorem byHeight_eq_some {H h l : Nat} (hl : byHeight H h = some l) : l = h ∧ 1 ≤ h ∧ h ≤ H := by
  unfold byHeight at hl
  split at hl
  · next hc => cases hl; exact ⟨rfl, hc.1, hc.2⟩
  · cases hl

theorem byHeight_eq_none {H h : Nat} (hl : byHeight H h = none) : h = 0 ∨ H < h := by
  unfold byHeight at hl
  split at hl
  · cases hl
  · omega

theorem map_byHeight_range' (H frm n : Nat) (h1 : 1 ≤ frm) (h2 : frm + n ≤ H + 1) :
    (List.range' frm n).map (byHeight H) = (List.range' frm n).map some := by
  apply List.map_congr_left
  intro a ha
  rw [List.mem_range'_1] at ha
  exact byHeight_some (by omega) (by omega)

theorem all_isSome_map_some (l : List Nat) : (l.map some).all Option.isSome = true := by simp

theorem filterMap_id_map_some (l : List Nat) : (l.map some).filterMap id = l := by simp

/-- the range computed by `GetMomentumsByHeight(h, false, count)` when nothing wraps -/
theorem lowerRange_eq {h count : Nat} (hh : h + 1 < two64) :
    lowerRange h count = (if h + 1 ≤ count then 1 else h + 1 - count, h + 1) := by
  unfold lowerRange
  rw [u64_of_lt hh]
  split
  · rfl
  · next hn => rw [sub64_of_le (by omega)]

theorem byHash_none (H : Nat) : byHash H none = none := rfl

theorem byHash_some {H h : Nat} (h1 : 1 ≤ h) (h2 : h ≤ H) : byHash H (some h) = some h := by
  unfold byHash; simp [byHeight_some h1 h2]

/-- a hash the node does not hold: no momentums, an empty list of hashes -/
theorem hashesFromHash_none (H amount : Nat) : hashesFromHash H none amount = .ok [] := rfl

/-- `GetBlockHashesFromHash` on a held momentum at height `h`: exactly the heights
    max(1, h+1-count) .. h, ascending. Premises: `h + 1` does not wrap around (the chain has fewer than
    2^64 − 1 momentums) and the count is one `make` accepts (every capped amount is). -/
theorem hashesFromHash_some {H h count : Nat} (h1 : 1 ≤ h) (h2 : h ≤ H) (hH : H + 1 < two64)
    (hc : count ≤ makesliceMax) :
    hashesFromHash H (some h) count =
      .ok (List.range' (if h + 1 ≤ count then 1 else h + 1 - count)
                       (h + 1 - (if h + 1 ≤ count then 1 else h + 1 - count))) := by
  have hh : h + 1 < two64 := by omega
  unfold hashesFromHash
  simp only [byHash_some h1 h2, lowerRange_eq hh]
  generalize hf : (if h + 1 ≤ count then 1 else h + 1 - count) = frm
  obtain ⟨hf1, hf2, hf3⟩ : 1 ≤ frm ∧ frm ≤ h + 1 ∧ h + 1 - frm ≤ count := by subst hf; split <;> omega
  unfold momentumsByRange
  have hs : sub64 (h + 1) frm = h + 1 - frm := sub64_of_le hf2
  have hle : ¬ (sub64 (h + 1) frm > makesliceMax) := by rw [hs]; omega
  simp only [hle, if_false]
  rw [map_byHeight_range' H frm (h + 1 - frm) hf1 (by omega)]
  simp

theorem hashesFromHash_some_length {H h count : Nat} {l : List Nat} (h1 : 1 ≤ h) (h2 : h ≤ H)
    (hH : H + 1 < two64) (hc : count ≤ makesliceMax)
    (hl : hashesFromHash H (some h) count = .ok l) : l.length = min h count := by
  rw [hashesFromHash_some h1 h2 hH hc] at hl
  cases hl
  rw [List.length_range']
  split <;> omega

theorem lowerRange_width (h count : Nat) : (lowerRange h count).2 - (lowerRange h count).1 ≤ count := by
  unfold lowerRange
  simp only
  split
  · omega
  · next hn => rw [sub64_of_le (by omega)]; omega

theorem momentumsByRange_length {H frm to : Nat} {l : List (Option Nat)} (h : momentumsByRange H frm to = .ok l) :
    l.length = to - frm := by
  unfold momentumsByRange at h
  split at h
  · cases h
  · cases h; simp

/-- without any premise on H: a reply produced from an amount never has more entries than the amount. -/
theorem hashesFromHash_length_le (H : Nat) (hash : Option Nat) (count : Nat) (l : List Nat)
    (hl : hashesFromHash H hash count = .ok l) : l.length ≤ count := by
  unfold hashesFromHash at hl
  split at hl
  · cases hl; exact Nat.zero_le _
  · simp only [] at hl
    split at hl
    · next m hm =>
      split at hl
      · cases hl
        have := momentumsByRange_length hm
        have := lowerRange_width ‹_› count
        have := List.length_filterMap_le id m
        omega
      · cases hl
    · cases hl
    · cases hl
theorem gatherBlocks_length (l : List (Option Nat)) (acc : List Nat) (h : acc.length < Gen.MaxBlockFetch) :
    (gatherBlocks l acc).1.length ≤ Gen.MaxBlockFetch := by
  fun_induction gatherBlocks l acc with
  | case1 => exact Nat.le_of_lt h
  | case2 _ _ ih => exact ih h
  | case3 => rw [List.length_append]; exact Nat.succ_le_of_lt h
  | case4 _ _ _ _ hlt ih => exact ih (Nat.lt_of_not_le hlt)

theorem currentBlock_some {H : Nat} (h1 : 1 ≤ H) : currentBlock H = some H :=
  byHeight_some h1 (Nat.le_refl _)

/-- whatever the chain and the request: the amount handed to `GetBlockHashesFromHash` is at most the capped
    amount (the recomputation in the `last == nil` branch only ever reduces it) -/
theorem fromNumberLast_amount_le {H n a1 : Nat} {p : Nat × Nat} (hp : fromNumberLast H n a1 = some p) :
    p.2 ≤ a1 := by
  unfold fromNumberLast at hp
  split at hp
  · cases hp; exact Nat.le_refl _
  · split at hp
    · cases hp
    · cases hp
      simp only
      split <;> omega

/-- on a node that holds its genesis momentum `last` is never nil, it is a held momentum, and the amount is
    at most the capped one -/
theorem fromNumberLast_spec (H n a1 : Nat) (h1 : 1 ≤ H) :
    ∃ p, fromNumberLast H n a1 = some p ∧ 1 ≤ p.1 ∧ p.1 ≤ H ∧ p.2 ≤ a1 := by
  unfold fromNumberLast
  split
  · next l hb =>
    have := byHeight_eq_some hb
    exact ⟨_, rfl, by simp only; omega, by simp only; omega, Nat.le_refl _⟩
  · rw [currentBlock_some h1]
    exact ⟨_, rfl, h1, Nat.le_refl _, by simp only; split <;> omega⟩

/-- a chain of tests each returning an error: no error iff no test fires -/
theorem ite_some_eq_none {α : Type} {c : Prop} [Decidable c] {e : α} {x : Option α} :
    (if c then some e else x) = none ↔ ¬ c ∧ x = none := by
  by_cases h : c <;> simp [h]

/-! ### the reply limits, per request handler -/

theorem onGetHashes_withinCaps (H : Nat) (hash : Option Nat) (a : Nat) : (onGetHashes H hash a).withinCaps := by
  unfold onGetHashes
  split
  · next l hl => exact Nat.le_trans (hashesFromHash_length_le H hash _ _ hl) (capHash_le a)
  · trivial
  · trivial

theorem onGetBlocks_withinCaps (H : Nat) (hs : List (Option Nat)) (bad : Bool) : (onGetBlocks H hs bad).withinCaps := by
  unfold onGetBlocks
  simp only
  split
  · trivial
  · exact gatherBlocks_length _ [] (by decide)

theorem onGetHashesFromNumber_withinCaps (H n a : Nat) : (onGetHashesFromNumber H n a).withinCaps := by
  unfold onGetHashesFromNumber
  split
  · trivial
  · next p hp =>
    have hp2 := fromNumberLast_amount_le hp
    have hc := capHash_le a
    split
    · exact Nat.zero_le _
    · split
      · next l hl =>
        have := hashesFromHash_length_le H _ _ _ hl
        simp only [Reply.withinCaps, List.length_reverse]
        omega
      · trivial
      · trivial
/-! ### no request handler panics (on a node that holds its genesis momentum and has room for one more height) -/

theorem byHash_eq_some {H h : Nat} {hash : Option Nat} (hb : byHash H hash = some h) : hash = some h ∧ 1 ≤ h ∧ h ≤ H := by
  obtain ⟨h', rfl, hb⟩ := Option.bind_eq_some_iff.mp hb
  obtain ⟨rfl, hl⟩ := byHeight_eq_some hb
  exact ⟨rfl, hl⟩

theorem capHash_le_makeslice (a : Nat) : capHash a ≤ makesliceMax :=
  Nat.le_trans (capHash_le a) (by decide)

theorem hashesFromHash_ok {H count : Nat} (hH : H + 1 < two64) (hc : count ≤ makesliceMax) (hash : Option Nat) :
    ∃ l, hashesFromHash H hash count = .ok l := by
  cases hb : byHash H hash with
  | none => exact ⟨[], by unfold hashesFromHash; rw [hb]⟩
  | some h =>
    obtain ⟨rfl, h1, h2⟩ := byHash_eq_some hb
    exact ⟨_, hashesFromHash_some h1 h2 hH hc⟩

theorem onGetHashes_ne_panic {H : Nat} (hH : H + 1 < two64) (hash : Option Nat) (a : Nat) :
    onGetHashes H hash a ≠ .panic := by
  obtain ⟨l, hl⟩ := hashesFromHash_ok hH (capHash_le_makeslice a) hash
  unfold onGetHashes
  rw [hl]
  nofun

theorem onGetHashesFromNumber_ne_panic {H : Nat} (h1 : 1 ≤ H) (hH : H + 1 < two64) (n a : Nat) :
    onGetHashesFromNumber H n a ≠ .panic := by
  obtain ⟨p, hp, _, _, hp3⟩ := fromNumberLast_spec H n (capHash a) h1
  obtain ⟨l, hl⟩ := hashesFromHash_ok hH (Nat.le_trans hp3 (capHash_le_makeslice a)) (some p.1)
  unfold onGetHashesFromNumber
  rw [hp]
  simp only [hl]
  split <;> nofun

theorem onGetBlocks_ne_panic (H : Nat) (hs : List (Option Nat)) (bad : Bool) : onGetBlocks H hs bad ≠ .panic := by
  unfold onGetBlocks
  simp only
  split <;> nofun

/-- every `case` of the switch ends in one of five ways: an error or a reply to one of the three requests, the state
    untouched, or no reply at all -/
theorem handleKind_ind (s : State) {P : State × Reply → Prop} (herr : ∀ e, P (s, .err e)) (hcont : ∀ s', P (s', .cont))
    (h1 : ∀ h a, P (s, onGetHashes s.H h a)) (h2 : ∀ n a, P (s, onGetHashesFromNumber s.H n a))
    (h3 : ∀ hs bad, P (s, onGetBlocks s.H hs bad)) (k : Kind) (b : Body) : P (handleKind s k b) := by
  cases k <;> cases b
  -- `TxMsg` with a list of items is tested for a nil element first
  case tx.items n nilItem => cases nilItem <;> first | apply herr | apply hcont
  all_goals first | apply herr | apply hcont | apply h1 | apply h2 | apply h3

end ZV.Proto
