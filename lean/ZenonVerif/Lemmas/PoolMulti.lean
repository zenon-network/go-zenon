import ZenonVerif.Model.PoolMulti
import ZenonVerif.Lemmas.PoolChain
/-
The whole pool (Model/PoolMulti.lean) as a state machine: per address the pooled transactions, flattened, are one chain
on top of the confirmed chain and `patches` answers for exactly their commits (`MgrOK`, `Inv`); adding keeps a prefix of
whole transactions, `rebuild` keeps `keptBy`.

What this shares with the one-address development (Lemmas/PoolChain.lean) is the level of lists of blocks: `Linked`,
`HeightsOK`, `lastIdFrom`, `byHeight_*`, `uncommittedOf_above`. The machine above it is built a second time under the
same names (`MgrOK`, `Inv`, `rollbackTo_reaches`, `addTxWith_cases` for `addBlock_cases`, …), because Model/Pool.lean is
not an instance of this model: its manager has no `patches` (and `Pop` here commutes with forgetting them only when the
identifiers are distinct, i.e. under the invariant), its `canRollback` looks up `Previous().Height` where this one
looks up the head's height minus one, and its loops are separate definitions, so their inductions cannot be shared.
Nor are the one-address theorems corollaries of the ones in Props/C14Multi.lean: `C14.competitor_decided_by_rule` asks
only that the competitor's hash differs from the block it competes with, `winner_by_rule_multi` that it is new to the
whole pool.
-/
namespace ZV.PoolMulti
open ZV ZV.Pool

/-- what `Supervisor.ApplyBlock` / the VM guarantee about a transaction handed to the pool: the commits link to one
    another (descendants numbered consecutively below the receive), no height 0, the descendants are ContractSend blocks
    and the head is not -/
def TxWF (t : Tx) : Prop :=
  Linked t.prev t.commits ∧ HeightsOK t.commits ∧ (∀ d ∈ t.desc, isContractSend d.btype = true) ∧
    isContractSend t.head.btype = false

instance (t : Tx) : Decidable (TxWF t) := by unfold TxWF; infer_instance

theorem commits_ne_nil (t : Tx) : t.commits ≠ [] := by simp [Tx.commits]

theorem flat_nil : flat [] = [] := rfl
theorem flat_cons (t : Tx) (ts : List Tx) : flat (t :: ts) = t.commits ++ flat ts := by simp [flat]
theorem flat_append (xs ys : List Tx) : flat (xs ++ ys) = flat xs ++ flat ys := by simp [flat]
theorem flat_concat (xs : List Tx) (t : Tx) : flat (xs ++ [t]) = flat xs ++ t.commits := by simp [flat]

theorem lastIdFrom_commits (s : Id) (t : Tx) : lastIdFrom s t.commits = t.id := by
  simp [Tx.commits, lastIdFrom_concat, Tx.id]

/-- the head lies as many heights above the place its transaction links to as the transaction has commits -/
theorem head_height {t : Tx} {s : Id} (hl : Linked s t.commits) (hh : HeightsOK t.commits) :
    t.head.height = s.2 + t.commits.length := by
  have := linked_last_height t.commits s hl hh
  rwa [lastIdFrom_commits] at this

theorem linked_commits_iff (s : Id) (t : Tx) : Linked s t.commits ↔ t.prev = s ∧ Linked t.prev t.commits := by
  unfold Tx.commits Tx.prev
  cases t.desc with
  | nil => simp [Linked]
  | cons d ds => simp [Linked]

theorem linked_flat_cons (s : Id) (t : Tx) (r : List Tx) :
    Linked s (flat (t :: r)) ↔ t.prev = s ∧ Linked t.prev t.commits ∧ Linked t.id (flat r) := by
  rw [flat_cons, linked_append, lastIdFrom_commits, linked_commits_iff]
  exact and_assoc

theorem mem_flat {b : Blk} {ts : List Tx} : b ∈ flat ts ↔ ∃ t ∈ ts, b ∈ t.commits := by
  simp [flat]

theorem head_mem_commits (t : Tx) : t.head ∈ t.commits := by simp [Tx.commits]

/-- cutting a chain of transactions between two of them leaves a chain below the cut and links the rest to it -/
theorem chain_flat_take {s : Id} {ts : List Tx} (hl : Linked s (flat ts)) (hh : HeightsOK (flat ts)) (k : Nat) :
    (Linked s (flat (ts.take k)) ∧ HeightsOK (flat (ts.take k))) ∧
      Linked (lastIdFrom s (flat (ts.take k))) (flat (ts.drop k)) := by
  rw [← List.take_append_drop k ts, flat_append] at hl hh
  exact ⟨⟨((linked_append _ _ _).mp hl).1, (heightsOK_append.mp hh).1⟩, ((linked_append _ _ _).mp hl).2⟩

/-- the shape of a manager built on the chain `conf`: its pooled transactions, flattened, are one chain on top of
    `conf`; the descendants are ContractSend blocks and the heads are not; `patches` answers exactly for their commits -/
def MgrOK (conf : List Blk) (m : Mgr) : Prop :=
  m.base = conf ∧ Linked (lastId conf) (flat m.pooled) ∧ HeightsOK (flat m.pooled) ∧
    (∀ t ∈ m.pooled, (∀ d ∈ t.desc, isContractSend d.btype = true) ∧ isContractSend t.head.btype = false) ∧
    ∀ i, i ∈ m.patches ↔ i ∈ (flat m.pooled).map Blk.id

theorem frontierId_eq (m : Mgr) : m.frontierId = lastIdFrom (lastId m.base) (flat m.pooled) := lastId_append _ _

theorem fresh_ok (conf : List Blk) : MgrOK conf ⟨conf, [], []⟩ :=
  ⟨rfl, trivial, fun _ hb => by simp [flat] at hb, fun _ ht => by simp at ht, fun i => by simp [flat]⟩

theorem add_eq_some {m m' : Mgr} {t : Tx} (h : m.add t = some m') : t.prev = m.frontierId ∧
    m' = { m with pooled := m.pooled ++ [t], patches := m.patches ++ t.commits.map Blk.id } := by
  unfold Mgr.add at h
  split at h
  · exact ⟨‹_›, (Option.some.inj h).symm⟩
  · cases h

theorem add_ok {conf : List Blk} {m m' : Mgr} {t : Tx} (hm : MgrOK conf m) (ht : TxWF t)
    (h : m.add t = some m') : MgrOK conf m' := by
  obtain ⟨hp, rfl⟩ := add_eq_some h
  obtain ⟨h1, h2, h3, h4, h5⟩ := hm
  refine ⟨h1, ?_, ?_, ?_, ?_⟩
  · rw [flat_concat, linked_append, linked_commits_iff]
    exact ⟨h2, by rw [hp, frontierId_eq, h1], ht.1⟩
  · rw [flat_concat]; exact heightsOK_append.mpr ⟨h3, ht.2.1⟩
  · exact fun x hx => (List.mem_append.mp hx).elim (h4 x) fun h => List.mem_singleton.mp h ▸ ht.2.2
  · intro i
    simp only [flat_concat, List.mem_append, List.map_append, h5 i]

/-- the identifiers of two consecutive parts of a chain are disjoint (heights increase) -/
theorem chain_parts_disjoint (start : Id) (xs ys : List Blk) (hl : Linked start (xs ++ ys)) (hh : HeightsOK (xs ++ ys)) :
    ∀ i, i ∈ xs.map Blk.id → i ∉ ys.map Blk.id := by
  intro i hx hy
  obtain ⟨x, hxm, rfl⟩ := List.mem_map.mp hx
  obtain ⟨y, hym, hxy⟩ := List.mem_map.mp hy
  exact Nat.ne_of_lt ((List.pairwise_append.mp (linked_pairwise hl hh)).2.2 x hxm y hym) (congrArg Prod.snd hxy).symm

theorem pop_ok_aux {conf : List Blk} {m : Mgr} {t : Tx} (hm : MgrOK conf m) (hl : m.pooled.getLast? = some t) :
    MgrOK conf { m with pooled := m.pooled.dropLast,
                        patches := m.patches.filter (fun i => !(t.commits.map Blk.id).contains i) } := by
  obtain ⟨h1, h2, h3, h4, h5⟩ := hm
  have hflat : flat m.pooled = flat m.pooled.dropLast ++ t.commits := by
    obtain ⟨ys, hys⟩ := List.getLast?_eq_some_iff.mp hl
    rw [hys, List.dropLast_concat, flat_concat]
  rw [hflat] at h2 h3
  refine ⟨h1, ((linked_append _ _ _).mp h2).1, (heightsOK_append.mp h3).1,
    fun x hx => h4 x (List.dropLast_subset _ hx), ?_⟩
  intro i
  have hdis := chain_parts_disjoint _ _ _ h2 h3 i
  simp only [List.mem_filter, h5 i, hflat, List.map_append, List.mem_append, Bool.not_eq_true',
    List.contains_eq_mem, decide_eq_false_iff_not]
  exact ⟨fun ⟨ha, hb⟩ => ha.resolve_right hb, fun ha => ⟨Or.inl ha, hdis ha⟩⟩

theorem pop_ok {conf : List Blk} {m m' : Mgr} (hm : MgrOK conf m) (h : m.pop = some m') :
    MgrOK conf m' ∧ m'.pooled = m.pooled.dropLast := by
  unfold Mgr.pop at h
  split at h
  · cases h
  · split at h
    · cases h
    · rename_i t hl
      cases h
      exact ⟨pop_ok_aux hm hl, rfl⟩

theorem rollbackTo_ok (prev : Id) {conf : List Blk} (fuel : Nat) (m : Mgr) (hm : MgrOK conf m) :
    MgrOK conf (rollbackTo Mgr.pop prev fuel m).1 ∧ ∃ j, (rollbackTo Mgr.pop prev fuel m).1.pooled = m.pooled.take j := by
  fun_induction rollbackTo Mgr.pop prev fuel m with
  | case4 _ m _ _ hp ih =>
    obtain ⟨h1, h2⟩ := pop_ok hm hp
    obtain ⟨a, j, hj⟩ := ih h1
    exact ⟨a, min j (m.pooled.length - 1), by rw [hj, h2, List.dropLast_eq_take, List.take_take]⟩
  | case1 m | case2 _ m | case3 _ m => exact ⟨hm, m.pooled.length, (List.take_length).symm⟩

theorem addAll_ok {conf : List Blk} : ∀ (ts : List Tx) (m m' : Mgr), MgrOK conf m → (∀ t ∈ ts, TxWF t) →
    addAll m ts = some m' → MgrOK conf m' ∧ m'.pooled = m.pooled ++ ts
  | [], m, m', hm, _, h => by simp [addAll] at h; subst h; simp [hm]
  | t :: ts, m, m', hm, hh, h => by
    unfold addAll at h
    cases ha : m.add t with
    | none => simp [ha] at h
    | some m1 =>
      simp only [ha] at h
      have h1 := add_ok hm (hh t (by simp)) ha
      obtain ⟨h3, h4⟩ := addAll_ok ts m1 m' h1 (fun x hx => hh x (by simp [hx])) h
      exact ⟨h3, by rw [h4, (add_eq_some ha).2]; simp⟩

/-- the invariant of one address of the whole pool, kept by every operation that satisfies `OpOK`: the stable chain is
    a chain from the zero identifier and the manager, once created, is built on exactly that chain (`MgrOK`) -/
def Inv (s : AState) : Prop :=
  Linked zeroId s.confirmed ∧ HeightsOK s.confirmed ∧ ∀ m, s.mgr = some m → MgrOK s.confirmed m

theorem manager_ok {s : AState} (h : Inv s) : MgrOK s.confirmed s.manager := by
  unfold AState.manager
  cases hm : s.mgr with
  | none => exact fresh_ok _
  | some m => exact h.2.2 m hm

theorem inv_set_mgr {s : AState} {m : Mgr} (h : Inv s) (hm : MgrOK s.confirmed m) : Inv { s with mgr := some m } :=
  ⟨h.1, h.2.1, fun m' hm' => by simp at hm'; subst hm'; exact hm⟩

theorem view_chain {s : AState} (h : Inv s) : Linked zeroId s.manager.view ∧ HeightsOK s.manager.view := by
  obtain ⟨h1, h2, h3, _⟩ := manager_ok h
  rw [Mgr.view, h1]
  exact ⟨(linked_append _ _ _).mpr ⟨h.1, h2⟩, heightsOK_append.mpr ⟨h.2.1, h3⟩⟩

/-- the branches of `addAccountBlockTransaction`, whatever `Pop`, `canRollback` and the competitor lookup are: the
    manager stays as it was, gets the transaction on top, is cut by the rollback loop, or is cut and gets the
    transaction on top -/
theorem addTxWith_cases (pop : Mgr → Option Mgr) (canRb : List Blk → Mgr → Tx → Option AddRes)
    (rivalOf : Mgr → Tx → Option Blk → Option Blk) (s : AState) (t : Tx) (f : Bool) :
    ∃ m' r, addTxWith pop canRb rivalOf s t f = ({ s with mgr := some m' }, r) ∧
      (m' = s.manager ∨ s.manager.add t = some m' ∨
       m' = (rollbackTo pop t.prev (s.manager.pooled.length + 1) s.manager).1 ∨
       (rollbackTo pop t.prev (s.manager.pooled.length + 1) s.manager).1.add t = some m') := by
  fun_cases addTxWith pop canRb rivalOf s t f
  case case1 _ _ ha => exact ⟨_, _, rfl, .inr (.inl ha)⟩
  case case8 hr _ => exact ⟨_, _, rfl, .inr (.inr (.inl (by rw [hr])))⟩
  case case9 hr _ _ ha => exact ⟨_, _, rfl, .inr (.inr (.inr (by rw [hr]; exact ha)))⟩
  case case10 hr _ _ => exact ⟨_, _, rfl, .inr (.inr (.inl (by rw [hr])))⟩
  -- every other branch leaves the manager as it was
  all_goals exact ⟨_, _, rfl, .inl rfl⟩

/-- what `addTx` does to the pooled transactions: it keeps the first `j` of them (whole) and possibly appends the
    offered one — nothing else; the confirmed chain is untouched -/
theorem addTxWith_shape (canRb : List Blk → Mgr → Tx → Option AddRes) (rivalOf : Mgr → Tx → Option Blk → Option Blk)
    {s : AState} (h : Inv s) (t : Tx) (f : Bool) (ht : TxWF t) :
    Inv (addTxWith Mgr.pop canRb rivalOf s t f).1 ∧ (addTxWith Mgr.pop canRb rivalOf s t f).1.confirmed = s.confirmed ∧
    ∃ j, (addTxWith Mgr.pop canRb rivalOf s t f).1.manager.pooled = s.manager.pooled.take j ∨
         (addTxWith Mgr.pop canRb rivalOf s t f).1.manager.pooled = s.manager.pooled.take j ++ [t] := by
  have hm := manager_ok h
  obtain ⟨hr, j, hj⟩ := rollbackTo_ok t.prev (s.manager.pooled.length + 1) s.manager hm
  obtain ⟨m', _, he, hc⟩ := addTxWith_cases Mgr.pop canRb rivalOf s t f
  rw [he]
  rcases hc with rfl | ha | rfl | ha
  · exact ⟨inv_set_mgr h hm, rfl, s.manager.pooled.length, .inl (List.take_length).symm⟩
  · exact ⟨inv_set_mgr h (add_ok hm ht ha), rfl, s.manager.pooled.length,
      .inr (by rw [(add_eq_some ha).2, List.take_length]; rfl)⟩
  · exact ⟨inv_set_mgr h hr, rfl, j, .inl hj⟩
  · exact ⟨inv_set_mgr h (add_ok hr ht ha), rfl, j, .inr (by rw [(add_eq_some ha).2, ← hj]; rfl)⟩

theorem drop_eq_filter_height (xs : List Blk) (start : Id) (n : Nat) (hl : Linked start xs) (hh : HeightsOK xs) :
    xs.drop n = xs.filter (fun b => decide (start.2 + n < b.height)) := by
  -- the block at index `i` has height `start.2 + 1 + i`
  conv => rhs; arg 2; rw [← List.take_append_drop n xs]
  rw [List.filter_append, List.filter_eq_nil_iff.mpr, List.filter_eq_self.mpr, List.nil_append]
  · intro b hb
    obtain ⟨i, hi, rfl⟩ := List.mem_drop_iff_getElem.mp hb
    rw [linked_heights xs start hl hh]
    exact decide_eq_true (by omega)
  · intro b hb
    obtain ⟨i, hi, rfl⟩ := List.mem_take_iff_getElem.mp hb
    rw [linked_heights xs start hl hh]
    simp only [decide_eq_true_eq]; omega
/-- of the blocks above a height, the ones `rebuild` re-applies (not ContractSend) are the heads of the transactions
    whose head lies above that height -/
theorem filter_heads (h : Nat) : ∀ (ts : List Tx),
    (∀ t ∈ ts, (∀ d ∈ t.desc, isContractSend d.btype = true) ∧ isContractSend t.head.btype = false) →
    (flat ts).filter (fun b => decide (h < b.height) && !isContractSend b.btype) =
      (ts.filter (fun t => decide (h < t.head.height))).map Tx.head
  | [], _ => by simp [flat]
  | t :: r, ht => by
    have ih := filter_heads h r (fun x hx => ht x (by simp [hx]))
    obtain ⟨h1, h2⟩ := ht t (by simp)
    have hd : t.desc.filter (fun b => decide (h < b.height) && !isContractSend b.btype) = [] := by
      rw [List.filter_eq_nil_iff]
      intro b hb
      simp [h1 b hb]
    rw [flat_cons, List.filter_append, ih]
    simp only [Tx.commits, List.filter_append, hd, List.nil_append, List.filter_cons, List.filter_nil, h2]
    by_cases hp : h < t.head.height <;> simp [hp]

/-- pooled transactions have pairwise different heads (their heights differ) -/
theorem heads_inj (ts : List Tx) (s : Id) (hl : Linked s (flat ts)) (hh : HeightsOK (flat ts)) :
    ∀ t1 ∈ ts, ∀ t2 ∈ ts, t1.head = t2.head → t1 = t2 := by
  -- heights increase along the chain, so the head of an earlier transaction lies below that of a later one
  have hp := (List.pairwise_flatMap.mp (linked_pairwise hl hh)).2.imp fun {a b} h =>
    Nat.ne_of_lt (h _ (head_mem_commits a) _ (head_mem_commits b))
  exact fun _ h1 _ h2 => List.Pairwise.forall_of_forall_of_flip (R := fun a b : Tx => a.head = b.head → a = b) (fun _ _ _ => rfl)
    (hp.imp fun h he => absurd (congrArg Blk.height he) h)
    (hp.imp fun h he => absurd (congrArg Blk.height he).symm h) h1 h2

theorem txOf_mem (old : Mgr) (hinj : ∀ t1 ∈ old.pooled, ∀ t2 ∈ old.pooled, t1.head = t2.head → t1 = t2)
    (t : Tx) (ht : t ∈ old.pooled) : txOf old t.head = t := by
  obtain ⟨t', hf⟩ := Option.isSome_iff_exists.1
    (List.find?_isSome.2 ⟨t, List.mem_reverse.2 ht, beq_self_eq_true _⟩ : (old.pooled.reverse.find? (·.head == t.head)).isSome)
  rw [txOf, hf, Option.getD_some]
  exact hinj t' (List.mem_reverse.1 (List.mem_of_find?_eq_some hf)) t ht (by simpa using List.find?_some hf)

theorem frontierId_add (m : Mgr) (t : Tx) (p : List Id) :
    ({ m with pooled := m.pooled ++ [t], patches := p } : Mgr).frontierId = t.id := by
  rw [frontierId_eq]; simp only [flat_concat, lastIdFrom_append, lastIdFrom_commits]

theorem addAll_eq : ∀ (ts : List Tx) (m : Mgr), (∀ t ∈ ts, Linked t.prev t.commits) →
    addAll m ts = if Linked m.frontierId (flat ts)
      then some { m with pooled := m.pooled ++ ts, patches := m.patches ++ (flat ts).map Blk.id } else none
  | [], m, _ => by simp [addAll, flat, Linked]
  | t :: ts, m, h => by
    unfold addAll Mgr.add
    by_cases hp : t.prev = m.frontierId
    · have hl : Linked m.frontierId (t.commits ++ flat ts) ↔ Linked t.id (flat ts) := by
        rw [← flat_cons, linked_flat_cons]; exact ⟨fun h' => h'.2.2, fun h' => ⟨hp, h t (by simp), h'⟩⟩
      simp only [hp, if_true, addAll_eq ts _ (fun x hx => h x (by simp [hx])), frontierId_add, hl, flat_cons,
        List.map_append, List.append_assoc, List.singleton_append]
    · simp only [hp, if_false, linked_flat_cons, false_and]

theorem linked_flat_mem (ts : List Tx) (s : Id) (hl : Linked s (flat ts)) : ∀ t ∈ ts, Linked t.prev t.commits := by
  intro t ht
  obtain ⟨pre, post, rfl⟩ := List.append_of_mem ht
  rw [flat_append, linked_append, linked_flat_cons] at hl
  exact hl.2.2.1

theorem pooled_txwf {conf : List Blk} {m : Mgr} (hm : MgrOK conf m) : ∀ t ∈ m.pooled, TxWF t := by
  intro t ht
  obtain ⟨_, h2, h3, h4, _⟩ := hm
  exact ⟨linked_flat_mem _ _ h2 t ht, fun b hb => h3 b (mem_flat.mpr ⟨t, ht, hb⟩), (h4 t ht).1, (h4 t ht).2⟩

/-- the transactions `rebuild` keeps for an address whose stable chain became `conf'`: the pooled ones whose head lies
    above the confirmed height — if they (still) link to the confirmed frontier, else none -/
def keptBy (conf' : List Blk) (pooled : List Tx) : List Tx :=
  let rest := pooled.filter (fun t => decide ((lastId conf').2 < t.head.height))
  if Linked (lastId conf') (flat rest) then rest else []

theorem keptBy_ok {conf : List Blk} {m : Mgr} (hm : MgrOK conf m) (conf' : List Blk) :
    MgrOK conf' ⟨conf', keptBy conf' m.pooled, (flat (keptBy conf' m.pooled)).map Blk.id⟩ := by
  have hsub : ∀ t ∈ keptBy conf' m.pooled, t ∈ m.pooled := by
    intro t ht
    simp only [keptBy] at ht
    split at ht
    · exact (List.mem_filter.mp ht).1
    · cases ht
  refine ⟨rfl, ?_, fun b hb => ?_, fun t ht => hm.2.2.2.1 t (hsub t ht), fun i => Iff.rfl⟩
  · simp only [keptBy]
    split
    · assumption
    · trivial
  · obtain ⟨t, ht, hbt⟩ := mem_flat.mp hb
    exact hm.2.2.1 b (mem_flat.mpr ⟨t, hsub t ht, hbt⟩)

/-- `rebuild` of one address, after the momentum extended its confirmed chain by `nb` -/
theorem rebuild_addr_spec {x : AState} (hi : Inv x) (nb : List Blk) (hl : Linked (lastId x.confirmed) nb)
    (hh : HeightsOK nb) :
    Inv (rebuildAddr { x with confirmed := x.confirmed ++ nb }).1 ∧
    (rebuildAddr { x with confirmed := x.confirmed ++ nb }).1.confirmed = x.confirmed ++ nb ∧
    (rebuildAddr { x with confirmed := x.confirmed ++ nb }).1.manager.pooled =
      keptBy (x.confirmed ++ nb) x.manager.pooled ∧
    (rebuildAddr { x with confirmed := x.confirmed ++ nb }).2 ≠ .nilDeref := by
  have hc : Linked zeroId (x.confirmed ++ nb) := (linked_append nb x.confirmed zeroId).mpr ⟨hi.1, hl⟩
  have hhc : HeightsOK (x.confirmed ++ nb) := heightsOK_append.mpr ⟨hi.2.1, hh⟩
  have hk := keptBy_ok (manager_ok hi) (x.confirmed ++ nb)
  -- whatever the outcome, the new state has the extended chain and no manager or the manager of the kept ones
  suffices h : ∃ r, r ≠ .nilDeref ∧ (rebuildAddr { x with confirmed := x.confirmed ++ nb } =
      (⟨x.confirmed ++ nb, none⟩, r) ∧ keptBy (x.confirmed ++ nb) x.manager.pooled = [] ∨
      rebuildAddr { x with confirmed := x.confirmed ++ nb } = (⟨x.confirmed ++ nb, some ⟨x.confirmed ++ nb,
        keptBy (x.confirmed ++ nb) x.manager.pooled, (flat (keptBy (x.confirmed ++ nb) x.manager.pooled)).map Blk.id⟩⟩, r)) by
    obtain ⟨r, hr, ⟨he, hnil⟩ | he⟩ := h <;> rw [he]
    · exact ⟨⟨hc, hhc, nofun⟩, rfl, hnil.symm, hr⟩
    · exact ⟨⟨hc, hhc, fun m hm => Option.some.inj hm ▸ hk⟩, rfl, rfl, hr⟩
  cases hm : x.mgr with
  | none => exact ⟨.noManager, nofun, .inl ⟨by simp [rebuildAddr, rebuildWith], by simp [AState.manager, hm, keptBy, flat]⟩⟩
  | some old =>
    obtain ⟨hb, hlp, hhp, hty, hpa⟩ := hi.2.2 old hm
    have hp : x.manager = old := by simp [AState.manager, hm]
    rw [hp]
    obtain ⟨hvl, hvh⟩ := view_chain hi
    rw [hp] at hvl hvh
    have hlo := chain_last_height _ hc hhc
    have hunc := uncommittedOf_above _ hvl hvh (lastId (x.confirmed ++ nb)).2
    rw [show old.view.drop (lastId (x.confirmed ++ nb)).2 = (flat old.pooled).drop nb.length by
      rw [hlo, Mgr.view, hb, List.length_append, List.drop_length_add_append]] at hunc
    -- the re-applied transactions are the pooled ones with a head above the new confirmed height
    have hthr : (lastId (x.confirmed ++ nb)).2 = (lastId x.confirmed).2 + nb.length := by
      rw [hlo, chain_last_height _ hi.1 hi.2.1, List.length_append]
    have htxs : (((flat old.pooled).drop nb.length).filter (fun b => !isContractSend b.btype)).map (txOf old) =
        old.pooled.filter (fun t => decide ((lastId (x.confirmed ++ nb)).2 < t.head.height)) := by
      rw [drop_eq_filter_height _ _ nb.length hlp hhp, List.filter_filter, ← hthr]
      have := filter_heads (lastId (x.confirmed ++ nb)).2 old.pooled hty
      simp only [Bool.and_comm] at this ⊢
      rw [this, List.map_map]
      have hinj := heads_inj old.pooled _ hlp hhp
      rw [List.map_congr_left (g := id)]
      · simp
      · intro t ht
        exact txOf_mem old hinj t (List.mem_filter.mp ht).1
    simp only [rebuildAddr, rebuildWith, hunc, Bool.false_eq_true, if_false]
    cases hd : (flat old.pooled).drop nb.length with
    | nil =>
      -- nothing above the confirmed height: no transaction is kept either
      rw [hd] at htxs
      exact ⟨.emptied, nofun, .inl ⟨rfl, by simp [keptBy, ← htxs]⟩⟩
    | cons b0 bs =>
      rw [hd] at htxs
      simp only [htxs, addAll_eq _ _ fun t ht => linked_flat_mem _ _ hlp t (List.mem_filter.mp ht).1,
        show (⟨x.confirmed ++ nb, [], []⟩ : Mgr).frontierId = lastId (x.confirmed ++ nb) by simp [Mgr.frontierId, Mgr.view, flat]]
      by_cases hlk : Linked (lastId (x.confirmed ++ nb))
          (flat (old.pooled.filter (fun t => decide ((lastId (x.confirmed ++ nb)).2 < t.head.height))))
      · exact ⟨.rebuilt, nofun, .inr (by simp [keptBy, hlk])⟩
      · exact ⟨.failed, nofun, .inl ⟨by simp [hlk], by simp [keptBy, hlk]⟩⟩

/-- confirming whole pooled transactions: the ones above the new confirmed height are the rest of the list -/
theorem filter_heads_drop (ts : List Tx) (s : Id) (k : Nat) (hl : Linked s (flat ts)) (hh : HeightsOK (flat ts)) :
    ts.filter (fun t => decide (s.2 + (flat (ts.take k)).length < t.head.height)) = ts.drop k := by
  obtain ⟨⟨hl1, hh1⟩, hl2⟩ := chain_flat_take hl hh k
  have hh2 : HeightsOK (flat (ts.drop k)) := by
    rw [← List.take_append_drop k ts, flat_append] at hh; exact (heightsOK_append.mp hh).2
  -- the heads of the first `k` lie on the chain up to the threshold, those of the others on the chain above it
  conv => lhs; arg 2; rw [← List.take_append_drop k ts]
  rw [List.filter_append, List.filter_eq_nil_iff.mpr, List.filter_eq_self.mpr, List.nil_append]
  · intro t ht
    have := (linked_mem_height _ _ hl2 hh2 t.head (mem_flat.mpr ⟨t, ht, head_mem_commits t⟩)).1
    rw [linked_last_height _ _ hl1 hh1] at this
    exact decide_eq_true this
  · intro t ht
    have := (linked_mem_height _ _ hl1 hh1 t.head (mem_flat.mpr ⟨t, ht, head_mem_commits t⟩)).2
    simpa using this
theorem keptBy_whole_prefix {conf : List Blk} {pooled : List Tx} (hl : Linked (lastId conf) (flat pooled))
    (hh : HeightsOK (flat pooled)) (k : Nat) :
    keptBy (conf ++ flat (pooled.take k)) pooled = pooled.drop k := by
  obtain ⟨⟨hlt, hht⟩, hld⟩ := chain_flat_take hl hh k
  unfold keptBy
  rw [lastId_append]
  simp only [linked_last_height _ _ hlt hht, filter_heads_drop pooled (lastId conf) k hl hh]
  simp [hld]

theorem uncommitted_spec {x : AState} (hi : Inv x) : uncommittedBlocks x = some (flat x.manager.pooled) := by
  obtain ⟨hvl, hvh⟩ := view_chain hi
  unfold uncommittedBlocks
  rw [uncommittedOf_above _ hvl hvh, chain_last_height _ hi.1 hi.2.1, Mgr.view, (manager_ok hi).1, List.drop_left]

/-- what the callers guarantee about an operation: transactions are well formed (`TxWF`); a momentum extends the
    account chains by blocks that link to them (chain insert) -/
def OpOK (s : PoolSt) : Op → Prop
  | .add _ t _ => TxWF t
  | .insert c => ∀ a, Linked (lastId (s a).confirmed) (contentOf c a) ∧ HeightsOK (contentOf c a)
  | .delete _ => True

/-- states reachable from any confirmed account chains and an empty pool -/
inductive Reachable : PoolSt → Prop
  | init (s : PoolSt) : (∀ a, Linked zeroId (s a).confirmed ∧ HeightsOK (s a).confirmed ∧ (s a).mgr = none) → Reachable s
  | step {s : PoolSt} (op : Op) : Reachable s → OpOK s op → Reachable (step s op)

theorem step_inv {s : PoolSt} (h : ∀ a, Inv (s a)) (op : Op) (hop : OpOK s op) : ∀ a, Inv (step s op a) := by
  intro b
  cases op with
  | add a t f =>
    simp only [step, addAt, upd]
    split
    · rename_i hb; exact (addTxWith_shape _ _ (h a) t f hop).1
    · exact h b
  | insert c =>
    obtain ⟨h1, h2⟩ := hop b
    exact (rebuild_addr_spec (h b) (contentOf c b) h1 h2).1
  | delete k =>
    exact ⟨linked_take _ _ _ (h b).1, heightsOK_take _ (h b).2.1, fun m hm => by simp [step, deleteMomentum] at hm⟩

theorem reachable_inv {s : PoolSt} (hr : Reachable s) : ∀ a, Inv (s a) := by
  induction hr with
  | init s h => intro a; exact ⟨(h a).1, (h a).2.1, fun m hm => by rw [(h a).2.2] at hm; cases hm⟩
  | step op _ hop ih => exact step_inv ih op hop

theorem rollbackTo_reaches {conf : List Blk} : ∀ (fuel : Nat) (m : Mgr) (j : Nat), MgrOK conf m → j ≤ m.pooled.length →
    m.pooled.length - j < fuel →
    ∃ m', rollbackTo Mgr.pop (lastIdFrom (lastId conf) (flat (m.pooled.take j))) fuel m = (m', true) ∧
      m'.pooled = m.pooled.take j ∧ m'.base = m.base
  | 0, _, _, _, _, hf => by omega
  | fuel + 1, m, j, hm, hj, hf => by
    have ⟨hb, hl, hh, _, _⟩ := hm
    unfold rollbackTo
    by_cases hjl : j = m.pooled.length
    · rw [if_pos (by rw [frontierId_eq, hb, hjl, List.take_length])]
      exact ⟨m, rfl, by rw [hjl, List.take_length], rfl⟩
    · -- below the top the frontier is neither the target nor the stable identifier: every transaction has a commit
      have hne : ∀ k, k < m.pooled.length → m.frontierId ≠ lastIdFrom (lastId conf) (flat (m.pooled.take k)) := by
        intro k hk
        rw [frontierId_eq, hb]
        have := lastIdFrom_append_ne (xs := flat (m.pooled.take k)) (ys := flat (m.pooled.drop k))
          (by rwa [← flat_append, List.take_append_drop]) (by rwa [← flat_append, List.take_append_drop])
          (by rw [List.drop_eq_getElem_cons hk, flat_cons]; simp [Tx.commits])
        rwa [← flat_append, List.take_append_drop] at this
      obtain ⟨tl, htl⟩ : ∃ tl, m.pooled.getLast? = some tl :=
        ⟨_, List.getLast?_eq_some_getLast (fun he => hjl (by rw [he] at hj ⊢; exact Nat.le_zero.mp hj))⟩
      have hpop : m.pop = some { m with
          pooled := m.pooled.dropLast
          patches := m.patches.filter (fun i => !(tl.commits.map Blk.id).contains i) } := by
        unfold Mgr.pop
        rw [if_neg (fun he => hne 0 (by omega) (hb ▸ he.symm)), htl]
      rw [if_neg (hne j (by omega)), hpop]
      have hlen : m.pooled.dropLast.length = m.pooled.length - 1 := List.length_dropLast
      obtain ⟨m2, h1, h2, h3⟩ := rollbackTo_reaches fuel _ j (pop_ok_aux hm htl)
        (by simp only [hlen]; omega) (by simp only [hlen]; omega)
      have htk : m.pooled.dropLast.take j = m.pooled.take j := by
        rw [List.dropLast_eq_take, List.take_take, Nat.min_eq_left (by omega)]
      simp only [htk] at h1 h2
      exact ⟨m2, h1, h2, h3⟩

/-- the view around a pooled transaction `p`: below it lies a chain (the confirmed blocks and the commits pooled before
    `p`) whose last identifier is `p`'s `Previous()` -/
theorem view_split {x : AState} (hi : Inv x) {pre post : List Tx} {p : Tx} (hsplit : x.manager.pooled = pre ++ p :: post) :
    x.manager.view = (x.confirmed ++ flat pre) ++ (p.commits ++ flat post) ∧
    p.prev = lastId (x.confirmed ++ flat pre) ∧ p.prev.2 = (x.confirmed ++ flat pre).length := by
  obtain ⟨hvl, hvh⟩ := view_chain hi
  have hv : x.manager.view = (x.confirmed ++ flat pre) ++ (p.commits ++ flat post) := by
    rw [Mgr.view, (manager_ok hi).1, hsplit, flat_append, flat_cons, List.append_assoc]
  obtain ⟨hAl, hBl⟩ := (linked_append _ _ _).mp (hv ▸ hvl)
  have hp : p.prev = lastId (x.confirmed ++ flat pre) :=
    ((linked_commits_iff _ p).mp ((linked_append _ _ _).mp hBl).1).1
  exact ⟨hv, hp, by rw [hp, chain_last_height _ hAl (heightsOK_append.mp (hv ▸ hvh)).1]⟩

theorem byHeight_at_split (view : List Blk) (hl : Linked zeroId view) (hh : HeightsOK view) (A : List Blk) (hd : Blk)
    (B : List Blk) (hv : view = A ++ [hd] ++ B) : byHeight view (A.length + 1) = some hd := by
  rw [byHeight_chain_eq view hl hh, hv]; simp

/-- walking up from the first commit of a stored transaction finds the block that carries it -/
theorem headAt_spec (view : List Blk) (hl : Linked zeroId view) (hh : HeightsOK view) :
    ∀ (ds A : List Blk) (hd : Blk) (B : List Blk) (fuel : Nat), view = A ++ ds ++ [hd] ++ B →
      (∀ d ∈ ds, isContractSend d.btype = true) → isContractSend hd.btype = false → ds.length < fuel →
      headAt view fuel (A.length + 1) = some hd
  | _, _, _, _, 0, _, _, _, hf => absurd hf (Nat.not_lt_zero _)
  | [], A, hd, B, f + 1, hv, _, hhd, _ => by
    simp only [headAt, byHeight_at_split view hl hh A hd B (by simpa using hv), hhd, Bool.false_eq_true, if_false]
  | d :: ds, A, hd, B, f + 1, hv, hcs, hhd, hf => by
    have ih := headAt_spec view hl hh ds (A ++ [d]) hd B f (by rw [hv]; simp) (fun x hx => hcs x (by simp [hx])) hhd
      (Nat.lt_of_succ_lt_succ hf)
    simp only [headAt, byHeight_at_split view hl hh A d (ds ++ [hd] ++ B) (by rw [hv]; simp), hcs d (by simp), if_true]
    simpa using ih

/-- the address loop of `rebuild` touches the visited addresses only, each once -/
theorem rebuildLoop_apply : ∀ (order : List Addr) (s : PoolSt), order.Nodup → ∀ b,
    rebuildLoop s order b = if b ∈ order then (rebuildAddr (s b)).1 else s b
  | [], s, _, b => by simp [rebuildLoop]
  | a :: rest, s, hn, b => by
    have hn' := List.nodup_cons.mp hn
    have ih := rebuildLoop_apply rest (rebuildAt s a) hn'.2 b
    simp only [rebuildLoop, List.foldl_cons] at ih ⊢
    rw [ih]
    by_cases hba : b = a
    · subst hba
      simp [hn'.1, rebuildAt, upd]
    · by_cases hbr : b ∈ rest <;> simp [hbr, hba, rebuildAt, upd]

end ZV.PoolMulti
