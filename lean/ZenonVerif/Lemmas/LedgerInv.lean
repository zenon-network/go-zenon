import ZenonVerif.Lemmas.LedgerStep
/-
Well-formedness of ledger states and its preservation by the primitive effects of a step (credit + marker, debit + new
send, a descendant list, a token method); the outcome of a token method.
-/
namespace ZV.Ledger

variable {s s' s0 s1 s2 : State} {e : Ev} {c a : Addr} {h : Hash} {st : Nat} {ds : List Desc}
  {snd nxt x : Send} {out : TokOutcome} {t n : Tok} {toks : List (Tok × TokInfo)} {d : Desc}

/-- structural invariants of a ledger state -/
structure WF (s : State) : Prop where
  /-- at most one balance entry per (address, token) -/
  balKeys : (s.bal.map (·.1)).Nodup
  /-- confirmed sends have pairwise distinct hashes -/
  sendHashes : (s.sends.map (·.hash)).Nodup
  /-- at most one storage entry per token -/
  tokKeys : (s.toks.map (·.1)).Nodup
  /-- every receive marker refers to a confirmed send -/
  recvConfirmed : ∀ m ∈ s.recv, m.2 ∈ s.sends.map (·.hash)
  /-- no account has two markers for the same send -/
  recvNodup : s.recv.Nodup
  /-- above the receiver-enforcement height every marker belongs to the addressee of the send -/
  recvAddressee : s.gate = true → ∀ m ∈ s.recv, ∀ x ∈ s.sends, x.hash = m.2 → x.dst = m.1
  /-- sends of the zero token standard carry no amount -/
  zeroAmt : ∀ x ∈ s.sends, x.tok = zeroTok → x.amt = 0

theorem wf_iff (s : State) : WF s ↔
    (s.bal.map (·.1)).Nodup ∧ (s.sends.map (·.hash)).Nodup ∧ (s.toks.map (·.1)).Nodup ∧
    (∀ m ∈ s.recv, m.2 ∈ s.sends.map (·.hash)) ∧ s.recv.Nodup ∧
    (s.gate = true → ∀ m ∈ s.recv, ∀ x ∈ s.sends, x.hash = m.2 → x.dst = m.1) ∧
    (∀ x ∈ s.sends, x.tok = zeroTok → x.amt = 0) :=
  ⟨fun ⟨a, b, c, d, e, f, g⟩ => ⟨a, b, c, d, e, f, g⟩, fun ⟨a, b, c, d, e, f, g⟩ => ⟨a, b, c, d, e, f, g⟩⟩

instance (s : State) : Decidable (WF s) := decidable_of_iff _ (wf_iff s).symm

theorem wf_init (g : Bool) : WF (State.init g) := by
  constructor <;> simp [State.init]

theorem isReceived_eq_false : s.isReceived h = false ↔ ∀ a, (a, h) ∉ s.recv := by
  simp only [State.isReceived, List.any_eq_false, beq_iff_eq, Prod.forall]
  exact ⟨fun H a hm => H a h hm rfl, fun H a h' hm he => H a (he ▸ hm)⟩

/-- a fresh hash has no receive marker -/
theorem WF.not_received (hw : WF s) (hf : h ∉ s.sends.map (·.hash)) :
    s.isReceived h = false :=
  isReceived_eq_false.2 fun _ hm => hf (hw.recvConfirmed _ hm)

/-- under the gate a send hash has at most one marker, and it is the addressee's -/
theorem WF.marker_unique (hw : WF s) (hg : s.gate = true) {a b : Addr}
    (ha : (a, h) ∈ s.recv) (hb : (b, h) ∈ s.recv) : a = b := by
  have hc := hw.recvConfirmed _ ha
  obtain ⟨x, hx, hxh⟩ := List.mem_map.1 hc
  have h1 := hw.recvAddressee hg _ ha x hx hxh
  have h2 := hw.recvAddressee hg _ hb x hx hxh
  simp only at h1 h2
  rw [← h1, ← h2]

/-- balance-only changes keep well-formedness -/
theorem WF.of_frame (hw : WF s) (hb : (s'.bal.map (·.1)).Nodup) (ht : (s'.toks.map (·.1)).Nodup)
    (hs : s'.sends = s.sends) (hr : s'.recv = s.recv) (hg : s'.gate = s.gate) : WF s' := by
  constructor
  · exact hb
  · rw [hs]; exact hw.sendHashes
  · exact ht
  · rw [hs, hr]; exact hw.recvConfirmed
  · rw [hr]; exact hw.recvNodup
  · rw [hs, hr, hg]; exact hw.recvAddressee
  · rw [hs]; exact hw.zeroAmt

theorem WF.credit {s : State} (hw : WF s) (a : Addr) (t : Tok) (n : Nat) : WF (s.credit a t n) :=
  hw.of_frame (nodup_keys_setBal _ _ _ _ hw.balKeys) hw.tokKeys rfl rfl rfl

theorem WF.debit (hw : WF s) (a : Addr) (t : Tok) (n : Nat) : WF (s.debit a t n) :=
  hw.of_frame (nodup_keys_setBal _ _ _ _ hw.balKeys) hw.tokKeys rfl rfl rfl

theorem WF.pushSend (hw : WF s) (hf : x.hash ∉ s.sends.map (·.hash))
    (hz : x.tok = zeroTok → x.amt = 0) : WF (pushSend s x) := by
  refine ⟨(hw.debit x.src x.tok x.amt).balKeys, ?_, hw.tokKeys, ?_, hw.recvNodup, ?_, ?_⟩
  · show ((s.sends ++ [x]).map (·.hash)).Nodup
    rw [List.map_append]
    exact nodup_append_singleton hw.sendHashes hf
  · intro m hm
    show m.2 ∈ (s.sends ++ [x]).map (·.hash)
    rw [List.map_append]
    exact List.mem_append_left _ (hw.recvConfirmed m hm)
  · intro hg m hm y hy hyh
    rcases List.mem_append.1 hy with h1 | h1
    · exact hw.recvAddressee hg m hm y h1 hyh
    · cases List.mem_singleton.1 h1
      exact absurd (hyh ▸ hw.recvConfirmed m hm) hf
  · intro y hy
    rcases List.mem_append.1 hy with h1 | h1
    · exact hw.zeroAmt y h1
    · exact List.mem_singleton.1 h1 ▸ hz

theorem WF.applySend {s s' : State} (hw : WF s) {src dst : Addr} {tok : Tok} {amt : Nat} {h : Hash} {call : TokCall}
    (hf : h ∉ s.sends.map (·.hash)) (hok : applySend s src dst tok amt h call = .ok s') : WF s' := by
  obtain ⟨hz, _, rfl⟩ := applySend_ok hok
  exact hw.pushSend hf hz

theorem WF.recvCore (hw : WF s)
    (hc : checkFrom s a h = .ok snd) : WF (recvCore s a h snd) := by
  obtain ⟨hfind, hdst, hnot⟩ := checkFrom_ok.1 hc
  obtain ⟨hmem, hh⟩ := findSend_some hfind
  refine ⟨(hw.credit a snd.tok snd.amt).balKeys, hw.sendHashes, hw.tokKeys, ?_,
    List.nodup_cons.2 ⟨hnot, hw.recvNodup⟩, ?_, hw.zeroAmt⟩
  · intro m hm
    rcases List.mem_cons.1 hm with rfl | h1
    · exact List.mem_map.2 ⟨snd, hmem, hh⟩
    · exact hw.recvConfirmed m h1
  · intro hg m hm x hx hxh
    rcases List.mem_cons.1 hm with rfl | h1
    · -- `x` has the hash of `snd`, so it is `snd`
      cases hfind.symm.trans (hxh ▸ findSend_of_mem hw.sendHashes hx)
      exact hdst hg
    · exact hw.recvAddressee hg m h1 x hx hxh

/-- freshness of a descendant list relative to a state -/
def FreshDescs (s : State) (ds : List Desc) : Prop :=
  (ds.map (·.hash)).Nodup ∧ ∀ h ∈ ds.map (·.hash), h ∉ s.sends.map (·.hash)

theorem FreshDescs.tail (hf : FreshDescs s (d :: ds)) : FreshDescs (pushSend s (mkSend c d)) ds := by
  obtain ⟨hnd, hfr⟩ := hf
  rw [List.map_cons, List.nodup_cons] at hnd
  refine ⟨hnd.2, fun h hh => ?_⟩
  show h ∉ (s.sends ++ [mkSend c d]).map (·.hash)
  rw [List.map_append, List.mem_append, not_or]
  exact ⟨hfr h (List.mem_cons_of_mem _ hh), fun h2 => hnd.1 ((List.mem_singleton.1 h2 : h = d.hash) ▸ hh)⟩

theorem FreshDescs.head (hf : FreshDescs s (d :: ds)) :
    d.hash ∉ s.sends.map (·.hash) := hf.2 d.hash (by simp)

theorem FreshDescs.of_frame (hf : FreshDescs s ds) (hs : s'.sends = s.sends) :
    FreshDescs s' ds := by
  unfold FreshDescs; rw [hs]; exact hf

theorem WF.descs {c : Addr} : ∀ {ds : List Desc} {s s' : State}, WF s → FreshDescs s ds →
    applyDescs s c ds = .ok s' → WF s'
  | [], s, s', hw, _, hok => by simp only [applyDescs] at hok; cases hok; exact hw
  | d :: ds, s, s', hw, hf, hok => by
    obtain ⟨hz, _, h2⟩ := applyDescs_cons_ok hok
    exact WF.descs (hw.pushSend hf.head hz) hf.tail h2

def supplyOfL (toks : List (Tok × TokInfo)) (t : Tok) : Nat :=
  match getTok toks t with | some i => i.supply | none => 0

/-- summary of a successful token method: one storage entry (that of `out.mintTok`) is written, its supply is the old
    one plus minted minus burned; a burn burns exactly the received amount of the received token -/
theorem tokenMethod_summary
    (hm : tokenMethod toks snd n = some out) :
    ∃ i', out.toks = setTok toks out.mintTok i' ∧
      i'.supply = supplyOfL toks out.mintTok + out.mint - out.burn ∧
      (out.burn = 0 ∨ (out.burn = snd.amt ∧ out.mintTok = snd.tok)) := by
  cases tokenMethod_cases hm with
  | issue _ _ _ _ _ hnew => exact ⟨_, rfl, by simp [supplyOfL, hnew], .inl rfl⟩
  | mint _ _ _ _ _ hi => exact ⟨_, rfl, by simp [supplyOfL, hi], .inl rfl⟩
  | burn _ _ hi => exact ⟨_, rfl, by simp [supplyOfL, hi], .inr ⟨rfl, rfl⟩⟩
  | update _ _ _ _ _ _ hi => exact ⟨_, rfl, by simp only [supplyOfL, hi]; split <;> simp, .inl rfl⟩

/-- a property of all storage entries survives `setTok` with an entry that has it -/
theorem forall_getTok_setTok {P : TokInfo → Prop} (h : ∀ t i, getTok toks t = some i → P i)
    {k : Tok} {i' : TokInfo} (hi' : P i') : ∀ t i, getTok (setTok toks k i') t = some i → P i := by
  intro t i hi
  rw [getTok_setTok] at hi
  split at hi
  · cases hi; exact hi'
  · exact h t i hi

/-- T3 at the level of the token method: supply ≤ max is kept by issue (given the send-time check `total ≤ max`),
    mint (guard `max − supply ≥ amt`), burn (lowers both for non-mintable) and update (`max := supply`) -/
theorem tokenMethod_supply_le_max
    (hinv : ∀ t i, getTok toks t = some i → i.supply ≤ i.max) (hcall : CallOk snd.call)
    (hm : tokenMethod toks snd n = some out) :
    ∀ t i, getTok out.toks t = some i → i.supply ≤ i.max := by
  cases tokenMethod_cases hm with
  | issue _ _ _ _ hc _ => rw [hc] at hcall; exact forall_getTok_setTok hinv hcall
  | mint _ _ _ i _ hi hroom =>
    have := hinv _ _ hi
    exact forall_getTok_setTok hinv (by dsimp only; omega)
  | burn i _ hi =>
    have := hinv _ _ hi
    exact forall_getTok_setTok hinv (by dsimp only; split <;> omega)
  | update _ _ _ _ i _ hi =>
    have := hinv _ _ hi
    exact forall_getTok_setTok hinv (by split <;> simp only [Nat.le_refl, this])

theorem WF.tokApply (hw : WF s1) (c : Addr)
    (hm : tokenMethod s1.toks snd n = some out) : WF (tokApply s1 c out) := by
  obtain ⟨i', ht, _, _⟩ := tokenMethod_summary hm
  have h1 : WF (tokMint s1 c out) := by
    refine (hw.credit c out.mintTok out.mint).of_frame (s' := tokMint s1 c out) ?_ ?_ rfl rfl rfl
    · exact (hw.credit c out.mintTok out.mint).balKeys
    · show (out.toks.map (·.1)).Nodup
      rw [ht]
      exact nodup_keys_setTok _ _ _ hw.tokKeys
  exact h1.debit _ _ _

end ZV.Ledger
