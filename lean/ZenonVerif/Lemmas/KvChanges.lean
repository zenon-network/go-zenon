import ZenonVerif.Model.Versioned
import ZenonVerif.Lemmas.KvLogic
import ZenonVerif.Lemmas.KvOrder
/-
Change sets (`enableDeleteDB.Changes`): replaying the dump of a view's private top layer, and its independence of
the order in which the writes were made (C07-T3 groundwork; also what makes the changes hash deterministic).
-/
namespace ZV.Kv
open ZV ZV.KvLogic
open ZV.Crash (rawOf)

/-- the operation `Changes` emits for one raw entry -/
def chgOp (k raw : Bytes) : Op :=
  match raw with
  | [] => Op.del k
  | _ :: v => Op.put k v

theorem chgOp_key (k raw : Bytes) : (chgOp k raw).key = k := by
  cases raw <;> rfl

theorem chgOp_raw (k raw : Bytes) : decodeRaw (rawOf (chgOp k raw)) = decodeRaw raw := by
  cases raw <;> rfl

theorem edChanges_cons (k raw : Bytes) (t : Raw) :
    edChanges ((k, raw) :: t) = chgOp k raw :: edChanges t := by
  cases raw <;> rfl

/-- replaying the change set of a sorted top layer onto any store lays the layer over the store: keys held by the
    layer take the layer's decoded value (tombstone ⇒ absent), all other keys are untouched -/
theorem applyP_edChanges {top : Raw} (hs : Sorted top) (s : Store) :
    applyP s (edChanges top) = viewOf (oabs top) s := by
  funext k
  induction top generalizing s with
  | nil => rfl
  | cons e t ih =>
    obtain ⟨k', raw⟩ := e
    rw [edChanges_cons]
    show applyP (applyOp s (chgOp k' raw)) (edChanges t) k = _
    rw [ih hs.tail]
    simp only [viewOf, oabs, rget_cons, applyOp_eq, chgOp_key, chgOp_raw]
    by_cases hk : k = k'
    · rw [hk, rget_eq_none_of_lt (sorted_cons.1 hs).1]; simp
    · simp [hk]

theorem viewOf_edApplyOp (top : Raw) (s : Store) (o : Op) :
    viewOf (oabs (edApplyOp top o)) s = applyOp (viewOf (oabs top) s) o := by
  funext k
  simp only [viewOf, oabs, rget_edApplyOp, applyOp_eq]
  by_cases hk : k = o.key
  · simp only [hk, if_true, Option.map_some]
  · simp only [hk, if_false]

theorem viewOf_edApply (top : Raw) (s : Store) (p : Patch) :
    viewOf (oabs (edApply top p)) s = applyP (viewOf (oabs top) s) p :=
  (List.foldl_hom (fun top => viewOf (oabs top) s) fun top o => (viewOf_edApplyOp top s o).symm).symm

theorem applyP_edChanges_edApply {top : Raw} (hs : Sorted top) (s : Store) (p : Patch) :
    applyP s (edChanges (edApply top p)) = applyP (applyP s (edChanges top)) p := by
  rw [applyP_edChanges (hs.edApply p), viewOf_edApply, applyP_edChanges hs]

theorem rput_comm {s : Raw} (hs : Sorted s) (k1 v1 k2 v2 : Bytes) (h : k1 ≠ k2) :
    rput (rput s k1 v1) k2 v2 = rput (rput s k2 v2) k1 v1 := by
  apply sorted_ext ((hs.rput k1 v1).rput k2 v2) ((hs.rput k2 v2).rput k1 v1)
  intro k
  simp only [rget_rput]
  by_cases h1 : k = k1 <;> by_cases h2 : k = k2 <;> simp_all

theorem rput_overwrite (s : Raw) (k v1 v2 : Bytes) : rput (rput s k v1) k v2 = rput s k v2 := by
  fun_induction rput s k v1 <;> simp [rput, bytesLt_irrefl, *]

theorem edApplyOp_comm {top : Raw} (hs : Sorted top) (o1 o2 : Op) (h : o1.key ≠ o2.key) :
    edApplyOp (edApplyOp top o1) o2 = edApplyOp (edApplyOp top o2) o1 := by
  simp only [edApplyOp_eq]; exact rput_comm hs _ _ _ _ h

theorem edApplyOp_overwrite (top : Raw) (o1 o2 : Op) (h : o1.key = o2.key) :
    edApplyOp (edApplyOp top o1) o2 = edApplyOp top o2 := by
  simp only [edApplyOp_eq, h]; exact rput_overwrite ..

end ZV.Kv
