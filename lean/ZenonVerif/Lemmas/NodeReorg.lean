import ZenonVerif.Model.NodeReorg
import ZenonVerif.Lemmas.NodeSync
/-
Invariants and step lemmas of the node-level model with reorganisations (C02 / C06 / C16, `Props/C06Reorg.lean`).
The invariant of `Lemmas/NodeSync.lean` (`Inv`: pooled and confirmed patches are what `exec` gives in the stated context)
is carried through rollbacks; `ChainOk` adds what the side-chain arithmetic needs: every stored momentum names the one
below it, carries its position as its height and passed the remaining momentum checks on the ledger below it.
-/
namespace ZV.NodeReorg
open ZV ZV.NodeSync

variable {P L : Type}

/-- every stored momentum links to the one below it, its claimed height is its position, and it passed `mvalid` there -/
def ChainOk (W : VM P L) : List (Entry P) → Prop
  | [] => True
  | e :: older =>
    ChainOk W older ∧ e.m.prev = frontierId W older ∧ e.m.height = frontierHeight older + 1 ∧
      W.mvalid (ledger W older) e.m = true

structure InvR (U : Block → Prop) (W : VM P L) (s : Node P) : Prop where
  base : Inv U W s
  chain : ChainOk W s.hist

/-- a run of accepted momentums: the insert loop got through `ds`, one `stepR` each -/
def Steps (W : VM P L) : Node P → List DM → Node P → Prop
  | s, [], s' => s' = s
  | s, d :: ds, s' => ∃ s1, stepR W s d = (s1, true) ∧ Steps W s1 ds s'

/-! Two facts about lists, nothing about the model: used by `rollback_inv` and `C06Reorg.failure_index_exact`. -/

/-- a property of chains that passes from a chain to the chain below its newest entry passes to every older part -/
theorem drop_of_tail {α : Type} {Q : List α → Prop} (hQ : ∀ a l, Q (a :: l) → Q l) :
    ∀ (k : Nat) {l : List α}, Q l → Q (l.drop k)
  | 0, _, h => h
  | _ + 1, [], h => h
  | k + 1, a :: l, h => drop_of_tail hQ k (hQ a l h)

/-- positions behind the skipped prefix are positions of the batch -/
theorem getElem?_dropWhile {α : Type} (p : α → Bool) (l : List α) (n : Nat) :
    l[l.length - (l.dropWhile p).length + n]? = (l.dropWhile p)[n]? := by
  obtain ⟨t, ht⟩ := List.dropWhile_suffix (l := l) p
  generalize l.dropWhile p = r at ht ⊢
  subst ht
  rw [List.length_append, Nat.add_sub_cancel, List.getElem?_append_right (Nat.le_add_right ..), Nat.add_sub_cancel_left]

theorem stepR_true {W : VM P L} {s s' : Node P} {d : DM} (h : stepR W s d = (s', true)) :
    d.m.height = frontierHeight s.hist + 1 ∧ stepMomentum W true true s d = (s', true) := by
  unfold stepR at h
  split at h
  · rename_i hh; exact ⟨hh, h⟩
  · simp at h

/-- what an accepted momentum leaves: one more entry, carrying the delivered momentum -/
theorem stepR_true_hist {W : VM P L} {s s' : Node P} {d : DM} (h : stepR W s d = (s', true)) :
    ∃ e : Entry P, e.m = d.m ∧ s'.hist = e :: s.hist := by
  obtain ⟨_, h⟩ := stepR_true h
  obtain ⟨s1, q, txs, hb, _, _, _, _, rfl⟩ := stepMomentum_true h
  exact ⟨⟨d.m, txs, W.pack (ledger W s1.hist) txs⟩, rfl, by simp [blockLoop_hist _ hb]⟩

theorem stepR_false_hist {W : VM P L} {s s' : Node P} {d : DM} (h : stepR W s d = (s', false)) :
    s'.hist = s.hist := by
  unfold stepR at h
  split at h
  · obtain ⟨ok, hb⟩ := stepMomentum_false h
    exact blockLoop_hist _ hb
  · rw [← (Prod.mk.inj h).1]
    exact blockLoop_hist _ rfl

theorem stepR_inv {W : VM P L} {U : Block → Prop} {s s' : Node P} {d : DM} {ok : Bool}
    (h : stepR W s d = (s', ok)) (hu : ∀ b ∈ d.blocks, U b) (hi : InvR U W s) : InvR U W s' := by
  cases ok with
  | false =>
    refine ⟨?_, by rw [stepR_false_hist h]; exact hi.chain⟩
    unfold stepR at h
    split at h
    · exact stepMomentum_inv h hu hi.base
    · rw [← (Prod.mk.inj h).1]
      exact blockLoop_inv _ rfl hu hi.base
  | true =>
    obtain ⟨hheight, hm⟩ := stepR_true h
    refine ⟨stepMomentum_inv hm hu hi.base, ?_⟩
    obtain ⟨s1, q, txs, hb, hprev, _, _, hv, rfl⟩ := stepMomentum_true hm
    have e1 := blockLoop_hist _ hb
    rw [e1] at hprev hv
    simp only [e1]
    exact ⟨hi.chain, hprev, hheight, hv⟩

theorem loopR_inv {W : VM P L} {U : Block → Prop} (ds : List DM) {s : Node P} {idx : Nat}
    (hu : ∀ d ∈ ds, ∀ b ∈ d.blocks, U b) (hi : InvR U W s) : InvR U W (loopR W s idx ds).1 := by
  fun_induction loopR W s idx ds with
  | case1 => exact hi
  | case2 _ _ d _ _ h1 ih =>
    exact ih (fun x hx => hu x (List.mem_cons_of_mem _ hx)) (stepR_inv h1 (hu d List.mem_cons_self) hi)
  | case3 _ _ d _ _ h1 => exact stepR_inv h1 (hu d List.mem_cons_self) hi

/-- `RollbackTo` as the code does it (pool dropped) keeps the invariant: the empty pool is sound on any chain, and what is
    left of the chain was sound before -/
theorem rollback_inv {W : VM P L} {U : Block → Prop} {s : Node P} (k : Nat) (hi : InvR U W s) :
    InvR U W (rollback false s k) := by
  unfold rollback
  split
  · exact hi
  · exact ⟨⟨PoolOver.empty _ _ _, drop_of_tail (fun _ _ h => h.1) k hi.base.hist,
      fun e he => hi.base.hash e (List.mem_of_mem_drop he),
      fun _ _ h => (nomatch h), fun e he => hi.base.blocks.2 e (List.mem_of_mem_drop he)⟩,
      drop_of_tail (fun _ _ h => h.1) k hi.chain⟩

/-- The decomposition of one `InsertChain` call. Either one of the three refusals that leave the node untouched, or the
    insert loop over everything behind the known prefix, on the node rolled back by `k` momentums: `k = 0` when nothing is
    left or the head names the frontier; otherwise the head names as its previous the own momentum `k` below the
    frontier, `k` is at most the window and the claimed tail height is above the frontier. -/
theorem deliverR_cases (W : VM P L) (kp : Bool) (s : Node P) (batch : List DM) :
    ((deliverR W kp s batch).1 = s ∧ ((deliverR W kp s batch).2 = .link ∨ (deliverR W kp s batch).2 = .tooFar ∨
      (deliverR W kp s batch).2 = .notLonger)) ∨
    (∃ k, deliverR W kp s batch = loopR W (rollback kp s k)
        (batch.length - (batch.dropWhile (fun d => knownR W s.hist d.m)).length)
        (batch.dropWhile (fun d => knownR W s.hist d.m)) ∧
      ((k = 0 ∧ ∀ head ∈ (batch.dropWhile (fun d => knownR W s.hist d.m)).head?, head.m.prev = frontierId W s.hist) ∨
       (∃ head more, batch.dropWhile (fun d => knownR W s.hist d.m) = head :: more ∧
          k = frontierHeight s.hist - (head.m.height - 1) ∧
          k ≤ Gen.InsertChainWindow ∧ byHeight W s.hist (head.m.height - 1) = some head.m.prev ∧
          frontierHeight s.hist < ((head :: more).getLastD head).m.height))) := by
  fun_cases deliverR W kp s batch
  case case1 ht =>
    replace ht : batch.dropWhile _ = [] := ht
    exact Or.inr ⟨0, by rw [ht]; rfl, Or.inl ⟨rfl, by simp [ht]⟩⟩
  case case2 head more ht _ hp =>
    replace ht : batch.dropWhile _ = head :: more := ht
    exact Or.inr ⟨0, rfl, Or.inl ⟨rfl, by simpa [ht] using hp⟩⟩
  case case3 | case4 => exact Or.inl ⟨rfl, Or.inl rfl⟩
  case case5 => exact Or.inl ⟨rfl, Or.inr (Or.inl rfl)⟩
  case case6 => exact Or.inl ⟨rfl, Or.inr (Or.inr rfl)⟩
  case case7 head more ht _ _ _ target hb htg hf hl =>
    replace ht : batch.dropWhile _ = head :: more := ht
    exact Or.inr ⟨_, rfl, Or.inr ⟨head, more, ht, rfl, Nat.le_of_not_gt hf,
      by rw [hb, Decidable.of_not_not htg], Nat.lt_of_not_le hl⟩⟩

theorem deliverR_inv {W : VM P L} {U : Block → Prop} {s : Node P} {batch : List DM}
    (hu : ∀ d ∈ batch, ∀ b ∈ d.blocks, U b) (hi : InvR U W s) : InvR U W (deliverR W false s batch).1 := by
  rcases deliverR_cases W false s batch with ⟨h, _⟩ | ⟨k, h, _⟩
  · rw [h]; exact hi
  · rw [h]
    exact loopR_inv _ (fun x hx => hu x ((List.dropWhile_sublist _).subset hx)) (rollback_inv k hi)

theorem stepOp_inv {W : VM P L} {U : Block → Prop} {s : Node P} (o : Op) (hu : ∀ b ∈ opBlocksR [o], U b)
    (hi : InvR U W s) : InvR U W (stepOp W s o) := by
  cases o with
  | gossip b =>
    refine ⟨step_inv (.gossip b) hu hi.base, ?_⟩
    show ChainOk W ((addBlock W true false s b).getD s).hist
    cases h : addBlock W true false s b with
    | none => exact hi.chain
    | some s' => rw [Option.getD_some, addBlock_hist h]; exact hi.chain
  | deliver batch =>
    exact deliverR_inv
      (fun d hd b hb => hu b (by simp only [opBlocksR, List.append_nil, List.mem_flatMap]; exact ⟨d, hd, hb⟩)) hi
  | restart => exact ⟨step_inv .restart (fun _ h => nomatch h) hi.base, hi.chain⟩

theorem opBlocksR_cons (o : Op) (ops : List Op) : opBlocksR (o :: ops) = opBlocksR [o] ++ opBlocksR ops := by
  cases o <;> simp [opBlocksR]

/-- the invariant holds in every reachable state — after any number of reorganisations, refused deliveries, deliveries
    that failed half-way (before or after a rollback), gossip and restarts -/
theorem runR_inv (W : VM P L) (U : Block → Prop) (ops : List Op) (hu : ∀ b ∈ opBlocksR ops, U b) :
    InvR U W (runR W ops) := by
  suffices h : ∀ (s : Node P), InvR U W s → InvR U W (ops.foldl (stepOp W) s) from h _ ⟨init_inv W U, trivial⟩
  induction ops with
  | nil => exact fun _ hi => hi
  | cons o ops ih =>
    rw [opBlocksR_cons] at hu
    exact fun s hi => ih (fun b hb => hu b (List.mem_append_right _ hb)) _
      (stepOp_inv o (fun b hb => hu b (List.mem_append_left _ hb)) hi)

theorem Steps.chain {W : VM P L} :
    ∀ (ds : List DM) {s s' : Node P}, Steps W s ds s' →
      s'.chain = (ds.map (·.m)).reverse ++ s.chain ∧ s'.hist.length = s.hist.length + ds.length := by
  intro ds
  induction ds with
  | nil => intro s s' h; simp only [Steps] at h; subst h; simp
  | cons d ds ih =>
    intro s s' h
    obtain ⟨s1, h1, h2⟩ := h
    obtain ⟨e, he, hh⟩ := stepR_true_hist h1
    obtain ⟨c1, c2⟩ := ih h2
    constructor
    · rw [c1]; simp [Node.chain, hh, he]
    · rw [c2, hh]; simp; omega

/-- the insert loop accepts a prefix of what it is given, one `stepR` each; it returns `ok` exactly when that prefix is
    everything, and otherwise the index of the first momentum that `stepR` refuses — the node then holds the accepted prefix
    and nothing of the refused momentum -/
theorem loopR_spec {W : VM P L} (ds : List DM) {s s' : Node P} {idx : Nat} {r : Res}
    (h : loopR W s idx ds = (s', r)) :
    ∃ n s1, Steps W s (ds.take n) s1 ∧
      ((r = .ok ∧ n = ds.length ∧ s' = s1) ∨
       (∃ d, ds[n]? = some d ∧ r = .verify (idx + n) ∧ stepR W s1 d = (s', false))) := by
  revert h
  fun_induction loopR W s idx ds with
  | case1 s => exact fun h => ⟨0, s, rfl, Or.inl ⟨(Prod.mk.inj h).2.symm, rfl, (Prod.mk.inj h).1.symm⟩⟩
  | case2 s idx d ds s1 h1 ih =>
    intro h
    obtain ⟨n, s2, hs, hr⟩ := ih h
    refine ⟨n + 1, s2, ⟨s1, h1, by simpa using hs⟩, ?_⟩
    rcases hr with ⟨a, b, c⟩ | ⟨d', a, b, c⟩
    · exact Or.inl ⟨a, by simp [b], c⟩
    · exact Or.inr ⟨d', by simpa using a, by rw [b]; congr 1; omega, c⟩
  | case3 s idx d ds s1 h1 =>
    intro h
    obtain ⟨rfl, rfl⟩ := Prod.mk.inj h
    exact ⟨0, s, rfl, Or.inr ⟨d, rfl, rfl, h1⟩⟩

theorem loopR_append {W : VM P L} :
    ∀ (xs ys : List DM) (s : Node P) (idx : Nat),
      loopR W s idx (xs ++ ys) =
        match loopR W s idx xs with
        | (s', .ok) => loopR W s' (idx + xs.length) ys
        | r => r := by
  intro xs
  induction xs with
  | nil => intro ys s idx; simp [loopR]
  | cons x xs ih =>
    intro ys s idx
    simp only [List.cons_append, loopR]
    split
    · rename_i s1 h1
      rw [ih]
      have : idx + 1 + xs.length = idx + (x :: xs).length := by simp; omega
      rw [this]
    · rfl

/-- the entry at position `i` (newest first) claims the height of its position -/
theorem ChainOk.height_at {W : VM P L} : ∀ {hist : List (Entry P)}, ChainOk W hist → ∀ {i : Nat} {e : Entry P},
    hist[i]? = some e → e.m.height + i = frontierHeight hist
  | _ :: older, h, 0, e, he => by
    cases he
    exact h.2.2.1
  | _ :: older, h, i + 1, e, he => by
    have := ChainOk.height_at h.1 (i := i) (e := e) he
    simp only [frontierHeight, List.length_cons] at this ⊢
    omega

theorem ChainOk.known {W : VM P L} {hist : List (Entry P)} (h : ChainOk W hist) (e : Entry P) (he : e ∈ hist) :
    knownR W hist e.m = true := by
  obtain ⟨i, hie⟩ := List.getElem?_of_mem he
  have hi := (List.getElem?_eq_some_iff.1 hie).1
  have hh := h.height_at hie
  unfold frontierHeight genesisHeight at hh
  unfold knownR byHeight frontierHeight genesisHeight
  rw [if_neg (by omega), if_pos (by omega), show hist.length + 1 - e.m.height = i by omega, hie]
  simp

/-! ### a node that is only ever given the chain -/

/-- the insert loop of a fresh node on what a node serves re-creates that node's stored history, entry by entry: every
    served momentum is accepted (its blocks are executed in their stated context on the same chain, so `exec` returns
    the same patches, `pack` the same changes, and the changes hash matches again) -/
theorem replay_served {W : VM P L} {U : Block → Prop} (hinj : ∀ b b', U b → U b' → b.id = b'.id → b = b') :
    ∀ (hist : List (Entry P)), HistSound W hist → HashOk W hist → ChainOk W hist →
      (∀ e ∈ hist, ∀ t ∈ e.txs, U t.1) →
      ∃ q, loopR W Node.init 0 (served hist) = ({ hist := hist, pool := q }, .ok) ∧
        InvR U W { hist := hist, pool := q } := by
  intro hist
  induction hist with
  | nil =>
    intro _ _ _ _
    exact ⟨fun _ => [], rfl, ⟨init_inv W U, trivial⟩⟩
  | cons e older ih =>
    intro hs hh hc hu
    obtain ⟨q, hq, hi⟩ := ih hs.1 (fun x hx => hh x (by simp [hx])) hc.1 (fun x hx => hu x (by simp [hx]))
    obtain ⟨_, hts, hcont, hpatch⟩ := hs
    obtain ⟨_, hprev, hheight, hv⟩ := hc
    have hhash : W.hash (W.pack (ledger W older) e.txs) = e.m.changesHash := by
      rw [← hpatch]; exact hh e (by simp)
    obtain ⟨q', hq'⟩ := stepMomentum_honest (t := { hist := older, pool := q }) hinj hi.base
      (hu e (by simp)) hts hcont hprev hhash hv
    have he : (⟨e.m, e.txs, W.pack (ledger W older) e.txs⟩ : Entry P) = e := by
      rw [← hpatch]
    simp only [he] at hq'
    have hstep : stepR W { hist := older, pool := q } ⟨e.m, e.txs.map (·.1)⟩ =
        ({ hist := e :: older, pool := q' }, true) := by
      unfold stepR
      simp only [hheight, if_true]
      exact hq'
    refine ⟨q', ?_, ?_⟩
    · rw [show served (e :: older) = served older ++ [⟨e.m, e.txs.map (·.1)⟩] by simp [served], loopR_append, hq]
      simp only [loopR, hstep]
    · exact stepR_inv hstep (by
        intro b hb
        obtain ⟨t, ht, rfl⟩ := List.mem_map.1 hb
        exact hu e (by simp) t ht) hi

theorem ChainOk.last {W : VM P L} : ∀ {hist : List (Entry P)}, ChainOk W hist → ∀ e, hist.getLast? = some e →
    e.m.prev = W.gid ∧ e.m.height = genesisHeight + 1 := by
  intro hist
  induction hist with
  | nil => intro _ e he; simp at he
  | cons e' older ih =>
    intro h e he
    cases older with
    | nil =>
      simp only [List.getLast?_singleton, Option.some.injEq] at he
      subst he
      obtain ⟨_, h2, h3, _⟩ := h
      exact ⟨h2, by simpa [frontierHeight] using h3⟩
    | cons e'' rest =>
      rw [List.getLast?_cons_cons] at he
      exact ih h.1 e he

/-- `InsertChain` of a fresh node on everything a node serves, in one batch: the whole batch goes through the insert loop -/
theorem deliverR_served {W : VM P L} (kp : Bool) {hist : List (Entry P)} (hc : ChainOk W hist) :
    deliverR W kp Node.init (served hist) = loopR W Node.init 0 (served hist) := by
  rcases List.eq_nil_or_concat hist with rfl | ⟨ys, e2, rfl⟩
  · rfl
  · -- the oldest entry is served first: the fresh node does not know it, and it names genesis
    obtain ⟨hp, hh⟩ := hc.last e2 (by simp)
    have hk : knownR W (Node.init (P := P)).hist e2.m = false := by
      simp [knownR, byHeight, hh, genesisHeight, frontierHeight, Node.init]
    have hp' : e2.m.prev = frontierId W (Node.init (P := P)).hist := hp
    rw [show served (ys.concat e2) = ⟨e2.m, e2.txs.map (·.1)⟩ :: served ys by simp [served]]
    unfold deliverR
    simp only [List.dropWhile, hk, hp', if_true, Nat.sub_self]

theorem byHeight_some_le {W : VM P L} {hist : List (Entry P)} {h x : Nat} (hb : byHeight W hist h = some x) :
    genesisHeight ≤ h ∧ h ≤ frontierHeight hist := by
  unfold byHeight at hb
  split at hb
  · rename_i h1; simp only [frontierHeight]; omega
  · split at hb
    · rename_i h2; omega
    · cases hb

/-- the claimed heights of an accepted run are consecutive from the frontier, so the claimed height of its last momentum
    IS the height the chain ends at -/
theorem Steps.last_height {W : VM P L} :
    ∀ (ds : List DM) {s s' : Node P} {d : DM}, Steps W s (d :: ds) s' →
      ((d :: ds).getLastD d).m.height = frontierHeight s.hist + (d :: ds).length := by
  intro ds
  induction ds with
  | nil =>
    intro s s' d h
    obtain ⟨s1, h1, _⟩ := h
    simpa using (stepR_true h1).1
  | cons d2 ds ih =>
    intro s s' d h
    obtain ⟨s1, h1, h2⟩ := h
    obtain ⟨e, _, hh⟩ := stepR_true_hist h1
    have := ih h2
    rw [List.getLastD_cons]
    have e2 : (d2 :: ds).getLastD d = (d2 :: ds).getLastD d2 := by
      rw [List.getLastD_cons, List.getLastD_cons]
    rw [e2, this, hh]
    simp only [frontierHeight, List.length_cons]; omega

theorem rollback_chain (s : Node P) (k : Nat) : (rollback false s k).chain = s.chain.drop k := by
  unfold rollback
  split
  · rename_i h; subst h; simp
  · simp [Node.chain, List.map_drop]

theorem rollback_length (kp : Bool) (s : Node P) (k : Nat) : (rollback kp s k).hist.length = s.hist.length - k := by
  unfold rollback
  split
  · rename_i h; subst h; simp
  · simp

theorem deliverR_honest {W : VM P L} {U : Block → Prop} (hinj : ∀ b b', U b → U b' → b.id = b'.id → b = b')
    {t : Node P} {m : Momentum} {txs : List (Tx P)} (hi : Inv U W t) (hu : ∀ x ∈ txs, U x.1)
    (hs : TxsSound W t.hist (conf W t.hist) txs) (hc : txs.map (·.1.hdr) = m.content)
    (hprev : m.prev = frontierId W t.hist) (hheight : m.height = frontierHeight t.hist + 1)
    (hh : W.hash (W.pack (ledger W t.hist) txs) = m.changesHash)
    (hv : W.mvalid (ledger W t.hist) m = true) :
    (deliverR W false t [⟨m, txs.map (·.1)⟩]).2 = .ok ∧
      (knownR W t.hist m = false → (deliverR W false t [⟨m, txs.map (·.1)⟩]).1.chain = m :: t.chain) := by
  obtain ⟨q, hq⟩ := stepMomentum_honest hinj hi hu hs hc hprev hh hv
  have hstep : stepR W t ⟨m, txs.map (·.1)⟩ =
      ({ hist := ⟨m, txs, W.pack (ledger W t.hist) txs⟩ :: t.hist, pool := q }, true) := by
    unfold stepR; simp only [hheight, if_true]; exact hq
  unfold deliverR
  cases hk : knownR W t.hist m
  · simp only [List.dropWhile, hk, hprev, if_true, loopR, hstep]
    exact ⟨trivial, fun _ => rfl⟩
  · simp [List.dropWhile, hk]

end ZV.NodeReorg
