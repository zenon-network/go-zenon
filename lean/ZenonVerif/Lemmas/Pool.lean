import ZenonVerif.Model.Pool
import ZenonVerif.Lemmas.Bytes
/-
`higherPriority` compares two uint64 products. Here: when it succeeds, in terms of the products as computed (`hp_ok_iff`)
and, for plasma fields below 2^32 where nothing wraps, in terms of the order of the ratios total/base taken by
cross-multiplication over the naturals (`geR`, `hp_ok_small`); that order is transitive only away from (0, 0) (`geR_trans`).
-/
namespace ZV

namespace Pool

/-- left product of `higherPriority a b` as computed in uint64 -/
def prodL (a b : Blk) : Nat := (a.total * b.base) % two64

theorem hp_ok_iff (a b : Blk) :
    higherPriority a b = .ok ↔
      prodL b a < prodL a b ∨ (prodL a b = prodL b a ∧ bytesLt a.hash b.hash = true) := by
  unfold higherPriority prodL
  simp only
  by_cases h1 : a.total * b.base % two64 < b.total * a.base % two64
  · simp only [h1, if_true]
    constructor
    · intro h; cases h
    · intro h; omega
  · simp only [h1, if_false]
    by_cases h2 : a.total * b.base % two64 = b.total * a.base % two64
    · cases hb : bytesLt a.hash b.hash <;> simp [h2]
    · have : b.total * a.base % two64 < a.total * b.base % two64 := by omega
      simp [h2, this]

theorem hp_ratio_iff (a b : Blk) : higherPriority a b = .ratioWorse ↔ prodL a b < prodL b a := by
  unfold higherPriority prodL
  simp only
  by_cases h1 : a.total * b.base % two64 < b.total * a.base % two64
  · simp [h1]
  · simp only [h1, if_false, iff_false]
    split <;> simp

/-- how `addAccountBlockTransaction` uses the rule: a forced block skips it, otherwise the rule's two errors refuse the
    block -/
theorem prio_decision {σ : Type} (f : Bool) (pr : Prio) (keep new : σ) :
    (if (!f && decide (pr = .ratioWorse)) = true then (keep, AddRes.ratioWorse)
     else if (!f && decide (pr = .hashTieBreak)) = true then (keep, AddRes.hashTieBreak)
     else (new, AddRes.replaced)) =
    if f = true ∨ pr = .ok then (new, AddRes.replaced)
    else (keep, if pr = .ratioWorse then .ratioWorse else .hashTieBreak) := by
  cases f <;> cases pr <;> rfl

/-- order on (total, base) pairs by cross-multiplication over unbounded integers: `geR a b` = ratio a ≥ ratio b -/
def geR (a b : Blk) : Prop := b.total * a.base ≤ a.total * b.base

instance (a b : Blk) : Decidable (geR a b) := by unfold geR; infer_instance

def NZ (a : Blk) : Prop := a.total ≠ 0 ∨ a.base ≠ 0

instance (a : Blk) : Decidable (NZ a) := by unfold NZ; infer_instance

theorem geR_total (a b : Blk) : geR a b ∨ geR b a := by unfold geR; omega

/-- transitivity of the cross-multiplication order needs the middle pair to be different from (0,0) -/
theorem geR_trans (a b c : Blk) (hb : NZ b) (h1 : geR a b) (h2 : geR b c) : geR a c := by
  unfold geR at *
  by_cases hb0 : b.base = 0
  · rw [hb0, Nat.mul_zero, Nat.le_zero, Nat.mul_eq_zero] at h1
    rw [h1.resolve_left (hb.resolve_right (not_not_intro hb0))]
    simp
  · have hpos : 0 < b.base := Nat.pos_of_ne_zero hb0
    apply Nat.le_of_mul_le_mul_right _ hpos
    calc c.total * a.base * b.base = (c.total * b.base) * a.base := by ac_rfl
      _ ≤ (b.total * c.base) * a.base := Nat.mul_le_mul_right _ h2
      _ = (b.total * a.base) * c.base := by ac_rfl
      _ ≤ (a.total * b.base) * c.base := Nat.mul_le_mul_right _ h1
      _ = a.total * c.base * b.base := by ac_rfl

/-- plasma fields small enough that the uint64 products are the true products -/
def Small (a : Blk) : Prop := a.total < two32 ∧ a.base < two32

instance (a : Blk) : Decidable (Small a) := by unfold Small; infer_instance

theorem prodL_small (a b : Blk) (ha : Small a) (hb : Small b) : prodL a b = a.total * b.base :=
  Nat.mod_eq_of_lt (Nat.mul_lt_mul'' ha.1 hb.2 : _ < two32 * two32)

/-- without wrap-around `higherPriority a b` succeeds iff a's ratio is strictly higher, or the ratios are equal
    and a's hash is smaller -/
theorem hp_ok_small (a b : Blk) (ha : Small a) (hb : Small b) :
    higherPriority a b = .ok ↔ ¬ geR b a ∨ (geR a b ∧ geR b a ∧ bytesLt a.hash b.hash = true) := by
  rw [hp_ok_iff, prodL_small a b ha hb, prodL_small b a hb ha, geR, geR, Nat.not_le, Nat.le_antisymm_iff, and_assoc,
    and_left_comm]

/-- the plasma values an accepted block can carry (vm.enoughPlasma / GetBasePlasmaForAccountBlock):
    TotalPlasma ≤ MaxPlasmaForAccountBlock, BasePlasma ≤ base + 68·MaxDataLength or an embedded method's cost -/
def Bounded (a : Blk) : Prop :=
  a.total ≤ Gen.MaxPlasmaForAccountBlock ∧
  a.base ≤ max (Gen.AccountBlockBasePlasma + Gen.ABByteDataPlasma * Gen.MaxDataLength)
               (max Gen.PT_EmbeddedSimple (max Gen.PT_EmbeddedWWithdraw Gen.PT_EmbeddedWDoubleWithdraw))

instance (a : Blk) : Decidable (Bounded a) := by unfold Bounded; infer_instance

/-- the competitors for one height are all of one kind: all with some plasma, or all without any -/
def Uniform (l : List Blk) : Prop := (∀ x ∈ l, NZ x) ∨ (∀ x ∈ l, ¬ NZ x)

end Pool
end ZV
