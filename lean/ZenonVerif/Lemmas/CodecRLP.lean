import ZenonVerif.Model.CodecRLP
import ZenonVerif.Lemmas.Codec
/-
Helper lemmas for C13: generic RLP items are decoded back from their canonical encoding.
-/
namespace ZV.Codec
open ZV

/-! ### minimal big-endian bytes: no leading zero -/

theorem natBytesLEAux_getLast : ∀ (f n : Nat), n ≤ f → n ≠ 0 →
    ∃ d, (natBytesLEAux f n).getLast? = some d ∧ d ≠ 0 := by
  intro f
  induction f with
  | zero => intro n h h0; omega
  | succ f ih =>
    intro n h h0
    unfold natBytesLEAux
    simp only [h0, if_false]
    by_cases hq : n / 256 = 0
    · refine ⟨n % 256, ?_, by omega⟩
      rw [hq]
      cases f <;> simp [natBytesLEAux]
    · obtain ⟨d, hd, hd0⟩ := ih (n / 256) (by omega) hq
      refine ⟨d, ?_, hd0⟩
      rw [List.getLast?_cons]
      simp [hd]

theorem natBytesBE_head (n : Nat) (h0 : n ≠ 0) : (natBytesBE n).headD 0 ≠ 0 := by
  obtain ⟨d, hd, hd0⟩ := natBytesLEAux_getLast n n (Nat.le_refl n) h0
  simp only [natBytesBE, List.headD_eq_head?_getD, List.head?_reverse, hd, Option.getD_some]
  exact hd0

theorem natBytesBE_length_pos (n : Nat) (h0 : n ≠ 0) : 0 < (natBytesBE n).length :=
  natBytesBE_length_gt n 0 (by simp; omega)

/-- the form the typed decoder tests (`head?` with default 1): also right for `n = 0`, whose bytes are empty -/
theorem natBytesBE_head?_ne (n : Nat) : (List.head? (natBytesBE n)).getD 1 ≠ 0 := by
  by_cases h0 : n = 0
  · subst h0; decide
  · have hh := natBytesBE_head n h0
    revert hh
    cases natBytesBE n <;> simp

theorem natBytesBE_length_le8 (n : Nat) (h : n < two64) : (natBytesBE n).length ≤ 8 :=
  natBytesBE_length_le n 8 h

/-! ### `rlp.Split` on an encoded head + payload -/

theorem rlpReadLong_ok (isList : Bool) (n : Nat) (p rest : Bytes) (hn : 55 < n) (hp : p.length = n) :
    rlpReadLong isList (natBytesBE n).length (natBytesBE n ++ (p ++ rest)) = some (isList, p, rest) := by
  subst hp
  have h0 : p.length ≠ 0 := by omega
  have hh := natBytesBE_head p.length h0
  unfold rlpReadLong
  simp only [List.length_append, List.take_left', List.drop_left', beVal_natBytesBE]
  have h1 : ¬ ((natBytesBE p.length).length + (p.length + rest.length) < (natBytesBE p.length).length) := by omega
  have h3 : ¬ (p.length ≤ 55) := by omega
  have h4 : ¬ (p.length + rest.length < p.length) := by omega
  simp only [h1, hh, h3, h4, if_false]

/-- `rlp.Split` on the header for `p.length` bytes followed by `p`: short form up to 55 bytes, long form above; a string
    must not be one that has the single-byte form -/
theorem rlpSplit_head (base : Nat) (isList : Bool) (p rest : Bytes) (hp : p.length < two64)
    (hb : (base = 128 ∧ isList = false ∧ ¬(p.length = 1 ∧ (p ++ rest).headD 0 < 128)) ∨ (base = 192 ∧ isList = true)) :
    rlpSplit (rlpHead base p.length ++ (p ++ rest)) = some (isList, p, rest) := by
  by_cases hlen : p.length ≤ 55
  · have a6 : ¬ ((p ++ rest).length < p.length) := by simp
    simp only [rlpHead, hlen, if_true, List.cons_append, List.nil_append, rlpSplit]
    rcases hb with ⟨rfl, rfl, h1⟩ | ⟨rfl, rfl⟩
    · simp only [show ¬ (128 + p.length < 128) by omega, show 128 + p.length ≤ 183 by omega,
        show 128 + p.length - 128 = p.length by omega, a6, h1, if_true, if_false, List.take_left', List.drop_left']
    · simp only [show ¬ (192 + p.length < 128) by omega, show ¬ (192 + p.length ≤ 183) by omega,
        show ¬ (192 + p.length ≤ 191) by omega, show 192 + p.length ≤ 247 by omega,
        show 192 + p.length - 192 = p.length by omega, a6, if_true, if_false, List.take_left', List.drop_left']
  · have hl8 := natBytesBE_length_le8 p.length hp
    have hl1 := natBytesBE_length_pos p.length (by omega)
    have hr := rlpReadLong_ok isList p.length p rest (by omega) rfl
    simp only [rlpHead, hlen, if_false, List.cons_append, rlpSplit]
    generalize (natBytesBE p.length).length = n at hl8 hl1 hr
    rcases hb with ⟨rfl, rfl, _⟩ | ⟨rfl, rfl⟩
    · simp only [show ¬ (128 + 55 + n < 128) by omega, show ¬ (128 + 55 + n ≤ 183) by omega,
        show 128 + 55 + n ≤ 191 by omega, show 128 + 55 + n - 183 = n by omega, if_true, if_false, hr]
    · simp only [show ¬ (192 + 55 + n < 128) by omega, show ¬ (192 + 55 + n ≤ 183) by omega,
        show ¬ (192 + 55 + n ≤ 191) by omega, show ¬ (192 + 55 + n ≤ 247) by omega, show 192 + 55 + n ≤ 255 by omega,
        show 192 + 55 + n - 247 = n by omega, if_true, if_false, hr]

theorem rlpSplit_str (b rest : Bytes) (hb : b.length < two64) :
    rlpSplit (rlpStr b ++ rest) = some (false, b, rest) := by
  unfold rlpStr
  split
  · next x =>
    by_cases hx : x < 128
    · simp [hx, rlpSplit]
    · simp only [hx, if_false, List.append_assoc]
      exact rlpSplit_head 128 false [x] rest hb (Or.inl ⟨rfl, rfl, fun h => hx h.2⟩)
  · next hns =>
    rw [List.append_assoc]
    refine rlpSplit_head 128 false b rest hb (Or.inl ⟨rfl, rfl, fun h => ?_⟩)
    obtain ⟨x, hx⟩ := List.length_eq_one_iff.mp h.1
    exact hns x hx

theorem rlpStr_length_pos (b : Bytes) : 0 < (rlpStr b).length := by
  unfold rlpStr
  split
  · split <;> simp [rlpHead]
  · unfold rlpHead; split <;> simp

theorem rlpHead_length_pos (base n : Nat) : 0 < (rlpHead base n).length := by
  unfold rlpHead; split <;> simp

theorem rlpStr_length_ge (b : Bytes) : b.length ≤ (rlpStr b).length := by
  unfold rlpStr
  split
  · split <;> simp [rlpHead]
  · simp

theorem rlpEnc_length_pos (x : RItem) : 0 < (rlpEnc x).length := by
  cases x with
  | str b => rw [rlpEnc]; exact rlpStr_length_pos b
  | list l =>
    rw [rlpEnc]
    have := rlpHead_length_pos 192 (rlpEncList l).length
    simp only [List.length_append]; omega

/-- Fuel: `rlpDecItem` and `rlpDecItems` each spend one unit per call and every item takes at least one byte, so twice the
    length covers an item with everything nested in it; `rlpDec` and `rlpDecodeBlock` of the model pass this bound. -/
theorem rlp_roundtrip_aux (x : RItem) :
    ∀ (f : Nat) (rest : Bytes), (rlpEnc x).length < two64 → 2 * (rlpEnc x).length ≤ f + 1 →
      rlpDecItem f (rlpEnc x ++ rest) = some (x, rest) := by
  induction x using RItem.rec (motive_2 := fun l => ∀ (f : Nat), (rlpEncList l).length < two64 →
      2 * (rlpEncList l).length ≤ f → rlpDecItems f (rlpEncList l) = some l) with
  | str b =>
    intro f rest hlen hf
    rw [rlpEnc] at hlen hf ⊢
    have hpos := rlpStr_length_pos b
    cases f with
    | zero => omega
    | succ f =>
      rw [rlpDecItem, rlpSplit_str b rest (by have := rlpStr_length_ge b; omega)]
      rfl
  | list l ih =>
    intro f rest hlen hf
    rw [rlpEnc] at hlen hf ⊢
    simp only [List.length_append] at hlen hf
    have hpos := rlpHead_length_pos 192 (rlpEncList l).length
    cases f with
    | zero => omega
    | succ f =>
      rw [rlpDecItem]
      simp only [List.append_assoc]
      rw [rlpSplit_head 192 true (rlpEncList l) rest (by omega) (Or.inr ⟨rfl, rfl⟩)]
      simp only [Option.bind_eq_bind, Option.bind_some, if_true]
      rw [ih f (by omega) (by omega)]
      rfl
  | nil =>
    rename_i f _ _
    cases f <;> simp [rlpEncList, rlpDecItems]
  | cons x xs ihx ihxs =>
    rename_i f hlen hf
    rw [rlpEncList] at hlen hf ⊢
    simp only [List.length_append] at hlen hf
    have hpos := rlpEnc_length_pos x
    cases hc : rlpEnc x ++ rlpEncList xs with
    | nil =>
      have := congrArg List.length hc
      simp only [List.length_append, List.length_nil] at this; omega
    | cons y ys =>
      cases f with
      | zero => omega
      | succ f =>
        rw [rlpDecItems]
        · rw [← hc, ihx f (rlpEncList xs) (by omega) (by omega)]
          simp only [Option.bind_eq_bind, Option.bind_some]
          rw [ihxs f (by omega) (by omega)]
          rfl
        · intro h; cases h

theorem rlpDec_rlpEnc (x : RItem) (hlen : (rlpEnc x).length < two64) : rlpDec (rlpEnc x) = some x := by
  unfold rlpDec
  have := rlp_roundtrip_aux x (2 * (rlpEnc x).length) [] hlen (by omega)
  simp only [List.append_nil] at this
  rw [this]

end ZV.Codec
