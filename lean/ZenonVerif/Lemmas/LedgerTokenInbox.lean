import ZenonVerif.Lemmas.LedgerInbox
/-
The token contract's own inbox cannot be wedged either (C09), provided the zero token standard has no storage entry:
for whatever send is next in line there is an outcome (applied or refunded) that `crecv` accepts.
-/
namespace ZV.Ledger

variable {s s' s0 s1 s2 : State} {e : Ev} {c a : Addr} {h : Hash} {st : Nat} {ds : List Desc}
  {snd nxt x : Send} {out : TokOutcome} {t n : Tok} {toks : List (Tok × TokInfo)} {d : Desc}

/-- no descendants, or one that forwards the minted amount of a token that is stored or newly issued -/
theorem tokenMethod_shape
    (hm : tokenMethod toks snd n = some out) :
    out.descs = [] ∨ ∃ dst, out.descs = [(dst, out.mintTok, out.mint)] ∧ out.burn = 0 ∧
      ((∃ i, getTok toks out.mintTok = some i) ∨ ∃ t m a b, snd.call = .issue t m a b) := by
  cases tokenMethod_cases hm with
  | issue _ _ _ _ hcall _ => exact .inr ⟨_, rfl, rfl, .inr ⟨_, _, _, _, hcall⟩⟩
  | mint _ _ _ i _ hi _ => exact .inr ⟨_, rfl, rfl, .inl ⟨i, hi⟩⟩
  | burn => exact .inl rfl
  | update => exact .inl rfl

/-- the burn guard holds for every successful method: what is burned was credited by this very receive -/
theorem burn_guard
    (hm : tokenMethod s.toks snd n = some out) :
    out.burn ≤ getBal (tokMint (recvCore s c h snd) c out).bal c out.mintTok := by
  have h1 : getBal (tokMint (recvCore s c h snd) c out).bal c out.mintTok = _ :=
    getBal_credit (recvCore s c h snd) c out.mintTok out.mint c out.mintTok
  have h2 := getBal_recvCore s c h snd c out.mintTok
  obtain ⟨_, _, _, hb | ⟨hb, ht⟩⟩ := tokenMethod_summary hm
  · exact hb ▸ Nat.zero_le _
  · rw [h1, h2, ht, if_pos ⟨rfl, rfl⟩, if_pos ⟨rfl, rfl⟩, hb]; omega

/-- only `issue` looks at the proposed new token standard -/
theorem tokenMethod_newTok_irrelevant (n n' : Tok)
    (hni : ∀ t m a b, snd.call ≠ .issue t m a b) : tokenMethod toks snd n = tokenMethod toks snd n' := by
  unfold tokenMethod
  split
  · rfl
  · rename_i hcl; exact absurd hcl (hni _ _ _ _)
  · rfl
  · rfl
  · rfl

/-- some non-zero token standard has no storage entry: 1 + Σ of the stored keys exceeds every key -/
theorem exists_unused_tok (toks : List (Tok × TokInfo)) : ∃ n, n ≠ zeroTok ∧ getTok toks n = none := by
  have hb : ∀ (l : List (Tok × TokInfo)) (n : Tok), (l.map (·.1)).sum < n → getTok l n = none := by
    intro l n
    fun_induction getTok l n with
    | case1 => intro _; rfl
    | case2 r v => intro hn; exact absurd hn (Nat.not_lt.2 (Nat.le_add_right ..))
    | case3 k v r hk ih => intro hn; exact ih (Nat.lt_of_le_of_lt (Nat.le_add_left ..) hn)
  refine ⟨(toks.map (·.1)).sum + 1, ?_, hb toks _ (Nat.lt_succ_self _)⟩
  simp [zeroTok]

/-- a descendant list of at most one element with a fresh hash and no token call is admissible -/
theorem admissible_of_single {h' : Hash}
    (hfresh : h' ∉ s.sends.map (·.hash)) (hlen : ds.length ≤ 1)
    (hall : ∀ d ∈ ds, d.hash = h' ∧ d.call = TokCall.none) : Admissible s (.crecv c h st ds) := by
  refine ⟨⟨?_, List.forall_mem_map.2 fun d hd => (hall d hd).1 ▸ hfresh⟩,
    List.forall_mem_map.2 fun d hd => (hall d hd).2 ▸ trivial⟩
  show (ds.map (·.hash)).Nodup
  cases ds with
  | nil => exact .nil
  | cons d r =>
    cases r with
    | nil => exact .cons (fun _ h => nomatch h) .nil
    | cons => exact absurd hlen (by simp)
/-- whatever is next in line for the token contract, some outcome with at most one descendant is accepted: the refund
    when the method fails, else the method's own outcome. `hz` is needed for the mint case: a mint of the zero token
    standard could be neither applied (a zero-token send carries no amount) nor refunded (see `wedgeEvents`). -/
theorem token_receive_possible (hw : WF s) (hz : getTok s.toks zeroTok = none)
    (hnext : nextInLine s tokenContract = some nxt) (h' : Hash) :
    ∃ st ds s', crecv s tokenContract nxt.hash st ds = .ok s' ∧
      ds.length ≤ 1 ∧ ∀ d ∈ ds, d.hash = h' ∧ d.call = TokCall.none := by
  have hchk := nextInLine_checkFrom hw hnext
  obtain ⟨hmem, _, _⟩ := nextInLine_spec hnext
  -- the applied path for a method outcome with a single descendant
  have single : ∀ (out : TokOutcome) (dst : Addr),
      tokenMethod s.toks nxt out.mintTok = some out → out.descs = [(dst, out.mintTok, out.mint)] → out.burn = 0 →
      out.mintTok ≠ zeroTok →
      ∃ s', crecv s tokenContract nxt.hash 1 [⟨dst, out.mintTok, out.mint, h', TokCall.none⟩] = .ok s' := by
    intro out dst hm hd hb hnz
    have hle := getBal_tokApply _ tokenContract out (burn_guard (h := nxt.hash) hm) tokenContract out.mintTok
    rw [if_pos ⟨rfl, rfl⟩, if_pos ⟨rfl, rfl⟩, hb, Nat.add_zero] at hle
    exact ⟨_, crecv_ok_iff.2 (.token nxt nxt out hnext rfl hchk rfl rfl hm (by simp [descShape, hd]) (burn_guard hm)
      (applyDescs_cons_of (fun h0 => absurd h0 hnz) (Nat.le.intro (Nat.add_comm .. ▸ hle.symm))))⟩
  by_cases hiss : ∃ t m a b, nxt.call = .issue t m a b
  · -- issue: propose an unused non-zero token standard
    obtain ⟨total, max, a, b, hcl⟩ := hiss
    obtain ⟨n, hn0, hn⟩ := exists_unused_tok s.toks
    have hm : tokenMethod s.toks nxt n
        = some ⟨setTok s.toks n ⟨total, max, a, b, nxt.src⟩, n, total, 0, [(nxt.src, n, total)]⟩ := by
      unfold tokenMethod
      simp only [hcl, hn]
    obtain ⟨s', hs'⟩ := single ⟨_, n, total, 0, _⟩ nxt.src hm rfl rfl hn0
    exact ⟨1, _, s', hs', by simp, by simp⟩
  · have hni : ∀ t m a b, nxt.call ≠ .issue t m a b := fun t m a b he => hiss ⟨t, m, a, b, he⟩
    cases hm : tokenMethod s.toks nxt zeroTok with
    | none =>
      -- the method fails: the refund is accepted
      have hm' : tokenMethod s.toks nxt (newTokOf (refundDescs nxt h')) = none := by
        rw [tokenMethod_newTok_irrelevant _ zeroTok hni]; exact hm
      obtain ⟨s', hs'⟩ := applyDescs_refund_ok (c := tokenContract) hw hmem h'
      exact ⟨2, refundDescs nxt h', s', crecv_ok_iff.2 (.plain nxt nxt hnext rfl hchk (.inr rfl)
        (fun _ => descShape_refundDescs nxt h') (fun _ => rfl) (fun _ out ho => absurd (hm'.symm.trans ho) (by simp)) hs'),
        refundDescs_single nxt h'⟩
    | some out =>
      rcases tokenMethod_shape hm with hd | ⟨dst, hd, hb, hsrc⟩
      · -- burn / update: no descendants
        exact ⟨1, [], _, crecv_ok_iff.2 (.token nxt nxt out hnext rfl hchk rfl rfl hm (by simp [descShape, hd])
          (burn_guard hm) rfl), by simp, by simp⟩
      · -- mint: one descendant of the minted amount
        have hnz : out.mintTok ≠ zeroTok := by
          rcases hsrc with ⟨i, hi⟩ | hi
          · intro h0; rw [h0, hz] at hi; cases hi
          · exact absurd hi hiss
        have hm' : tokenMethod s.toks nxt out.mintTok = some out := by
          rw [tokenMethod_newTok_irrelevant _ zeroTok hni]; exact hm
        obtain ⟨s', hs'⟩ := single out dst hm' hd hb hnz
        exact ⟨1, _, s', hs', by simp, by simp⟩

/-- the model takes the new token standard of an `issue` from the observed descendant; it therefore accepts an issue of
    the zero token standard with total supply 0 (Go derives the standard from the send hash, never zero). After that, a
    mint of that "token" can be neither applied (a zero-token send must be empty) nor refunded (the method succeeds). -/
def wedgeEvents : List Ev :=
  [ .usend 16 tokenContract zeroTok 0 100 (.issue 0 10 true true),
    .crecv tokenContract 100 1 [⟨16, zeroTok, 0, 101, .none⟩],
    .usend 16 tokenContract zeroTok 0 102 (.mint zeroTok 5 17) ]

def wedgeState : State :=
  { bal := [((16, 0), 0), ((0, 0), 0)],
    sends := [⟨100, 16, 0, 0, 0, .issue 0 10 true true⟩, ⟨101, 0, 16, 0, 0, .none⟩, ⟨102, 16, 0, 0, 0, .mint 0 5 17⟩],
    recv := [(0, 100)],
    toks := [(0, ⟨0, 10, true, true, 16⟩)],
    gate := true }

/-- whichever shape: the send is 102, its mint of 5 succeeds (so no refund) with one descendant of 5 zero tokens (so not funded) -/
theorem wedge_no_outcome (st : Nat) (ds : List Desc) (s' : State) :
    crecv wedgeState tokenContract 102 st ds ≠ .ok s' := by
  intro hok
  have hsnd : checkFrom wedgeState tokenContract 102 = .ok ⟨102, 16, 0, 0, 0, .mint 0 5 17⟩ := rfl
  cases crecv_ok_iff.1 hok with
  | plain nxt snd _ _ hchk _ _ _ htm _ =>
    cases hsnd.symm.trans hchk
    exact absurd (htm rfl _ rfl) (by decide)
  | token nxt snd out _ _ hchk _ _ hm hshape _ hds =>
    cases hsnd.symm.trans hchk
    cases (show tokenMethod _ _ _ = some ⟨_, 0, 5, 0, [(17, 0, 5)]⟩ from rfl).symm.trans hm
    cases ds with
    | nil => cases hshape
    | cons d r =>
      simp only [descShape, List.map_cons, List.cons.injEq, Prod.mk.injEq] at hshape
      have := (applyDescs_cons_ok hds).1 hshape.1.2.1
      omega

end ZV.Ledger
