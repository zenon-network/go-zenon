import Lean.Meta.Tactic.Simp.RegisterCommand
/-
`method_inv`: the rewrite rules that turn "this chain of guards ends in `some r`" into the conjunction of the guards
and the equation for `r` (filled in Lemmas/Contracts.lean, used for the characterisation of each contract method).
-/
register_simp_attr method_inv
