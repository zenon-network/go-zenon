import ZenonVerif.Model.RewardEpoch
import ZenonVerif.Lemmas.Rewards
import ZenonVerif.Lemmas.EpochCursor
/-
Lemmas for Props/C11Epoch.lean: what the credit list of one epoch's computation adds up to, per contract, and the
simulation of the composed machine by the cursor/deposit machine.
-/
namespace ZV.RewardEpoch
open ZV ZV.Rewards ZV.EpochCursor

/-! ### weights -/

theorem epoch_len (c : Cfg) (e : Int) : epochEnd c e - epochStart c e = c.epochSec := by
  unfold epochEnd epochStart
  rw [Int.mul_add]; omega

theorem stakeW_nonneg (c : Cfg) (hdur : c.epochSec < (two63 : Int)) (e : Int) (x : StakeEntry) : 0 ≤ stakeW c e x :=
  weightedStake_nonneg _ _ _ _ _ (Int.natCast_nonneg _) (by rw [epoch_len]; exact hdur)

theorem liqW_nonneg (c : Cfg) (hdur : c.epochSec < (two63 : Int)) (e : Int) (x : LiqEntry) : 0 ≤ liqW c e x :=
  weightedStake_nonneg _ _ _ _ _ (Int.natCast_nonneg _) (by rw [epoch_len]; exact hdur)

theorem sentinelW_nonneg (c : Cfg) (e : Int) (x : SentinelEntry) : 0 ≤ sentinelW c e x := by
  unfold sentinelW
  rcases weightedSentinel_01 x.reg x.revoke (epochStart c e) (epochEnd c e) with h | h <;> rw [h] <;> decide

/-! ### credits -/

theorem isumZ_append (a b : List ICredit) : isumZ (a ++ b) = isumZ a + isumZ b := by
  simp only [isumZ, List.map_append, List.sum_append]
theorem isumQ_append (a b : List ICredit) : isumQ (a ++ b) = isumQ a + isumQ b := by
  simp only [isumQ, List.map_append, List.sum_append]

theorem toCoins_some {z q : Int} {x : Coins} (h : toCoins z q = some x) : (x.znn : Int) = z ∧ (x.qsr : Int) = q := by
  unfold toCoins at h
  split at h
  · rename_i hz
    cases h
    exact ⟨Int.toNat_of_nonneg hz.1, Int.toNat_of_nonneg hz.2⟩
  · cases h

theorem toCredits_sums (l : List ICredit) (cs : List Credit) (h : toCredits l = some cs) :
    (sumZ cs : Int) = isumZ l ∧ (sumQ cs : Int) = isumQ l := by
  fun_induction toCredits l generalizing cs with
  | case1 => cases h; exact ⟨rfl, rfl⟩
  | case2 a z q r x rs h2 h1 ih =>
    cases h
    obtain ⟨i1, i2⟩ := ih rs h2
    obtain ⟨x1, x2⟩ := toCoins_some h1
    simp only [sumZ, sumQ, isumZ, isumQ, List.map_cons, List.sum_cons, Int.natCast_add] at *
    omega
  | case3 => cases h

theorem toCredits_addrs : ∀ (l : List ICredit) (cs : List Credit), toCredits l = some cs →
    cs.map (·.1) = l.map (·.1) := by
  intro l
  fun_induction toCredits l with
  | case1 => intro cs h; cases h; rfl
  | case2 a z q r x rs h2 _ ih => intro cs h; cases h; rw [List.map_cons, ih rs h2]; rfl
  | case3 => intro cs h; cases h

/-! ### stake, sentinel: the cumulated weight is the sum of the very weights that are given a share -/

theorem stake_sum (c : Cfg) (hdur : c.epochSec < (two63 : Int)) (es : List StakeEntry) (e : Nat) (T : Int) (hT : 0 ≤ T)
    (hTe : stakeQsrRewardPerEpoch e = some T) (ic : List ICredit) (h : stakeCredits c es e = some ic) :
    isumZ ic = 0 ∧ isumQ ic ≤ T := by
  unfold stakeCredits at h
  simp only [hTe] at h
  have hw := fun x (_ : x ∈ es) => stakeW_nonneg c hdur e x
  have hs := sum_map_nonneg _ es hw
  split at h <;> cases h
  · exact ⟨rfl, hT⟩
  · simp only [isumZ, isumQ, List.map_map, Function.comp_def]
    exact ⟨sum_map_zero es, sum_share_le T _ hT (by omega) _ es hw (Int.le_refl _)⟩

theorem sentinel_sum (c : Cfg) (es : List SentinelEntry) (e : Nat) (Tz Tq : Int) (hz : 0 ≤ Tz) (hq : 0 ≤ Tq)
    (hTe : sentinelRewardForEpoch e = some (Tz, Tq)) (ic : List ICredit) (h : sentinelCredits c es e = some ic) :
    isumZ ic ≤ Tz ∧ isumQ ic ≤ Tq := by
  unfold sentinelCredits at h
  simp only [hTe] at h
  have hs := sum_map_nonneg _ es (fun x _ => sentinelW_nonneg c e x)
  split at h <;> cases h
  · exact ⟨hz, hq⟩
  · have hle := sum_filter_le (sentinelW c e) (fun x => sentinelW c e x ≠ 0) (sentinelW_nonneg c e) es
    simp only [isumZ, isumQ, List.map_map, Function.comp_def]
    exact ⟨sum_share_le Tz _ hz (by omega) _ _ (fun x _ => sentinelW_nonneg c e x) hle,
      sum_share_le Tq _ hq (by omega) _ _ (fun x _ => sentinelW_nonneg c e x) hle⟩

/-! ### association lists (Go maps) -/

/-- `pillarReward[pillar.Name]` with `!ok → continue`, over any map `m`: what the found items sum to -/
theorem filterMap_lookup_sum {α β γ : Type} (key : α → String) (m : List (String × β)) (R : β → γ) (F : γ → Int) :
    ∀ l : List α, ((l.filterMap (fun i => (m.lookup (key i)).map (fun s => (i, R s)))).map (fun x => F x.2)).sum =
      (l.map (fun i => ((m.lookup (key i)).map (fun s => F (R s))).getD 0)).sum
  | [] => rfl
  | i :: l => by
    have ih := filterMap_lookup_sum key m R F l
    rw [List.filterMap_cons, List.map_cons, List.sum_cons]
    cases m.lookup (key i) with
    | none => simp only [Option.map_none, Option.getD_none]; rw [ih]; omega
    | some s => simp only [Option.map_some, Option.getD_some, List.map_cons, List.sum_cons]; rw [ih]

theorem filterMap_lookup_mem {α β γ : Type} (key : α → String) (m : List (String × β)) (R : β → γ) (l : List α)
    (x : α × γ) (hx : x ∈ l.filterMap (fun i => (m.lookup (key i)).map (fun s => (i, R s)))) :
    ∃ s, (key x.1, s) ∈ m ∧ x.2 = R s := by
  obtain ⟨i, _, hi⟩ := List.mem_filterMap.mp hx
  obtain ⟨s, hl, rfl⟩ := Option.map_eq_some_iff.mp hi
  exact ⟨s, mem_of_lookup _ _ _ hl, rfl⟩

/-! ### pillar -/

/-- what the pillar reward bound needs from the consensus input of one epoch (named premises; see Props/C11Epoch for
    which of them are theorems elsewhere) -/
structure ConsOK (mpe : Int) (st : EpochStats) (dl : Delegs) : Prop where
  /-- a pillar produced at most the momentums expected of it (C05: a momentum is accepted only from the slot's producer) -/
  produced_le_expected : ∀ x ∈ st.pillars, x.2.produced ≤ x.2.expected
  weight_nonneg : ∀ x ∈ st.pillars, 0 ≤ x.2.weight
  /-- TotalWeight is (at least) the sum of the pillar weights (C11Points.epoch_point_total: equal) -/
  weights_le_total : (st.pillars.map (fun x => x.2.weight)).sum ≤ st.totalWeight
  /-- an epoch expects at most MomentumsPerEpoch momentums -/
  expected_le_slots : (((st.pillars.map (fun x => x.2.expected)).sum : Nat) : Int) ≤ mpe
  /-- `GetPillarDelegationsByEpoch` returns a Go map keyed by pillar name -/
  deleg_keys : (dl.map (fun x => x.1)).Nodup

theorem ConsOK.totalWeight_nonneg {mpe : Int} {st : EpochStats} {dl : Delegs} (hc : ConsOK mpe st dl) : 0 ≤ st.totalWeight :=
  Int.le_trans (sum_map_nonneg _ st.pillars hc.weight_nonneg) hc.weights_le_total

/-- the premises as `C11.pillar_epoch_bound` wants them, about the list of statistics without the names -/
theorem ConsOK.stats {mpe : Int} {st : EpochStats} {dl : Delegs} (hc : ConsOK mpe st dl) :
    (∀ s ∈ st.pillars.map (·.2), s.produced ≤ s.expected) ∧ (∀ s ∈ st.pillars.map (·.2), 0 ≤ s.weight) ∧
    ((st.pillars.map (·.2)).map (·.weight)).sum ≤ st.totalWeight ∧ 0 ≤ st.totalWeight ∧
    ((((st.pillars.map (·.2)).map (·.expected)).sum : Nat) : Int) ≤ mpe := by
  simp only [List.map_map, Function.comp_def, List.forall_mem_map]
  exact ⟨hc.produced_le_expected, hc.weight_nonneg, hc.weights_le_total, hc.totalWeight_nonneg, hc.expected_le_slots⟩

theorem toGiveOf_nonneg (i : PillarInfo) (r : PillarReward) (hb : 0 ≤ r.block) (hd : 0 ≤ r.delegation) : 0 ≤ toGiveOf i r :=
  Int.tdiv_nonneg (Int.add_nonneg (Int.mul_nonneg (Int.natCast_nonneg _) hb)
    (Int.mul_nonneg (Int.natCast_nonneg _) hd)) (by decide)

theorem backerCredits_sum (infos : List PillarInfo) (name : String) (tb : Int) (htb : 0 ≤ tb) (bs : List (Addr × Nat)) :
    isumZ (backerCredits infos name tb bs) ≤ tb ∧ isumQ (backerCredits infos name tb bs) = 0 := by
  unfold backerCredits
  simp only
  have hw := fun (b : Addr × Nat) (_ : b ∈ bs) => Int.natCast_nonneg b.2
  have hs := sum_map_nonneg _ bs hw
  split
  · split
    · exact ⟨Int.le_of_eq (Int.add_zero tb), rfl⟩
    · exact ⟨htb, rfl⟩
  · simp only [isumZ, isumQ, List.map_map, Function.comp_def]
    exact ⟨sum_share_le tb _ htb (by omega) _ bs hw (Int.le_refl _), sum_map_zero bs⟩

theorem delegCredits_sum (infos : List PillarInfo) (toGive : List (String × Int)) (hpos : ∀ kv ∈ toGive, 0 ≤ kv.2)
    (dl : Delegs) (back : List ICredit) (h : delegCredits infos toGive dl = some back) :
    isumZ back ≤ (dl.map (fun x => (toGive.lookup x.1).getD 0)).sum ∧ isumQ back = 0 := by
  fun_induction delegCredits infos toGive dl generalizing back with
  | case1 => cases h; exact ⟨Int.le_refl 0, rfl⟩
  | case2 name bs rest tb more h2 h1 ih =>
    cases h
    obtain ⟨i1, i2⟩ := ih more h2
    obtain ⟨b1, b2⟩ := backerCredits_sum infos name tb (hpos _ (mem_of_lookup toGive name tb h1)) bs
    rw [isumZ_append, isumQ_append]
    simp only [List.map_cons, List.sum_cons, h1, Option.getD_some]
    omega
  | case3 => cases h

/-- the pillar credits of one epoch add up to at most the raw rewards `TotalReward` of the epoch's pillars: a pillar
    keeps `TotalReward - toGive`, the backers of distinct delegation records get at most the `toGive` of distinct found
    pillars, and distinct registered names find distinct pillars of the statistics -/
theorem pillar_sum_le_totals (mpe d p : Int) (hd : 0 ≤ d) (hp : 0 ≤ p) (infos : List PillarInfo)
    (hinf : (infos.map (fun i => i.name)).Nodup) (st : EpochStats) (dl : Delegs) (hc : ConsOK mpe st dl) (e : Nat)
    (hdp : pillarPerMomentum mpe e = some (d, p)) (ic : List ICredit) (h : pillarCredits mpe infos st dl e = some ic) :
    isumQ ic = 0 ∧
    isumZ ic ≤ ((st.pillars.map (·.2)).map (fun s => (pillarRewardForEpoch d p st.totalWeight (st.pillars.map (·.2)) s).total)).sum := by
  have hS : ∀ q ∈ st.pillars, 0 ≤ (pillarRewardForEpoch d p st.totalWeight (st.pillars.map (·.2)) q.2).block ∧
      0 ≤ (pillarRewardForEpoch d p st.totalWeight (st.pillars.map (·.2)) q.2).delegation ∧
      0 ≤ (pillarRewardForEpoch d p st.totalWeight (st.pillars.map (·.2)) q.2).total := by
    intro q hq
    have h := pillarRewardWith_spec d p st.totalWeight (totalExpected (st.pillars.map (·.2))) q.2 hd hp hc.totalWeight_nonneg
      (Int.natCast_nonneg _) (hc.weight_nonneg q hq) (hc.produced_le_expected q hq)
    unfold pillarRewardForEpoch
    exact ⟨h.block_nonneg, h.deleg_nonneg, h.total_eq ▸ Int.add_nonneg h.block_nonneg h.deleg_nonneg⟩
  unfold pillarCredits foundPillars at h
  simp only [hdp] at h
  generalize pillarRewardForEpoch d p st.totalWeight (st.pillars.map (·.2)) = R at h hS ⊢
  -- the found totals against all totals
  have ftot := Int.le_trans (Int.le_of_eq (filterMap_lookup_sum PillarInfo.name st.pillars R PillarReward.total infos))
    (lookup_sum_le PillarInfo.name (fun s => (R s).total) st.pillars (fun q hq => (hS q hq).2.2) infos hinf)
  have hpos : ∀ kv ∈ (infos.filterMap (fun i => (st.pillars.lookup i.name).map (fun s => (i, R s)))).map
      (fun x => (x.1.name, toGiveOf x.1 x.2)), 0 ≤ kv.2 := by
    refine List.forall_mem_map.mpr fun x hx => ?_
    obtain ⟨s, hs, hxe⟩ := filterMap_lookup_mem PillarInfo.name st.pillars R infos x hx
    rw [hxe]
    exact toGiveOf_nonneg _ _ (hS _ hs).1 (hS _ hs).2.1
  generalize infos.filterMap (fun i => (st.pillars.lookup i.name).map (fun s => (i, R s))) = found at h ftot hpos
  split at h
  · cases h
  split at h
  · cases h
  rename_i back hb
  cases h
  -- the backers' part against what the found pillars give
  obtain ⟨b1, b2⟩ := delegCredits_sum infos _ hpos dl back hb
  have b3 := lookup_sum_le (fun x : String × List (Addr × Nat) => x.1) (fun v => v) _ hpos dl hc.deleg_keys
  simp only [Option.map_id', List.map_map, Function.comp_def] at b3
  have own := sum_map_add (fun x : PillarInfo × PillarReward => x.2.total - toGiveOf x.1 x.2) (fun x => toGiveOf x.1 x.2) found
  simp only [Int.sub_add_cancel] at own
  rw [isumZ_append, isumQ_append, b2]
  simp only [isumZ, isumQ, List.map_map, Function.comp_def, sum_map_zero] at b1 ⊢
  exact ⟨rfl, by omega⟩

/-! ### liquidity -/

theorem liqBurn_le (st : LiqState) : (liqBurn st).1 ≤ st.balZnn ∧ (liqBurn st).2 ≤ st.balQsr := by
  unfold liqBurn
  split
  · rename_i h; exact h
  · exact ⟨Nat.zero_le _, Nat.zero_le _⟩

/-- the guard of `computeLiquidityStakeRewardsForEpoch` (`totalFunds > totalAmount → ErrInvalidRewards`) makes the
    epoch's accounts exact: credits + remainder minted to the contract = emission + what was burned from its balance;
    what is burned is covered by the balance -/
theorem liq_stake_sum (c : Cfg) (st : LiqState) (e : Nat) (Tz0 Tq0 : Int)
    (hT : liquidityRewardForEpoch e = some (Tz0, Tq0)) (hz : 0 ≤ Tz0) (hq : 0 ≤ Tq0) (o : LiqOut)
    (h : liqStakeOut c st e = some o) :
    isumZ o.credits + o.mintZ = Tz0 + (o.burnZ : Int) ∧ isumQ o.credits + o.mintQ = Tq0 + (o.burnQ : Int) ∧
    0 ≤ o.mintZ ∧ 0 ≤ o.mintQ ∧ o.burnZ ≤ st.balZnn ∧ o.burnQ ≤ st.balQsr := by
  unfold liqStakeOut at h
  simp only [hT] at h
  split at h
  · cases h
    refine ⟨?_, ?_, hz, hq, Nat.zero_le _, Nat.zero_le _⟩ <;> simp [isumZ, isumQ]
  · unfold liqSplit at h
    simp only at h
    split at h
    · cases h
    · rename_i hg
      obtain ⟨g1, g2⟩ := not_or.mp hg
      cases h
      have := liqBurn_le st
      simp only
      omega

/-! ### the composed machine -/

/-- everything minted to `a` along a trace of the composed machine -/
def mintedTo (a : Addr) : List ROut → Coins
  | [] => Coins.zero
  | .minted ms :: os => paid ms a + mintedTo a os
  | .rewarded _ :: os => mintedTo a os
  | .refused :: os => mintedTo a os
  | .mutated :: os => mintedTo a os

/-- what a successful `compute…ForEpoch` call was computed from: the contract's big.Int credit list `ic`, which adds up
    to what is credited, the mint and burn requests, and the registered pillars are left alone -/
theorem updateEpoch_some {k : Kind} {rc : RCfg} {cons : Cons} {st : Store} {e : Nat} {o : EpochOut}
    (h : updateEpoch k rc cons st e = some o) :
    o.store.pillars = st.pillars ∧ ∃ ic, (sumZ o.credits : Int) = isumZ ic ∧ (sumQ o.credits : Int) = isumQ ic ∧
      match k with
      | .stake => stakeCredits rc.c st.stakes e = some ic ∧ o.mint = (0, 0) ∧ o.burn = (0, 0)
      | .sentinel => sentinelCredits rc.c st.sentinels e = some ic ∧ o.mint = (0, 0) ∧ o.burn = (0, 0)
      | .pillar => pillarCredits rc.mpe st.pillars (cons.stats e) (cons.delegs e) e = some ic ∧
          o.mint = (0, 0) ∧ o.burn = (0, 0)
      | .liqOrigin => ∃ lo, liqOriginOut st.liq e = some lo ∧ lo.credits = ic ∧
          o.mint = (lo.mintZ, lo.mintQ) ∧ o.burn = (lo.burnZ, lo.burnQ)
      | .liqStake => ∃ lo, liqStakeOut rc.c st.liq e = some lo ∧ lo.credits = ic ∧
          o.mint = (lo.mintZ, lo.mintQ) ∧ o.burn = (lo.burnZ, lo.burnQ) := by
  cases k <;> simp only [updateEpoch] at h ⊢ <;> split at h <;> try cases h
  all_goals
    rename_i x hx
    obtain ⟨cs, hcs, rfl⟩ := Option.map_eq_some_iff.mp h
    obtain ⟨t1, t2⟩ := toCredits_sums _ cs hcs
  · exact ⟨rfl, x, t1, t2, hx, rfl, rfl⟩
  · exact ⟨rfl, x, t1, t2, hx, rfl, rfl⟩
  · exact ⟨rfl, x, t1, t2, hx, rfl, rfl⟩
  · exact ⟨rfl, x.credits, t1, t2, x, hx, rfl, rfl, rfl⟩
  · exact ⟨rfl, x.credits, t1, t2, x, hx, rfl, rfl, rfl⟩

theorem update_some {k : Kind} {rc : RCfg} {cons : Cons} {s s' : RState} {h : Nat} {ts : Int} {outs : List (Int × EpochOut)}
    (hu : update k rc cons s h ts = some (s', outs)) :
    ∃ cs' es, EpochCursor.update rc.c (variantOf k) s.cs h ts = some (cs', es) ∧
      rewardAll k rc cons s.store es = some (s'.store, outs) ∧ s'.cs = creditAll cs' (creditsOf outs) := by
  revert hu
  fun_cases update k rc cons s h ts with
  | case1 => nofun
  | case2 => nofun
  | case3 cs' es h1 st' outs' h2 => intro hu; cases hu; exact ⟨cs', es, h1, h2, rfl⟩

theorem run_cons (k : Kind) (rc : RCfg) (cons : Cons) (s : RState) (o : ROp) (os : List ROp) :
    run k rc cons s (o :: os) =
      ((run k rc cons (step k rc cons s o).1 os).1, (step k rc cons s o).2 :: (run k rc cons (step k rc cons s o).1 os).2) := rfl

theorem epochOuts_cons (x : ROut) (os : List ROut) : epochOuts (x :: os) = epochOuts [x] ++ epochOuts os := by
  cases x <;> simp [epochOuts]

section invariant
/- `I` is an invariant of the storage that every `compute…ForEpoch` preserves (for C11: the registered pillars); if every
   `mutate` establishes it, every reward computation of a run starts from a storage satisfying it. -/
variable (k : Kind) (rc : RCfg) (cons : Cons) (I : Store → Prop)
  (hI : ∀ st e o, I st → updateEpoch k rc cons st e = some o → I o.store)
include hI

theorem rewardAll_spec (es : List Int) (st st' : Store) (outs : List (Int × EpochOut))
    (h : rewardAll k rc cons st es = some (st', outs)) (hi : I st) :
    outs.map (·.1) = es ∧ I st' ∧ ∀ x ∈ outs, ∃ s : Store, I s ∧ updateEpoch k rc cons s x.1.toNat = some x.2 := by
  fun_induction rewardAll k rc cons st es generalizing st' outs with
  | case1 st => cases h; exact ⟨rfl, hi, List.forall_mem_nil _⟩
  | case2 => cases h
  | case3 => cases h
  | case4 st e es o hu st2 rest hr ih =>
    cases h
    obtain ⟨i1, i2, i3⟩ := ih _ _ hr (hI st _ o hi hu)
    exact ⟨by rw [List.map_cons, i1], i2, List.forall_mem_cons.mpr ⟨⟨st, hi, hu⟩, i3⟩⟩

theorem step_computed (s : RState) (o : ROp) (hs : I s.store)
    (ho : ∀ st, o = .mutate st → I st) :
    I (step k rc cons s o).1.store ∧
      ∀ x ∈ epochOuts [(step k rc cons s o).2], ∃ st0, I st0 ∧ updateEpoch k rc cons st0 x.1.toNat = some x.2 := by
  have hnil : ∀ x ∈ ([] : List (Int × EpochOut)), ∃ st0, I st0 ∧ updateEpoch k rc cons st0 x.1.toNat = some x.2 :=
    List.forall_mem_nil _
  fun_cases step k rc cons s o with
  | case1 h ts s' outs hu =>
    obtain ⟨_, es, _, h2, _⟩ := update_some hu
    obtain ⟨_, r2, r3⟩ := rewardAll_spec k rc cons I hI es _ _ _ h2 hs
    exact ⟨r2, by rwa [epochOuts, epochOuts, List.append_nil]⟩
  | case2 => exact ⟨hs, hnil⟩
  | case3 => exact ⟨hs, hnil⟩
  | case4 => exact ⟨hs, hnil⟩
  | case5 st => exact ⟨ho st rfl, hnil⟩

theorem run_computed :
    ∀ (ops : List ROp) (s : RState), I s.store → (∀ st, ROp.mutate st ∈ ops → I st) →
      ∀ x ∈ epochOuts (run k rc cons s ops).2, ∃ st0, I st0 ∧ updateEpoch k rc cons st0 x.1.toNat = some x.2
  | [], _, _, _ => List.forall_mem_nil _
  | o :: os, s, hs, hm => by
    obtain ⟨h1, h2⟩ := step_computed k rc cons I hI s o hs (fun st h => hm st (h ▸ List.mem_cons_self))
    intro x hx
    rw [run_cons, epochOuts_cons] at hx
    rcases List.mem_append.mp hx with hx | hx
    · exact h2 x hx
    · exact run_computed os _ h1 (fun st h => hm st (List.mem_cons_of_mem _ h)) x hx

end invariant

/-- the `addReward` calls of one Update, run on the cursor/deposit machine: they only move the deposits -/
theorem run_credits (c : Cfg) (v : Variant) : ∀ (cs : List Credit) (s : CState) (rest : List Op),
    (EpochCursor.run c v s (cs.map (fun x => Op.credit x.1 x.2) ++ rest)).1 = (EpochCursor.run c v (creditAll s cs) rest).1 ∧
    rewardedOf (EpochCursor.run c v s (cs.map (fun x => Op.credit x.1 x.2) ++ rest)).2 =
      rewardedOf (EpochCursor.run c v (creditAll s cs) rest).2 ∧
    (∀ a, mintedOf a (EpochCursor.run c v s (cs.map (fun x => Op.credit x.1 x.2) ++ rest)).2 =
      mintedOf a (EpochCursor.run c v (creditAll s cs) rest).2) ∧
    (∀ a, creditedOf a (cs.map (fun x => Op.credit x.1 x.2) ++ rest) = creditedTo a cs + creditedOf a rest)
  | [], s, rest => ⟨rfl, rfl, fun _ => rfl, fun _ => (Coins.zero_add' _).symm⟩
  | x :: cs, s, rest => by
    obtain ⟨i1, i2, i3, i4⟩ := run_credits c v cs (credit s x.1 x.2) rest
    refine ⟨i1, i2, i3, fun a => ?_⟩
    simp only [List.map_cons, List.cons_append, creditedOf, creditedTo, List.foldr_cons, i4 a, Coins.add_assoc']

theorem creditedTo_append (a : Addr) (xs ys : List Credit) : creditedTo a (xs ++ ys) = creditedTo a xs + creditedTo a ys := by
  induction xs with
  | nil => simp [creditedTo, Coins.zero_add']
  | cons x xs ih =>
    simp only [List.cons_append, creditedTo, List.foldr_cons] at ih ⊢
    rw [ih, Coins.add_assoc']

/-- SIMULATION: a history of the composed machine is a history of the cursor/deposit machine of Model/EpochCursor.lean
    (`lower`): same cursor, deposits and last-update height at the end, same rewarded epochs, same mints, and the `credit`
    calls of the lower history are exactly the `addReward` calls the reward computations made -/
theorem lower_run (k : Kind) (rc : RCfg) (cons : Cons) : ∀ (ops : List ROp) (s : RState),
    (EpochCursor.run rc.c (variantOf k) s.cs (lower k rc cons s ops)).1 = (run k rc cons s ops).1.cs ∧
    rewardedOf (EpochCursor.run rc.c (variantOf k) s.cs (lower k rc cons s ops)).2 = rewardedEpochs (run k rc cons s ops).2 ∧
    (∀ a, mintedOf a (EpochCursor.run rc.c (variantOf k) s.cs (lower k rc cons s ops)).2 = mintedTo a (run k rc cons s ops).2) ∧
    (∀ a, creditedOf a (lower k rc cons s ops) = creditedTo a (allCredits (run k rc cons s ops).2))
  | [], s => ⟨rfl, rfl, fun _ => rfl, fun _ => rfl⟩
  | .update h ts :: os, s => by
    cases hu : update k rc cons s h ts with
    | none =>
      obtain ⟨i1, i2, i3, i4⟩ := lower_run k rc cons os s
      simp only [lower, run, step, hu]
      exact ⟨i1, i2, i3, i4⟩
    | some r =>
      obtain ⟨s', outs⟩ := r
      obtain ⟨cs', es, h1, h2, h3⟩ := update_some hu
      -- only "the outcomes are those of the epochs named" is needed here: no invariant
      obtain ⟨r1, _, _⟩ := rewardAll_spec k rc cons (fun _ => True) (fun _ _ _ _ _ => trivial) es _ _ outs h2 trivial
      obtain ⟨i1, i2, i3, i4⟩ := lower_run k rc cons os s'
      simp only [lower, run, step, hu]
      simp only [EpochCursor.run, EpochCursor.step, h1]
      obtain ⟨b1, b2, b3, b4⟩ := run_credits rc.c (variantOf k) (creditsOf outs) cs' (lower k rc cons s' os)
      rw [← h3] at b1 b2 b3
      refine ⟨b1.trans i1, ?_, fun a => ?_, fun a => ?_⟩
      · simp only [rewardedOf, b2, i2, rewardedEpochs, epochOuts, List.map_append, r1]
      · simp only [mintedOf, b3 a, i3 a, mintedTo]
      · simp only [creditedOf, b4 a, i4 a]
        simp only [allCredits, epochOuts, creditsOf, List.flatMap_append, creditedTo_append]
  | .collect a :: os, s => by
    obtain ⟨i1, i2, i3, i4⟩ := lower_run k rc cons os (step k rc cons s (.collect a)).1
    simp only [lower, run, EpochCursor.run, EpochCursor.step]
    cases hc : collect s.cs a with
    | none =>
      simp only [step, hc] at i1 i2 i3 i4 ⊢
      exact ⟨i1, i2, i3, i4⟩
    | some r =>
      simp only [step, hc] at i1 i2 i3 i4 ⊢
      exact ⟨i1, i2, fun b => by simp only [mintedOf, mintedTo, i3 b], i4⟩
  | .mutate st :: os, s => by
    obtain ⟨i1, i2, i3, i4⟩ := lower_run k rc cons os { s with store := st }
    simp only [lower, run, step]
    exact ⟨i1, i2, i3, i4⟩

end ZV.RewardEpoch
